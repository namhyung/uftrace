import Uft.Model.Json
/- Helper lemmas for C15 (escaping, the two fixed buffers, the JSON automaton). -/
namespace Uft.Json

/-! ## string bodies -/

theorem bodyRun_append (m : SMode) (a b : List Nat) :
    bodyRun m (a ++ b) = (bodyRun m a).bind (fun m' => bodyRun m' b) := by
  induction a generalizing m with
  | nil => simp [bodyRun]
  | cons c cs ih =>
    simp only [List.cons_append, bodyRun]
    cases h : strStep m c with
    | none => simp
    | some r => cases r with
      | close => simp
      | cont m' => simp [ih]

theorem bodyRun_trans {m m1 m2 : SMode} {a b : List Nat}
    (h1 : bodyRun m a = some m1) (h2 : bodyRun m1 b = some m2) : bodyRun m (a ++ b) = some m2 := by
  rw [bodyRun_append, h1]; simpa using h2

/-- a byte that is copied as it is -/
def plain (c : Nat) : Prop := 32 ≤ c ∧ c ≤ 126 ∧ c ≠ 34 ∧ c ≠ 92

theorem strStep_plain {c : Nat} (h : plain c) : strStep .normal c = some (.cont .normal) := by
  obtain ⟨h1, h2, h3, h4⟩ := h
  simp only [strStep, h3, h4, ↓reduceIte]
  have : ¬(c < 32 ∨ 127 < c) := by omega
  simp [this]

theorem bodyRun_plain {l : List Nat} (h : ∀ c ∈ l, plain c) : bodyRun .normal l = some .normal := by
  induction l with
  | nil => rfl
  | cons c cs ih =>
    simp only [bodyRun, strStep_plain (h c (by simp))]
    exact ih (fun x hx => h x (by simp [hx]))

theorem hexDigit_plain {n : Nat} (h : n < 16) : plain (hexDigit n) := by
  unfold plain hexDigit; split <;> omega

/-- the six shapes of an escape -/
theorem escapeChar_cases (c : Nat) {P : List Nat → Prop} (hn : P [92, 92, 110]) (ht : P [92, 92, 116])
    (hb : P [92, 92]) (hq : P [92, 34]) (hp : plain c → P [c])
    (hx : ∀ a b, a < 16 → b < 16 → P [92, 92, 120, hexDigit a, hexDigit b]) : P (escapeChar c) := by
  unfold escapeChar
  -- branch by branch with `if_pos` / `if_neg`: `split` on the nested conditionals costs ten times as much
  by_cases h1 : c = 10
  · rwa [if_pos h1]
  rw [if_neg h1]
  by_cases h2 : c = 9
  · rwa [if_pos h2]
  rw [if_neg h2]
  by_cases h3 : c = 92
  · rwa [if_pos h3]
  rw [if_neg h3]
  by_cases h4 : c = 34
  · rwa [if_pos h4]
  rw [if_neg h4]
  by_cases h5 : isPrint c = true
  · rw [if_pos h5]
    simp only [isPrint, Bool.and_eq_true, decide_eq_true_eq] at h5
    exact hp ⟨h5.1, h5.2, h4, h3⟩
  · rw [if_neg h5]
    exact hx _ _ (Nat.mod_lt _ (by decide)) (Nat.mod_lt _ (by decide))

theorem escapeChar_body (c : Nat) : bodyRun .normal (escapeChar c) = some .normal := by
  refine escapeChar_cases c (P := fun l => bodyRun .normal l = some .normal)
    (by decide) (by decide) (by decide) (by decide) ?_ ?_
  · intro h
    exact bodyRun_plain (by simpa using h)
  · intro a b ha hb
    exact bodyRun_trans (a := [92, 92, 120]) (by decide)
      (bodyRun_plain (l := [hexDigit a, hexDigit b]) (by simpa using ⟨hexDigit_plain ha, hexDigit_plain hb⟩))

theorem escapeStr_body (bs : List Nat) : bodyRun .normal (escapeStr bs) = some .normal := by
  induction bs with
  | nil => rfl
  | cons c cs ih =>
    simp only [escapeStr, List.flatMap_cons] at *
    exact bodyRun_trans (escapeChar_body c) ih

theorem escapeStr_append (a b : List Nat) : escapeStr (a ++ b) = escapeStr a ++ escapeStr b := by
  simp [escapeStr]

theorem escCmdline_body : ∀ bs : List Nat, bodyRun .normal (escCmdline bs) = some .normal
  | [] => rfl
  | [c] => escapeChar_body c
  | c :: d :: r => by
    unfold escCmdline
    split
    · have e1 : strStep .normal 92 = some (.cont .esc) := by decide
      have e2 : strStep .esc 34 = some (.cont .normal) := by decide
      simp only [bodyRun, e1, e2]
      exact escCmdline_body r
    · exact bodyRun_trans (escapeChar_body c) (escCmdline_body (d :: r))

theorem escapeChar_length (c : Nat) : 1 ≤ (escapeChar c).length ∧ (escapeChar c).length ≤ 5 :=
  escapeChar_cases c (P := fun l => 1 ≤ l.length ∧ l.length ≤ 5) (by decide) (by decide) (by decide) (by decide)
    (fun _ => by simp) (fun _ _ _ _ => by simp)

theorem escapeChar_viaChar {c : Nat} (h : viaChar c = true) : escapeChar c = [c] := by
  simp only [viaChar, Bool.and_eq_true, bne_iff_ne, ne_eq] at h
  obtain ⟨⟨h1, h2⟩, h3⟩ := h
  have h4 : c ≠ 10 := by
    intro e; subst e; simp [isPrint] at h1
  have h5 : c ≠ 9 := by
    intro e; subst e; simp [isPrint] at h1
  simp [escapeChar, h1, h2, h3, h4, h5]

/-! ## decimal numbers -/

theorem digit_plain (n : Nat) : plain (digit n) := by
  simp only [plain, digit]; omega

theorem digit_isDigit (n : Nat) : isDigit (digit n) = true := by
  have h : 48 + n % 10 ≤ 57 := by omega
  simp [isDigit, digit, h]

/-- induction along the digits of `dec n`: the last digit is appended to the digits of `n / 10` -/
theorem dec_ind {P : Nat → List Nat → Prop} (h1 : ∀ n, n < 10 → P n [digit n])
    (h2 : ∀ n l, 10 ≤ n → P (n / 10) l → P n (l ++ [digit n])) (n : Nat) : P n (dec n) := by
  have : ∀ f n, n < f → P n (decF f n) := by
    intro f
    induction f with
    | zero => intro n h; omega
    | succ f ih =>
      intro n h
      unfold decF
      split
      · exact h1 n ‹_›
      · exact h2 n _ (by omega) (ih (n / 10) (by omega))
  exact this (n + 1) n (Nat.lt_succ_self n)

theorem dec_body (n : Nat) : bodyRun .normal (dec n) = some .normal :=
  dec_ind (P := fun _ l => bodyRun .normal l = some .normal)
    (fun n _ => bodyRun_plain (by simpa using digit_plain n))
    (fun n _ _ ih => bodyRun_trans ih (bodyRun_plain (by simpa using digit_plain n))) n

/-! ## the automaton -/

theorem run_append (s : St) (a b : List Nat) :
    run s (a ++ b) = (run s a).bind (fun s' => run s' b) := by
  induction a generalizing s with
  | nil => simp [run]
  | cons c cs ih =>
    simp only [List.cons_append, run]
    cases step s c with
    | none => simp
    | some s' => simp [ih]

theorem run_trans {s t u : St} {a b : List Nat} (h1 : run s a = some t) (h2 : run t b = some u) :
    run s (a ++ b) = some u := by
  rw [run_append, h1]; simpa using h2

/-- inside a string the automaton follows `bodyRun` and leaves the stack alone -/
theorem run_body {k : Bool} {m m' : SMode} {stk : List Ctx} {bs : List Nat}
    (h : bodyRun m bs = some m') : run ⟨.str k m, stk⟩ bs = some ⟨.str k m', stk⟩ := by
  induction bs generalizing m with
  | nil => simp [bodyRun] at h; subst h; rfl
  | cons c cs ih =>
    simp only [bodyRun] at h
    cases hs : strStep m c with
    | none => simp [hs] at h
    | some r =>
      cases r with
      | close => simp [hs] at h
      | cont m1 =>
        simp only [hs] at h
        simp only [run, step, hs]
        exact ih h

theorem dec_run_val (n : Nat) : ∀ stk : List Ctx,
    run ⟨.val, stk⟩ (dec n) = some ⟨if n = 0 then .zero else .int, stk⟩ := by
  refine dec_ind (P := fun n l => ∀ stk, run ⟨.val, stk⟩ l = some ⟨if n = 0 then .zero else .int, stk⟩) ?_ ?_ n
  · intro n h10 stk
    by_cases h0 : n = 0
    · subst h0; rfl
    · have hd : digit n ≠ 48 := by unfold digit; omega
      have hw : isWs (digit n) = false := by
        simp only [isWs, digit, Bool.or_eq_false_iff, beq_eq_false_iff_ne, ne_eq]; omega
      have h1 : digit n ≠ 34 ∧ digit n ≠ 123 ∧ digit n ≠ 91 ∧ digit n ≠ 45 := by unfold digit; omega
      simp [run, step, startValue, hw, hd, h1, digit_isDigit, h0]
  · intro n l h10 ih stk
    have hne : n / 10 ≠ 0 := by omega
    have hn0 : n ≠ 0 := by omega
    refine run_trans (ih stk) ?_
    simp [hne, hn0, run, step, digit_isDigit]

theorem tsText_run_val (t : Nat) (stk : List Ctx) : run ⟨.val, stk⟩ (tsText t) = some ⟨.frac, stk⟩ := by
  unfold tsText pad3
  refine run_trans (t := ⟨.dot, stk⟩) (run_trans (dec_run_val _ stk) ?_) ?_
  · split <;> rfl
  · simp [run, step, digit_isDigit]

/-! ## the time stamp reads back exactly -/

theorem digitsVal_append (a : List Nat) (d : Nat) :
    digitsVal (a ++ [d]) = digitsVal a * 10 + (d - 48) := by
  simp [digitsVal, List.foldl_append]

theorem allDigits_append (a b : List Nat) : allDigits (a ++ b) = (allDigits a && allDigits b) := by
  simp [allDigits]

theorem allDigits_digit (n : Nat) : allDigits [digit n] = true := by
  have h : 48 + n % 10 ≤ 57 := by omega
  simp [allDigits, digit, h]

/-- `%lu`: the digits read back as the number, for every number -/
theorem dec_val (n : Nat) : digitsVal (dec n) = n ∧ allDigits (dec n) = true ∧ dec n ≠ [] := by
  refine dec_ind (P := fun n l => digitsVal l = n ∧ allDigits l = true ∧ l ≠ []) ?_ ?_ n
  · intro n h10
    refine ⟨?_, allDigits_digit n, by simp⟩
    simp only [digitsVal, List.foldl, digit]; omega
  · intro n l h10 ⟨a, b, _⟩
    refine ⟨?_, ?_, by simp⟩
    · rw [digitsVal_append, a]; simp only [digit]; omega
    · rw [allDigits_append, b, allDigits_digit]; rfl

theorem pad3_val (m : Nat) (h : m < 1000) :
    digitsVal (pad3 m) = m ∧ allDigits (pad3 m) = true ∧ (pad3 m).length = 3 := by
  refine ⟨?_, ?_, rfl⟩
  · simp only [digitsVal, pad3, List.foldl, digit]; omega
  · show allDigits ([digit (m / 100)] ++ [digit (m / 10)] ++ [digit m]) = true
    simp only [allDigits_append, allDigits_digit, Bool.and_self]

/-! ## the two writers on a buffer with room -/

/-- `b` is a C string in a buffer of `total` bytes of which `len` are free: nothing was cut,
    nothing stored outside -/
structure Fits (total : Nat) (b : NB) : Prop where
  term : b.term = false
  oob : b.oob = false
  pos : b.pos = b.out.length
  len : b.len + b.pos = total
  le : total ≤ 2048

theorem Fits.len_append {T : Nat} {b b' : NB} {s : List Nat} (hi : Fits T b) (hi' : Fits T b')
    (ho : b'.out = b.out ++ s) : b'.len + s.length = b.len := by
  have h := hi'.pos
  rw [ho, List.length_append, ← hi.pos] at h
  have := hi.len
  have := hi'.len
  omega

theorem wrapSub_small {a b : Nat} (h : b ≤ a) (ha : a < 4096) : wrapSub a b = a - b := by
  have hW : (4096 : Nat) ≤ W := by decide
  have hb : b % W = b := Nat.mod_eq_of_lt (Nat.lt_of_le_of_lt h (Nat.lt_of_lt_of_le ha hW))
  have hab : (a - b) % W = a - b :=
    Nat.mod_eq_of_lt (Nat.lt_of_le_of_lt (Nat.sub_le a b) (Nat.lt_of_lt_of_le ha hW))
  rw [wrapSub, hb, Nat.add_comm a W, Nat.add_sub_assoc h, Nat.add_mod_left, hab]

theorem printChar_fits {T : Nat} {b : NB} (c : Nat) (hi : Fits T b) (hl : 1 ≤ b.len) :
    Fits T (printChar b c) ∧ (printChar b c).out = b.out ++ [c] := by
  obtain ⟨ht, ho, hp, hlen, hT⟩ := hi
  have hw : wrapSub b.len 1 = b.len - 1 := wrapSub_small hl (by omega)
  have hout : (printChar b c).out = b.out ++ [c] := by
    simp only [printChar, ht, Bool.false_eq_true, ↓reduceIte]
  refine ⟨⟨ht, ?_, ?_, ?_, hT⟩, hout⟩
  · simp only [printChar, ho, cap, Bool.false_or]
    exact decide_eq_false (by omega)
  · rw [hout, List.length_append, ← hp]
    rfl
  · simp only [printChar, hw]
    omega

theorem printArgs_fits {T : Nat} {b : NB} {s : List Nat} (hi : Fits T b) (hl : s.length < b.len) :
    Fits T (printArgs b s) ∧ (printArgs b s).out = b.out ++ s := by
  obtain ⟨ht, ho, hp, hlen, hT⟩ := hi
  have hne : b.len ≠ 0 := by omega
  have hk : min s.length (b.len - 1) = s.length := by omega
  have hw : wrapSub b.len s.length = b.len - s.length := wrapSub_small (by omega) (by omega)
  have hout : (printArgs b s).out = b.out ++ s := by
    simp only [printArgs, hne, ↓reduceIte, ht, hk, Bool.false_eq_true, List.take_length]
  refine ⟨⟨?_, ?_, ?_, ?_, hT⟩, hout⟩
  · simp only [printArgs, hne, ↓reduceIte, ht, hk, Bool.false_or]
    exact decide_eq_false (by omega)
  · simp only [printArgs, hne, ↓reduceIte, ho, hk, cap, Bool.false_or]
    exact decide_eq_false (by omega)
  · rw [hout, List.length_append, ← hp]
    simp only [printArgs, hne, ↓reduceIte]
  · simp only [printArgs, hne, ↓reduceIte, hw]
    omega

/-- a piece that reaches the end of the buffer: `vsnprintf` stores `len - 1` bytes of it and a
    NUL, all inside -/
theorem printArgs_cut {T : Nat} {b : NB} {s : List Nat} (hi : Fits T b) (h0 : b.len ≠ 0)
    (hl : b.len ≤ s.length) :
    (printArgs b s).out = b.out ++ s.take (b.len - 1) ∧ (printArgs b s).oob = false := by
  obtain ⟨ht, ho, hp, hlen, hT⟩ := hi
  have hk : min s.length (b.len - 1) = b.len - 1 := by omega
  constructor
  · simp only [printArgs, h0, ↓reduceIte, ht, hk, Bool.false_eq_true]
  · simp only [printArgs, h0, ↓reduceIte, ho, hk, cap, Bool.false_or]
    exact decide_eq_false (by omega)

theorem printArgs_pos (b : NB) (s : List Nat) : (printArgs b s).pos = b.pos + s.length := by
  unfold printArgs; split <;> rfl

theorem putEsc_pos (b : NB) (c : Nat) : (putEsc b c).pos = b.pos + (escapeChar c).length := by
  unfold putEsc
  split
  · rename_i hv; rw [escapeChar_viaChar hv]; rfl
  · exact printArgs_pos b _

theorem putEsc_fits {T : Nat} {b : NB} (c : Nat) (hi : Fits T b) (hl : (escapeChar c).length < b.len) :
    Fits T (putEsc b c) ∧ (putEsc b c).out = b.out ++ escapeChar c := by
  unfold putEsc
  split
  · rename_i hv
    rw [escapeChar_viaChar hv]
    exact printChar_fits c hi (by omega)
  · exact printArgs_fits hi hl

/-! ## the name buffer -/

theorem nbInit_fits : Fits 2047 nbInit := ⟨rfl, rfl, rfl, rfl, by decide⟩

theorem escapeStr_cons (c : Nat) (cs : List Nat) : escapeStr (c :: cs) = escapeChar c ++ escapeStr cs := by
  simp [escapeStr]

/-- as long as everything fits (with the guard: fits with 5 bytes to spare) the loop
    produces the escaped name -/
theorem nameLoop_fits {T : Nat} (f : Bool) : ∀ (name : List Nat) (b : NB), Fits T b →
    (escapeStr name).length + (if f then 5 else 0) < b.len →
      Fits T (nameLoop f b name) ∧ (nameLoop f b name).out = b.out ++ escapeStr name
  | [], b, hi, _ => by simp [nameLoop, escapeStr, hi]
  | c :: cs, b, hi, hl => by
    have hx := escapeChar_length c
    rw [escapeStr_cons, List.length_append] at hl
    have hg : (f && decide (b.len < 6)) = false := by
      cases f with
      | false => rfl
      | true =>
        simp only [↓reduceIte] at hl
        simp only [Bool.true_and, decide_eq_false_iff_not]
        omega
    have h1 := putEsc_fits c hi (by omega)
    have hl1 := hi.len_append h1.1 h1.2
    have h2 := nameLoop_fits f cs (putEsc b c) h1.1 (by omega)
    simp only [nameLoop, hg, Bool.false_eq_true, ↓reduceIte]
    refine ⟨h2.1, ?_⟩
    rw [h2.2, h1.2, escapeStr_cons, List.append_assoc]

/-- with the guard the loop never leaves the buffer and stops between two escapes -/
theorem nameLoop_fixed {T : Nat} : ∀ (name : List Nat) (b : NB), Fits T b →
    Fits T (nameLoop true b name) ∧ ∃ k, (nameLoop true b name).out = b.out ++ escapeStr (name.take k)
  | [], b, hi => by exact ⟨by simpa [nameLoop] using hi, 0, by simp [nameLoop, escapeStr]⟩
  | c :: cs, b, hi => by
    simp only [nameLoop, Bool.true_and]
    split
    · exact ⟨hi, 0, by simp [escapeStr]⟩
    · rename_i hg
      have hx := escapeChar_length c
      have hg' : 6 ≤ b.len := by simpa using hg
      have h1 := putEsc_fits c hi (by omega)
      obtain ⟨h2, k, hk⟩ := nameLoop_fixed cs (putEsc b c) h1.1
      refine ⟨h2, k + 1, ?_⟩
      rw [hk, h1.2, List.take_succ_cons, escapeStr_cons, List.append_assoc]

/-- `p - name_buf` is the escaped length, whatever happens to the buffer -/
theorem nameLoop_false_pos : ∀ (name : List Nat) (b : NB),
    (nameLoop false b name).pos = b.pos + (escapeStr name).length
  | [], b => by simp [nameLoop, escapeStr]
  | c :: cs, b => by
    simp only [nameLoop, Bool.false_and, Bool.false_eq_true, ↓reduceIte]
    rw [nameLoop_false_pos cs, escapeStr_cons, List.length_append, putEsc_pos]
    omega

theorem nameOut_body (name : List Nat) : bodyRun .normal (escapeName true name).out = some .normal := by
  obtain ⟨_, k, hk⟩ := nameLoop_fixed name nbInit nbInit_fits
  have : (escapeName true name).out = escapeStr (name.take k) := by simpa [escapeName, nbInit] using hk
  rw [this]; exact escapeStr_body _

/-! ## the argument buffer -/

/-- `f` appends `s` to every buffer that has room for it and the NUL -/
def Appends (T : Nat) (f : NB → NB) (s : List Nat) : Prop :=
  ∀ b, Fits T b → s.length < b.len → Fits T (f b) ∧ (f b).out = b.out ++ s

/-- `f` is implicit so that `f b` comes out beta-reduced when `f` is a `fun` -/
theorem Appends.apply {T : Nat} {f : NB → NB} {s : List Nat} (h : Appends T f s) {b : NB} (hi : Fits T b)
    (hl : s.length < b.len) : Fits T (f b) ∧ (f b).out = b.out ++ s :=
  h b hi hl

theorem Appends.id {T : Nat} : Appends T (fun b => b) [] :=
  fun b hi _ => ⟨hi, (List.append_nil b.out).symm⟩

theorem Appends.comp {T : Nat} {f g : NB → NB} {s t : List Nat} (hf : Appends T f s) (hg : Appends T g t) :
    Appends T (fun b => g (f b)) (s ++ t) := by
  intro b hi hl
  rw [List.length_append] at hl
  obtain ⟨h1, o1⟩ := hf.apply hi (by omega)
  have := hi.len_append h1 o1
  obtain ⟨h2, o2⟩ := hg.apply h1 (by omega)
  exact ⟨h2, by rw [o2, o1, List.append_assoc]⟩

theorem Appends.foldl {T : Nat} {α : Type} {f : NB → α → NB} {e : α → List Nat}
    (h : ∀ a, Appends T (fun b => f b a) (e a)) : ∀ l : List α, Appends T (fun b => l.foldl f b) (l.flatMap e)
  | [] => Appends.id
  | a :: l => by
    rw [List.flatMap_cons]
    exact (h a).comp (Appends.foldl h l)

/-- with room the writers do the same with and without the repair -/
theorem pA_appends {T : Nat} (abuf : Bool) (s : List Nat) : Appends T (fun b => pA abuf b s) s := by
  intro b hi hl
  have hg : pA abuf b s = printArgs b s := by
    simp only [pA, decide_eq_false (Nat.not_le.2 hl), Bool.and_false, Bool.false_eq_true, ↓reduceIte]
  show Fits T (pA abuf b s) ∧ (pA abuf b s).out = b.out ++ s
  rw [hg]
  exact printArgs_fits hi hl

theorem pC_appends {T : Nat} (abuf : Bool) (c : Nat) : Appends T (fun b => pC abuf b c) [c] := by
  intro b hi hl
  have hl' : ¬ b.len < 2 := Nat.not_lt.2 hl
  have hg : pC abuf b c = printChar b c := by
    simp only [pC, decide_eq_false hl', Bool.and_false, Bool.false_eq_true, ↓reduceIte]
  show Fits T (pC abuf b c) ∧ (pC abuf b c).out = b.out ++ [c]
  rw [hg]
  exact printChar_fits c hi (Nat.le_of_lt hl)

theorem pE_appends {T : Nat} (abuf : Bool) (c : Nat) : Appends T (fun b => pE abuf b c) (escapeChar c) := by
  unfold pE
  split
  · rename_i hv
    rw [escapeChar_viaChar hv]
    exact pC_appends abuf c
  · exact pA_appends abuf _

theorem foldl_pE_appends {T : Nat} (abuf : Bool) (l : List Nat) :
    Appends T (fun b => l.foldl (pE abuf) b) (escapeStr l) :=
  Appends.foldl (pE_appends abuf) l

/-- invariant of `spec_buf` under the repaired `print_args` / `print_char`.  `ok` stands for
    "every piece printed so far was a string body": with `ok := False` the invariant is pure
    buffer safety (for arbitrary pieces), with `ok := True` it also gives the JSON validity. -/
structure SBInv (ok : Prop) (b : NB) : Prop where
  fits : Fits 2048 b
  room : 1 ≤ b.len
  body : ok → bodyRun .normal b.out = some .normal

theorem sbInit_fits : Fits 2048 sbInit := ⟨rfl, rfl, rfl, rfl, by decide⟩

theorem sbInit_inv (ok : Prop) : SBInv ok sbInit := ⟨sbInit_fits, by decide, fun _ => rfl⟩

/-- a piece that fits leaves room for the NUL; the content stays a string body if the piece is one -/
theorem SBInv.append {ok : Prop} {b : NB} {f : NB → NB} {s : List Nat} (hi : SBInv ok b) (hf : Appends 2048 f s)
    (hs : ok → bodyRun .normal s = some .normal) (hl : s.length < b.len) : SBInv ok (f b) := by
  obtain ⟨h1, o1⟩ := hf.apply hi.fits hl
  have := hi.fits.len_append h1 o1
  refine ⟨h1, by omega, fun hk => ?_⟩
  rw [o1]
  exact bodyRun_trans (hi.body hk) (hs hk)

/-- a piece that does not fit is dropped -/
theorem pA_inv {ok : Prop} {b : NB} {s : List Nat} (hi : SBInv ok b)
    (hs : ok → bodyRun .normal s = some .normal) : SBInv ok (pA true b s) := by
  by_cases hl : s.length < b.len
  · exact hi.append (pA_appends true s) hs hl
  · have : pA true b s = b := by simp [pA, Nat.not_lt.1 hl]
    rw [this]
    exact hi

theorem viaChar_plain {c : Nat} (h : viaChar c = true) : plain c := by
  simp only [viaChar, isPrint, Bool.and_eq_true, decide_eq_true_eq, bne_iff_ne, ne_eq] at h
  exact ⟨h.1.1.1, h.1.1.2, h.2, h.1.2⟩

theorem pC_inv {ok : Prop} {b : NB} {c : Nat} (hi : SBInv ok b) (hc : plain c) : SBInv ok (pC true b c) := by
  by_cases hl : 1 < b.len
  · exact hi.append (pC_appends true c) (fun _ => bodyRun_plain (by simpa using hc)) hl
  · have : pC true b c = b := by simp [pC, Nat.lt_succ_of_le (Nat.not_lt.1 hl)]
    rw [this]
    exact hi

theorem pE_inv {ok : Prop} {b : NB} (c : Nat) (hi : SBInv ok b) : SBInv ok (pE true b c) := by
  unfold pE
  split
  · rename_i hv; exact pC_inv hi (viaChar_plain hv)
  · exact pA_inv hi (fun _ => escapeChar_body c)

theorem foldl_pE_inv {ok : Prop} : ∀ (l : List Nat) (b : NB), SBInv ok b → SBInv ok (l.foldl (pE true) b)
  | [], _, hi => hi
  | c :: cs, b, hi => foldl_pE_inv cs (pE true b c) (pE_inv c hi)

/-- the text of one value -/
def valText : ArgVal → List Nat
  | .str bs std =>
    (if bs = [255, 255, 255, 255] then b!"NULL" else [92, 34] ++ escapeStr (cstr bs) ++ [92, 34]) ++
    (if std then [115] else [])
  | .chr c => [39] ++ escapeChar c ++ [39]
  | .sym name => 38 :: escapeStr name
  | .raw t => t

/-- what the formats outside the model print is assumed to be a string body
    (printf of numbers: digits, letters, "0x", ".", "-", "<ENUM?> …", "{...}") -/
def ArgVal.ok : ArgVal → Prop
  | .raw t => bodyRun .normal t = some .normal
  | _ => True

instance : DecidablePred ArgVal.ok
  | .raw t => inferInstanceAs (Decidable (bodyRun .normal t = some .normal))
  | .str .. | .chr _ | .sym _ => isTrue trivial

theorem q_body : bodyRun .normal [92, 34] = some .normal := by decide

theorem valText_body (v : ArgVal) (hv : v.ok) : bodyRun .normal (valText v) = some .normal := by
  cases v with
  | str bs std =>
    simp only [valText]
    have h1 : bodyRun .normal (if bs = [255, 255, 255, 255] then b!"NULL"
        else [92, 34] ++ escapeStr (cstr bs) ++ [92, 34]) = some .normal := by
      split
      · decide
      · exact bodyRun_trans (bodyRun_trans q_body (escapeStr_body _)) q_body
    refine bodyRun_trans h1 ?_
    split <;> decide
  | chr c =>
    simp only [valText]
    exact bodyRun_trans (bodyRun_trans (by decide) (escapeChar_body c)) (by decide)
  | sym name =>
    exact bodyRun_trans (a := [38]) (by decide) (escapeStr_body _)
  | raw t => exact hv

/-- one value keeps the invariant; the content stays a string body when the value's printf text
    is one and symbol names go through the escaper (`asym`) -/
theorem argPiece_inv {ok : Prop} {b : NB} (asym : Bool) (v : ArgVal) (hv : ok → v.ok) (hsym : ok → asym = true)
    (hi : SBInv ok b) : SBInv ok (argPiece true asym b v) := by
  cases v with
  | str bs std =>
    simp only [argPiece]
    have h1 : SBInv ok (if bs = [255, 255, 255, 255] then pA true b b!"NULL"
        else pA true ((cstr bs).foldl (pE true) (pA true b [92, 34])) [92, 34]) := by
      split
      · exact pA_inv hi (fun _ => by decide)
      · exact pA_inv (foldl_pE_inv _ _ (pA_inv hi (fun _ => q_body))) (fun _ => q_body)
    split
    · exact pA_inv h1 (fun _ => by decide)
    · exact h1
  | chr c =>
    simp only [argPiece]
    exact pA_inv (pE_inv c (pA_inv hi (fun _ => by decide))) (fun _ => by decide)
  | sym name =>
    simp only [argPiece]
    split
    · exact foldl_pE_inv _ _ (pA_inv hi (fun _ => by decide))
    · rename_i hf
      exact pA_inv hi (fun h => absurd (hsym h) hf)
  | raw t => exact pA_inv hi hv

/-- a value whose text fits is printed completely -/
theorem argPiece_appends {T : Nat} (abuf : Bool) (v : ArgVal) :
    Appends T (fun b => argPiece abuf true b v) (valText v) := by
  cases v with
  | str bs std =>
    have h1 : Appends T (fun b => if bs = [255, 255, 255, 255] then pA abuf b b!"NULL"
          else pA abuf ((cstr bs).foldl (pE abuf) (pA abuf b [92, 34])) [92, 34])
        (if bs = [255, 255, 255, 255] then b!"NULL" else [92, 34] ++ escapeStr (cstr bs) ++ [92, 34]) := by
      split
      · exact pA_appends abuf _
      · exact ((pA_appends abuf _).comp (foldl_pE_appends abuf _)).comp (pA_appends abuf _)
    have h2 : Appends T (fun b => if std = true then pA abuf b [115] else b) (if std = true then [115] else []) := by
      split
      · exact pA_appends abuf _
      · exact Appends.id
    exact h1.comp h2
  | chr c => exact ((pA_appends abuf [39]).comp (pE_appends abuf c)).comp (pA_appends abuf [39])
  | sym name => exact (pA_appends abuf [38]).comp (foldl_pE_appends abuf name)
  | raw t => exact pA_appends abuf t

theorem argLoop_inv {ok : Prop} (asym retval : Bool) (hsym : ok → asym = true) :
    ∀ (vs : List ArgVal) (first : Bool) (b : NB), (ok → ∀ v ∈ vs, v.ok) → SBInv ok b →
    SBInv ok (argLoop true asym retval first b vs)
  | [], _, b, _, hi => by simpa [argLoop] using hi
  | v :: vs, first, b, hv, hi => by
    have h1 : SBInv ok (if first = true then b else pA true b b!", ") := by
      split
      · exact hi
      · exact pA_inv hi (fun _ => by decide)
    have h2 := argPiece_inv asym v (fun h => hv h v (by simp)) hsym h1
    have h3 := argLoop_inv asym retval hsym vs false _ (fun h x hx => hv h x (by simp [hx])) h2
    simp only [argLoop]
    by_cases hg : (argPiece true asym (if first = true then b else pA true b b!", ") v).len ≤ 2 ∨ retval = true
    · rw [if_pos hg]; exact h2
    · rw [if_neg hg]; exact h3

/-- the values joined by ", " -/
def argsJoin : List ArgVal → List Nat
  | [] => []
  | [v] => valText v
  | v :: w :: vs => valText v ++ b!", " ++ argsJoin (w :: vs)

/-- the complete text: "(a, b, c)" for arguments, the first value for a return value -/
def argFull (retval : Bool) (vs : List ArgVal) : List Nat :=
  if retval then (match vs with | [] => [] | v :: _ => valText v) else [40] ++ argsJoin vs ++ [41]

theorem argsJoin_cons (v : ArgVal) : ∀ vs : List ArgVal,
    argsJoin (v :: vs) = valText v ++ vs.flatMap (fun w => b!", " ++ valText w)
  | [] => by simp [argsJoin]
  | w :: vs => by
    rw [argsJoin, argsJoin_cons w vs, List.flatMap_cons]
    simp only [List.append_assoc]

/-- the values after the first: as long as three bytes stay free after every value, no `break` -/
theorem argLoop_rest {T : Nat} (abuf : Bool) : ∀ (vs : List ArgVal) (b : NB), Fits T b →
    (vs.flatMap (fun w => b!", " ++ valText w)).length + 2 < b.len →
    Fits T (argLoop abuf true false false b vs) ∧
    (argLoop abuf true false false b vs).out = b.out ++ vs.flatMap (fun w => b!", " ++ valText w)
  | [], b, hi, _ => ⟨hi, (List.append_nil _).symm⟩
  | v :: vs, b, hi, hl => by
    rw [List.flatMap_cons, List.length_append] at hl
    obtain ⟨h1, o1⟩ := ((pA_appends abuf b!", ").comp (argPiece_appends abuf v)).apply hi (by omega)
    have l1 := hi.len_append h1 o1
    obtain ⟨h2, o2⟩ := argLoop_rest abuf vs _ h1 (by omega)
    have hg : ¬ (argPiece abuf true (pA abuf b b!", ") v).len ≤ 2 := by omega
    simp only [argLoop, Bool.false_eq_true, ↓reduceIte, or_false, hg]
    exact ⟨h2, by rw [o2, o1, List.flatMap_cons, List.append_assoc]⟩

theorem argLoop_fits {T : Nat} (abuf : Bool) (vs : List ArgVal) (b : NB) (hi : Fits T b)
    (hl : (argsJoin vs).length + 2 < b.len) :
    Fits T (argLoop abuf true false true b vs) ∧ (argLoop abuf true false true b vs).out = b.out ++ argsJoin vs := by
  cases vs with
  | nil => exact ⟨hi, (List.append_nil _).symm⟩
  | cons v vs =>
    rw [argsJoin_cons, List.length_append] at hl
    obtain ⟨h1, o1⟩ := (argPiece_appends abuf v).apply hi (by omega)
    have l1 := hi.len_append h1 o1
    obtain ⟨h2, o2⟩ := argLoop_rest abuf vs _ h1 (by omega)
    have hg : ¬ (argPiece abuf true b v).len ≤ 2 := by omega
    simp only [argLoop, Bool.false_eq_true, ↓reduceIte, or_false, hg]
    exact ⟨h2, by rw [o2, o1, argsJoin_cons, List.append_assoc]⟩

/-- `get_argspec_string` with the repaired writers: buffer safety for every value list, and
    (if `ok`) a string body -/
theorem argString_gen {ok : Prop} (asym retval : Bool) (vs : List ArgVal) (hv : ok → ∀ v ∈ vs, v.ok)
    (hsym : ok → asym = true) :
    (argString true asym retval vs).oob = false ∧ (argString true asym retval vs).term = false ∧
    (argString true asym retval vs).out.length ≤ 2047 ∧
    (ok → bodyRun .normal (argString true asym retval vs).out = some .normal) := by
  cases retval with
  | true =>
    have hi := argLoop_inv asym true hsym vs true sbInit hv (sbInit_inv ok)
    have hl := hi.fits.len
    have hr := hi.room
    have hp := hi.fits.pos
    simp only [argString, ↓reduceIte]
    refine ⟨?_, hi.fits.term, by omega, hi.body⟩
    simp only [hi.fits.oob, cap, Bool.false_or]; exact decide_eq_false (by omega)
  | false =>
    have hi := pA_inv (s := [41]) (argLoop_inv asym false hsym vs true _ hv
      (pA_inv (s := [40]) (sbInit_inv ok) (fun _ => by decide))) (fun _ => by decide)
    have hl := hi.fits.len
    have hr := hi.room
    have hp := hi.fits.pos
    simp only [argString, Bool.false_eq_true, ↓reduceIte]
    exact ⟨hi.fits.oob, hi.fits.term, by omega, hi.body⟩

theorem argString_body (retval : Bool) (vs : List ArgVal) (hv : ∀ v ∈ vs, v.ok) :
    bodyRun .normal (argString true true retval vs).out = some .normal :=
  (argString_gen (ok := True) true retval vs (fun _ => hv) (fun _ => rfl)).2.2.2 trivial

/-- the arguments in parentheses are printed completely when they fit -/
theorem argString_fits (abuf : Bool) (vs : List ArgVal) (hl : (argFull false vs).length + 2 ≤ 2048) :
    (argString abuf true false vs).out = argFull false vs := by
  simp only [argFull, Bool.false_eq_true, ↓reduceIte, List.length_append, List.length_cons, List.length_nil] at hl
  obtain ⟨h0, o0⟩ := (pA_appends abuf [40]).apply sbInit_fits (by decide)
  have l0 : (pA abuf sbInit [40]).len + 1 = 2048 := sbInit_fits.len_append h0 o0
  obtain ⟨h1, o1⟩ := argLoop_fits abuf vs _ h0 (by omega)
  have l1 := h0.len_append h1 o1
  obtain ⟨_, o2⟩ := (pA_appends abuf [41]).apply h1 (by simp only [List.length_cons, List.length_nil]; omega)
  simp only [argString, Bool.false_eq_true, ↓reduceIte, argFull]
  rw [o2, o1, o0]
  rfl

/-! ## the document

The lemmas follow the printers piece by piece.  The state after a literal piece is found by evaluation
(`rfl`; the pieces are spelt as in the printer), the other pieces have their lemmas. -/

theorem body_of_valid {bs : List Nat} (h : validBody bs = true) : bodyRun .normal bs = some .normal := by
  simpa [validBody] using h

theorem numEnd_run {c : Prop} [Decidable c] {T : List Ctx} {l : List Nat} {u : St}
    (h0 : run ⟨.zero, T⟩ l = some u) (h1 : run ⟨.int, T⟩ l = some u) :
    run ⟨if c then .zero else .int, T⟩ l = some u := by
  split <;> assumption

theorem metaLine_run {kind comm : List Nat} {T : List Ctx} (tid : Nat)
    (hk : bodyRun .normal kind = some .normal) (hc : bodyRun .normal comm = some .normal) :
    run ⟨.val, T⟩ (metaLine kind tid comm) = some ⟨.after, T⟩ := by
  have h := run_trans (s := ⟨.val, T⟩) (a := b!"{\"ts\":0,\"ph\":\"M\",\"pid\":") rfl (dec_run_val tid _)
  have h := run_trans h (b := b!",\"name\":\"") (numEnd_run rfl rfl)
  have h := run_trans h (run_body hk)
  have h := run_trans h (b := b!"\",\"args\":{\"name\":\"[") rfl
  have h := run_trans h (run_body (dec_body tid))
  have h := run_trans h (b := b!"] ") rfl
  have h := run_trans h (run_body hc)
  exact run_trans h (b := b!"\"}}") rfl

/-- the state between two elements of the "traceEvents" array -/
def openSt (lc : Bool) : St := if lc then ⟨.after, [.arr, .obj]⟩ else ⟨.valOrEnd, [.arr, .obj]⟩

/-- an element (an object) printed with the `last_comma` protocol -/
theorem elem_run {X : List Nat} (lc : Bool) (h0 : X.head? = some 123)
    (hX : run ⟨.val, [.arr, .obj]⟩ X = some ⟨.after, [.arr, .obj]⟩) :
    run (openSt lc) ((if lc then b!",\n" else []) ++ X) = some (openSt true) := by
  cases lc with
  | true =>
    have : run ⟨.after, [.arr, .obj]⟩ b!",\n" = some ⟨.val, [.arr, .obj]⟩ := by decide
    exact run_trans this hX
  | false =>
    cases X with
    | nil => cases h0
    | cons c E =>
      cases h0
      -- an opening brace is read in the same way where the array may also end
      exact (rfl : run ⟨.valOrEnd, [.arr, .obj]⟩ (123 :: E) = run ⟨.val, [.arr, .obj]⟩ (123 :: E)).trans hX

theorem header_run (comm : List Nat) (tasks : List Task) :
    run init (headerFix comm tasks).1 = some (openSt (headerFix comm tasks).2) := by
  have hl : ∀ (ts : List Task) (lc : Bool),
      run (openSt lc) (headerFixLines comm lc ts).1 = some (openSt (headerFixLines comm lc ts).2) := by
    intro ts
    induction ts with
    | nil => intro lc; rfl
    | cons t ts ih =>
      intro lc
      have hc := escapeStr_body comm
      have h := elem_run lc rfl (metaLine_run (kind := b!"process_name") t.tid rfl hc)
      have h := run_trans h (b := b!",\n") rfl
      have h := run_trans h (metaLine_run (kind := b!"thread_name") t.tid rfl hc)
      exact run_trans h (ih true)
  exact run_trans (a := b!"{\"traceEvents\":[\n") rfl (hl tasks false)

/-- every `raw` piece of every event is a string body -/
def Ev.ok (e : Ev) : Prop := ∀ vs, e.args = some vs → ∀ v ∈ vs, v.ok

instance (e : Ev) : Decidable e.ok :=
  decidable_of_iff (∀ vs ∈ e.args, ∀ v ∈ vs, v.ok) (by simp [Ev.ok, Option.mem_def])

theorem argsText_run {T : List Ctx} (e : Ev) (hok : e.ok) :
    run ⟨.after, .obj :: T⟩ (argsText Fix.all e) = some ⟨.after, T⟩ := by
  unfold argsText
  cases h : e.args with
  | none => rfl
  | some vs =>
    have h1 : run ⟨.after, .obj :: T⟩
        (if e.entry = true then b!",\"args\":{\"arguments\":\"" else b!",\"args\":{\"retval\":\"") =
        some ⟨.str false .normal, .obj :: .obj :: T⟩ := by split <;> rfl
    have h := run_trans h1 (run_body (argString_body (!e.entry) vs (hok vs h)))
    exact run_trans h (b := b!"\"}}") rfl

theorem evText_run {T : List Ctx} (e : Ev) (hok : e.ok) : run ⟨.val, T⟩ (evText Fix.all e) = some ⟨.after, T⟩ := by
  have h := run_trans (s := ⟨.val, T⟩) (a := b!"{\"ts\":") rfl (tsText_run_val e.time _)
  have h := run_trans h (b := b!",\"ph\":\"") rfl
  have h3 : run ⟨.str false .normal, .obj :: T⟩ [if e.entry then 66 else 69] =
      some ⟨.str false .normal, .obj :: T⟩ := by split <;> rfl
  have h := run_trans h h3
  have h := run_trans h (b := b!"\",\"pid\":") rfl
  have h5 : ∃ n, run ⟨.val, .obj :: T⟩
      (if e.pid = e.tid then dec e.tid else dec e.pid ++ b!",\"tid\":" ++ dec e.tid) =
      some ⟨if n = 0 then .zero else .int, .obj :: T⟩ := by
    split
    · exact ⟨e.tid, dec_run_val _ _⟩
    · exact ⟨e.tid, run_trans (run_trans (dec_run_val e.pid _) (numEnd_run rfl rfl)) (dec_run_val _ _)⟩
  obtain ⟨n, h5⟩ := h5
  have h := run_trans h h5
  have h := run_trans h (b := b!",\"name\":\"") (numEnd_run rfl rfl)
  have h := run_trans h (run_body (nameOut_body e.name))
  have h := run_trans h (b := [34]) rfl
  exact run_trans h (argsText_run e hok)

theorem evs_run (evs : List Ev) (lc : Bool) (hok : ∀ e ∈ evs, e.ok) :
    run (openSt lc) (evsText Fix.all lc evs) = some (openSt (lc || !evs.isEmpty)) := by
  induction evs generalizing lc with
  | nil => simp [evsText, run]
  | cons e es ih =>
    have h := elem_run lc rfl (evText_run e (hok e (by simp)))
    have := run_trans h (ih true (fun x hx => hok x (by simp [hx])))
    simpa [evsText] using this

theorem footer_run (lc : Bool) (version date c : List Nat)
    (hv : validBody version = true) (hd : validBody date = true) :
    run (openSt lc) (footer true version date (some c)) = some ⟨.after, []⟩ := by
  have f1 : run (openSt lc) b!"\n], \"displayTimeUnit\": \"ns\", \"metadata\": {\n" =
      some ⟨.keyOrEnd, [.obj, .obj]⟩ := by cases lc <;> rfl
  have h := run_trans f1 (b := b!"\"version\":\"uftrace ") rfl
  have h := run_trans h (run_body (body_of_valid hv))
  have h := run_trans h (b := b!"\",\n") rfl
  have h := run_trans h (b := b!"\"recorded_time\":\"") rfl
  have h := run_trans h (run_body (body_of_valid hd))
  have h := run_trans h (b := b!"\",\n") rfl
  have hc := run_trans (s := ⟨.key, [.obj, .obj]⟩) (a := b!"\"command_line\":\"") rfl (run_body (escCmdline_body c))
  have h := run_trans h (run_trans hc (b := b!"\"\n") rfl)
  exact run_trans h (b := b!"} }\n") rfl

/-! ## the argument buffer before the repair -/

/-- without the guard the name loop is a fold of `print_json_escaped_char` -/
theorem nameLoop_false : ∀ (l : List Nat) (b : NB), nameLoop false b l = l.foldl putEsc b
  | [], _ => rfl
  | c :: cs, b => by
    simp only [List.foldl_cons, nameLoop, Bool.false_and, Bool.false_eq_true, ↓reduceIte]
    exact nameLoop_false cs _

/-- without the repair the writers are the ones of the name loop -/
theorem foldl_pE_false (l : List Nat) (b : NB) : l.foldl (pE false) b = nameLoop false b l := by
  rw [nameLoop_false]
  rfl

/-- the argument list of one string that is not the NULL marker -/
theorem argString_str (abuf asym : Bool) (bs : List Nat) (hn : bs ≠ [255, 255, 255, 255]) :
    argString abuf asym false [.str bs false] =
      pA abuf (pA abuf ((cstr bs).foldl (pE abuf) (pA abuf (pA abuf sbInit [40]) [92, 34])) [92, 34]) [41] := by
  simp only [argString, Bool.false_eq_true, ↓reduceIte, argLoop, argPiece, hn, or_false, ite_self]

theorem printArgs_len (b : NB) (s : List Nat) : (printArgs b s).len = wrapSub b.len s.length := by
  unfold printArgs
  split
  · rename_i h; rw [h]
  · rfl

/-- with `len = 0` `vsnprintf` stores nothing -/
theorem printArgs_full {b : NB} (s : List Nat) (h : b.len = 0) :
    (printArgs b s).out = b.out ∧ (printArgs b s).oob = b.oob := by
  simp [printArgs, h]

/-- the closing `\"` finds two bytes left: `vsnprintf` stores the backslash and a NUL, inside the buffer, and
    `len` becomes 0; a text that ends in a lone backslash swallows the quote that closes the string -/
theorem quote_cut {T : Nat} {b : NB} (hi : Fits T b) (hl : b.len = 2) (hb : bodyRun .normal b.out = some .normal) :
    (printArgs b [92, 34]).oob = false ∧ validBody (printArgs b [92, 34]).out = false ∧
    (printArgs b [92, 34]).len = 0 := by
  obtain ⟨o, ob⟩ := printArgs_cut (s := [92, 34]) hi (by omega) (by rw [hl]; decide)
  refine ⟨ob, ?_, by rw [printArgs_len, hl]; rfl⟩
  rw [o, hl, validBody, bodyRun_append, hb]
  rfl

/-- the name loop as it is, a name whose last character `"` finds two bytes left -/
theorem escapeName_prefix_cut (pre : List Nat) (h : (escapeStr pre).length = 2045) :
    (escapeName false (pre ++ [34])).oob = false ∧ validBody (escapeName false (pre ++ [34])).out = false := by
  obtain ⟨h1, o1⟩ := nameLoop_fits false pre nbInit nbInit_fits (by rw [h]; decide)
  have l1 : (nameLoop false nbInit pre).len + (escapeStr pre).length = 2047 := nbInit_fits.len_append h1 o1
  have e : nameLoop false nbInit (pre ++ [34]) = printArgs (nameLoop false nbInit pre) [92, 34] := by
    simp only [nameLoop_false, List.foldl_append]
    rfl
  obtain ⟨a, v, _⟩ := quote_cut h1 (by omega) (by rw [o1]; exact escapeStr_body pre)
  have hp : (printArgs (nameLoop false nbInit pre) [92, 34]).pos = 2047 := by
    rw [printArgs_pos, h1.pos, o1, List.length_append, h]
    rfl
  show ((nameLoop false nbInit (pre ++ [34])).oob || decide (cap ≤ (nameLoop false nbInit (pre ++ [34])).pos)) = false ∧
    validBody (nameLoop false nbInit (pre ++ [34])).out = false
  rw [e, hp, a]
  exact ⟨rfl, v⟩

/-- the code before the repair, one string whose escaped form has 2043 bytes: the closing `\"` finds two
    bytes left, and with `len = 0` the parenthesis is lost -/
theorem argString_prefix_cut (asym : Bool) (bs : List Nat) (hn : bs ≠ [255, 255, 255, 255])
    (h : (escapeStr (cstr bs)).length = 2043) :
    (argString false asym false [.str bs false]).oob = false ∧
    validBody (argString false asym false [.str bs false]).out = false := by
  obtain ⟨h1, o1⟩ := (((pA_appends false [40]).comp (pA_appends false [92, 34])).comp
    (foldl_pE_appends false (cstr bs))).apply sbInit_fits (by simp only [List.length_append, h]; decide)
  have l1 := sbInit_fits.len_append h1 o1
  simp only [List.length_append, h, List.length_cons, List.length_nil] at l1
  have l0 : sbInit.len = 2048 := rfl
  have hb : bodyRun .normal ([40] ++ [92, 34]) = some .normal := by decide
  obtain ⟨a, v, l2⟩ := quote_cut h1 (by omega)
    (by rw [o1]; exact bodyRun_trans (m1 := .normal) rfl (bodyRun_trans hb (escapeStr_body _)))
  obtain ⟨o3, b3⟩ := printArgs_full [41] l2
  rw [argString_str false asym bs hn]
  show (printArgs (printArgs _ [92, 34]) [41]).oob = false ∧ validBody (printArgs (printArgs _ [92, 34]) [41]).out = false
  rw [o3, b3]
  exact ⟨a, v⟩

theorem replicate_no_nul {c : Nat} (n : Nat) (hc : c ≠ 0) : ∀ x ∈ List.replicate n c, x ≠ 0 :=
  fun _ hx => List.eq_of_mem_replicate hx ▸ hc

theorem replicate_ne_marker (n c : Nat) (h : n ≠ 4) : List.replicate n c ≠ [255, 255, 255, 255] :=
  fun e => h (List.length_replicate.symm.trans (congrArg List.length e))

theorem escapeStr_replicate (n c : Nat) : (escapeStr (List.replicate n c)).length = n * (escapeChar c).length := by
  induction n with
  | zero => simp [escapeStr]
  | succ n ih => rw [List.replicate_succ, escapeStr_cons, List.length_append, ih, Nat.succ_mul, Nat.add_comm]

/-- `p` and `len` stay in step modulo 2^64, whatever is cut or lost -/
def PInv (b : NB) : Prop := (b.len + b.pos) % 18446744073709551616 = 2048 ∧ b.len < 18446744073709551616

theorem wrapSub_step {a p : Nat} (k : Nat)
    (h : (a + p) % 18446744073709551616 = 2048 ∧ a < 18446744073709551616) :
    (wrapSub a k + (p + k)) % 18446744073709551616 = 2048 ∧ wrapSub a k < 18446744073709551616 := by
  unfold wrapSub W
  omega

theorem printArgs_pinv {b : NB} (s : List Nat) (h : PInv b) : PInv (printArgs b s) := by
  unfold PInv
  rw [printArgs_len, printArgs_pos]
  exact wrapSub_step s.length h

theorem printChar_pinv {b : NB} (c : Nat) (h : PInv b) : PInv (printChar b c) :=
  wrapSub_step 1 h

theorem putEsc_pinv {b : NB} (c : Nat) (h : PInv b) : PInv (putEsc b c) := by
  unfold putEsc
  split
  · exact printChar_pinv c h
  · exact printArgs_pinv _ h

theorem nameLoop_false_pinv : ∀ (l : List Nat) (b : NB), PInv b → PInv (nameLoop false b l)
  | [], _, h => by simpa [nameLoop] using h
  | c :: cs, b, h => by
    simp only [nameLoop, Bool.false_and, Bool.false_eq_true, ↓reduceIte]
    exact nameLoop_false_pinv cs _ (putEsc_pinv c h)

theorem cstr_id : ∀ (bs : List Nat), (∀ c ∈ bs, c ≠ 0) → cstr bs = bs
  | [], _ => rfl
  | c :: r, h => by
    have hc : c ≠ 0 := h c (by simp)
    simp only [cstr, hc, ↓reduceIte]
    rw [cstr_id r (fun x hx => h x (by simp [hx]))]

theorem escapeStr_length_le (bs : List Nat) : (escapeStr bs).length ≤ 5 * bs.length := by
  induction bs with
  | nil => simp [escapeStr]
  | cons c cs ih =>
    rw [escapeStr_cons, List.length_append, List.length_cons]
    have := (escapeChar_length c).2
    omega

/-- a store through `print_args` at or beyond the end of the buffer, with a non-zero `len` -/
theorem printArgs_oob {b : NB} (s : List Nat) (hp : cap ≤ b.pos) (hl : b.len ≠ 0) : (printArgs b s).oob = true := by
  have : cap ≤ b.pos + min s.length (b.len - 1) := by omega
  simp [printArgs, hl, this]

end Uft.Json

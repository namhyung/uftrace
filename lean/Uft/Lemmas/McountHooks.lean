import Uft.Model.CallTree
/- The hooks of Model/Mcount.lean, described once for whoever reasons about them: record_trace_data changes
   nothing but WRITTEN flags (`eraseW`); what each hook leaves alone (`*_keeps`: `over`, `enabled`, the frames
   up to a flush); and, for the regular build, the exit hook (`exit_cons`) and the entry hooks after the filter
   check (`entry_on`) as one record update. -/
namespace Uft.Mcount

def eraseW (f : Frame) : Frame := { f with written := false }

/-- record_trace_data changes nothing but WRITTEN flags -/
theorem flushBelow_eraseW (fs : List Frame) : (flushBelow fs).1.map eraseW = fs.map eraseW := by
  induction fs with
  | nil => rfl
  | cons f r ih =>
    simp only [flushBelow]
    split
    · rfl
    · split <;> simp [ih, eraseW]

theorem recordTrace_eraseW (fs : List Frame) : (recordTrace fs).1.map eraseW = fs.map eraseW := by
  cases fs with
  | nil => rfl
  | cons top rest =>
    simp only [recordTrace]
    split <;> split <;> split <;> simp [eraseW, flushBelow_eraseW]

/-- … so every view of the frames that ignores the flag is kept -/
theorem map_of_eraseW {α : Type} (g : Frame → α) (hg : ∀ f, g (eraseW f) = g f) {as bs : List Frame}
    (h : as.map eraseW = bs.map eraseW) : as.map g = bs.map g := by
  have := congrArg (List.map g) h
  simpa [List.map_map, Function.comp_def, hg] using this

theorem forall_of_map {α : Type} (g : Frame → α) (P : α → Prop) {as bs : List Frame} (h : as.map g = bs.map g)
    (hb : ∀ f ∈ bs, P (g f)) : ∀ f ∈ as, P (g f) := by
  intro f hf
  have : g f ∈ bs.map g := by rw [← h]; exact List.mem_map_of_mem hf
  obtain ⟨f', hf', e⟩ := List.mem_map.mp this
  rw [← e]
  exact hb f' hf'

/-- record_trace_data for a stack of calls that are all still open is the downward walk -/
theorem recordTrace_of_open (fs : List Frame) (ho : ∀ f ∈ fs, f.endT = 0) : recordTrace fs = flushBelow fs := by
  cases fs with
  | nil => rfl
  | cons top rest =>
    have he : top.endT = 0 := ho top (by simp)
    simp only [recordTrace, flushBelow, he]
    by_cases hw : top.written = true
    · simp [hw]
    · by_cases hs : top.skip = true
      · simp [hw, hs]
      · simp [hw, hs]

theorem recordTrace_length (fs : List Frame) : (recordTrace fs).1.length = fs.length := by
  simpa using congrArg List.length (recordTrace_eraseW fs)

/-! ### what the hooks leave alone

Each hook is a cascade of conditionals over large record updates.  The facts below are read off
branch by branch with `ite_ind`, which never rewrites the state term. -/

theorem ite_ind {α : Sort _} (P : α → Prop) (c : Prop) [Decidable c] (a b : α) (ha : P a) (hb : P b) :
    P (if c then a else b) := by
  split
  · exact ha
  · exact hb

theorem checkRstack_fst (cfg : Cfg) (s : St) :
    (checkRstack cfg s).1 = decide (s.frames.length + s.over ≥ cfg.maxStack) := by
  unfold checkRstack St.idx
  by_cases h : s.frames.length + s.over ≥ cfg.maxStack
  · rw [if_pos h, decide_eq_true h]
    split <;> rfl
  · rw [if_neg h, decide_eq_false h]

theorem checkRstack_of_room (cfg : Cfg) (s : St) (h : (checkRstack cfg s).1 = false) :
    (checkRstack cfg s).2 = { s with warned := false } := by
  unfold checkRstack at h ⊢
  split
  · rename_i hfull
    rw [if_pos hfull] at h
    split at h <;> cases h
  · rfl

theorem checkRstack_keeps (cfg : Cfg) (s : St) :
    (checkRstack cfg s).2.over = s.over ∧
    ((checkRstack cfg s).2.frames = s.frames ∨ (checkRstack cfg s).2.frames = (recordTrace s.frames).1) := by
  unfold checkRstack
  let P : Bool × St → Prop := fun x =>
    x.2.over = s.over ∧ (x.2.frames = s.frames ∨ x.2.frames = (recordTrace s.frames).1)
  show P _
  apply ite_ind P
  · apply ite_ind P
    · exact ⟨rfl, Or.inr rfl⟩
    · exact ⟨rfl, Or.inl rfl⟩
  · exact ⟨rfl, Or.inl rfl⟩

theorem traceOffFlush_keeps (cfg : Cfg) (s : St) (tr : Trigger) :
    (traceOffFlush cfg s tr).frames = s.frames ∨ (traceOffFlush cfg s tr).frames = (recordTrace s.frames).1 := by
  rw [traceOffFlush_frames]
  split
  · exact Or.inr rfl
  · exact Or.inl rfl

/-- mcount_entry_filter_check does not count beyond the stack, and the shadow stack is at most flushed (once:
    mcount_check_rstack flushes only when it rejects the call) -/
theorem entryFilterCheck_keeps (cfg : Cfg) (s : St) (f : Nat) :
    (entryFilterCheck cfg s f).2.1.over = s.over ∧
    ((entryFilterCheck cfg s f).2.1.frames = s.frames ∨
     (entryFilterCheck cfg s f).2.1.frames = (recordTrace s.frames).1) := by
  have hfull := checkRstack_keeps cfg s
  have hroom := checkRstack_of_room cfg s
  unfold entryFilterCheck
  generalize checkRstack cfg s = c at hfull hroom
  obtain ⟨b, s1⟩ := c
  cases b
  · cases hroom rfl
    have hfl := traceOffFlush_keeps cfg { s with warned := false } (cfg.trig f)
    have hov := traceOffFlush_over cfg { s with warned := false } (cfg.trig f)
    let P : FR × St × Trigger → Prop := fun x =>
      x.2.1.over = s.over ∧ (x.2.1.frames = s.frames ∨ x.2.1.frames = (recordTrace s.frames).1)
    show P _
    dsimp only
    apply ite_ind P
    · exact ⟨rfl, Or.inl rfl⟩
    · apply ite_ind P
      · apply ite_ind P
        · exact ⟨rfl, Or.inl rfl⟩
        · exact ⟨rfl, Or.inl rfl⟩
      · apply ite_ind P
        · exact ⟨rfl, Or.inl rfl⟩
        · apply ite_ind P
          · exact ⟨rfl, Or.inl rfl⟩
          · apply ite_ind P
            · exact ⟨hov, hfl⟩
            · exact ⟨hov, hfl⟩
  · exact hfull

theorem entryFilterRecord_keeps (cfg : Cfg) (s : St) (tr : Trigger) (F : Frame) (rest : List Frame) :
    (entryFilterRecord cfg { s with frames := F :: rest } tr).over = s.over ∧
    ∃ G : Frame, ((entryFilterRecord cfg { s with frames := F :: rest } tr).frames = G :: rest ∨
        (entryFilterRecord cfg { s with frames := F :: rest } tr).frames = (recordTrace (G :: rest)).1) ∧
      G.written = F.written ∧ G.endT = F.endT := by
  unfold entryFilterRecord
  let P : St → Prop := fun x => x.over = s.over ∧ ∃ G : Frame,
    (x.frames = G :: rest ∨ x.frames = (recordTrace (G :: rest)).1) ∧ G.written = F.written ∧ G.endT = F.endT
  show P _
  dsimp only
  apply ite_ind P
  · exact ⟨rfl, _, Or.inl rfl, rfl, rfl⟩
  · apply ite_ind P
    · exact ⟨rfl, _, Or.inr rfl, rfl, rfl⟩
    · apply ite_ind P
      · exact ⟨rfl, _, Or.inl rfl, rfl, rfl⟩
      · split
        · exact ⟨rfl, _, Or.inr rfl, rfl, rfl⟩
        · exact ⟨rfl, _, Or.inl rfl, rfl, rfl⟩

theorem exitFilterRecord_keeps (cfg : Cfg) (s : St) :
    (exitFilterRecord cfg s).over = s.over ∧ (exitFilterRecord cfg s).enabled = s.enabled ∧
    ((exitFilterRecord cfg s).frames = s.frames ∨ (exitFilterRecord cfg s).frames = (recordTrace s.frames).1) := by
  unfold exitFilterRecord
  cases hfr : s.frames with
  | nil => exact ⟨rfl, rfl, Or.inl hfr⟩
  | cons f rest =>
    let P : St → Prop := fun x => x.over = s.over ∧ x.enabled = s.enabled ∧
      (x.frames = f :: rest ∨ x.frames = (recordTrace (f :: rest)).1)
    show P _
    dsimp only
    apply ite_ind P
    · apply ite_ind P
      · exact ⟨rfl, rfl, Or.inr rfl⟩
      · exact ⟨rfl, rfl, Or.inl rfl⟩
    · apply ite_ind P
      · exact ⟨rfl, rfl, Or.inl rfl⟩
      · apply ite_ind P
        · exact ⟨rfl, rfl, Or.inl rfl⟩
        · apply ite_ind P
          · exact ⟨rfl, rfl, Or.inr rfl⟩
          · exact ⟨rfl, rfl, Or.inl rfl⟩

theorem entry_frames (cfg : Cfg) (k : Kind) (s : St) (f t0 : Nat) :
    ((entry cfg k s f t0).1.frames = (entryFilterCheck cfg s f).2.1.frames ∧
      (k = .pg → (entry cfg k s f t0).2 = false)) ∨
    ((entry cfg k s f t0).2 = true ∧ ∃ G : Frame,
      ((entry cfg k s f t0).1.frames = G :: (entryFilterCheck cfg s f).2.1.frames ∨
       (entry cfg k s f t0).1.frames = (recordTrace (G :: (entryFilterCheck cfg s f).2.1.frames)).1) ∧
      G.written = false ∧ G.endT = 0) := by
  unfold entry
  generalize entryFilterCheck cfg s f = c
  obtain ⟨fr, s1, tr⟩ := c
  cases k with
  | pg =>
    dsimp only
    split
    · exact Or.inl ⟨rfl, fun _ => rfl⟩
    · exact Or.inr ⟨rfl, (entryFilterRecord_keeps cfg s1 tr _ s1.frames).2⟩
  | cyg =>
    dsimp only
    split
    · exact Or.inl ⟨rfl, fun h => by cases h⟩
    · exact Or.inr ⟨rfl, (entryFilterRecord_keeps cfg s1 tr _ s1.frames).2⟩

theorem entry_cyg_took (cfg : Cfg) (s : St) (f t0 : Nat) : (entry cfg .cyg s f t0).2 = true := by
  unfold entry
  simp only
  split <;> rfl

/-- the -pg entry hook never counts beyond the stack -/
theorem entry_pg_over (cfg : Cfg) (s : St) (f t0 : Nat) : (entry cfg .pg s f t0).1.over = s.over := by
  have hk := (entryFilterCheck_keeps cfg s f).1
  unfold entry
  generalize entryFilterCheck cfg s f = c at hk
  obtain ⟨fr, s1, tr⟩ := c
  dsimp only
  split
  · exact hk
  · rw [(entryFilterRecord_keeps cfg s1 tr _ s1.frames).1]
    exact hk

/-- what mcount_exit_filter_record gives back to the filter state: the counts and the values saved at entry -/
def popFilt (fl : Filt) (f : Frame) : Filt :=
  { undoCount fl f with depth := f.sDepth, maxDepth := f.sMaxDepth, time := f.sTime, size := f.sSize }

/-- whether mcount_exit_filter_record (regular build) calls record_trace_data for the top frame `f` -/
def exitRecords (cfg : Cfg) (s : St) (f : Frame) : Bool :=
  !f.norecord && s.enabled &&
    (durOk cfg (f.endT - f.start) (if s.filt.time = noTime then cfg.threshold else s.filt.time) &&
        (!cfg.callerMode || f.caller) || f.written || f.trace)

theorem exitFilterRecord_cons (cfg : Cfg) (hf : cfg.fast = false) (s : St) (f : Frame) (rest : List Frame) :
    exitFilterRecord cfg { s with frames := f :: rest } =
      { s with filt := popFilt s.filt f, recordIdx := if f.norecord then s.recordIdx else s.recordIdx - 1,
               frames := if exitRecords cfg s f then (recordTrace (f :: rest)).1 else f :: rest,
               out := if exitRecords cfg s f then s.out ++ (recordTrace (f :: rest)).2 else s.out } := by
  unfold exitFilterRecord exitRecords
  dsimp only
  rw [hf]
  generalize (durOk cfg (f.endT - f.start) (if s.filt.time = noTime then cfg.threshold else s.filt.time) &&
    (!cfg.callerMode || f.caller) || f.written || f.trace) = keep
  cases f.norecord
  · cases s.enabled
    · rfl
    · cases keep
      · rfl
      · rfl
  · rfl

/-- the exit hook of the regular build on a frame of the shadow stack, in one piece -/
theorem exit_cons (cfg : Cfg) (hf : cfg.fast = false) (s : St) (ho : s.over = 0) (F : Frame) (rest : List Frame)
    (hfr : s.frames = F :: rest) (t : Nat) :
    exit cfg s t =
      { s with filt := popFilt s.filt F, recordIdx := if F.norecord then s.recordIdx else s.recordIdx - 1,
               frames := if exitRecords cfg s { F with endT := t } then (recordTrace ({ F with endT := t } :: rest)).1.tail
                         else rest,
               out := if exitRecords cfg s { F with endT := t } then s.out ++ (recordTrace ({ F with endT := t } :: rest)).2
                      else s.out } := by
  have hno : ∀ G : Frame, G.norecord = true → exitRecords cfg s G = false := by
    intro G hG
    unfold exitRecords
    rw [hG]
    rfl
  unfold exit
  rw [if_neg (by omega), hfr]
  dsimp only
  cases hn : F.norecord
  · rw [Bool.and_false, if_neg Bool.false_ne_true, exitFilterRecord_cons cfg hf]
    dsimp only
    split <;> rfl
  · rw [hno _ rfl]
    cases F.cyg
    · rw [Bool.false_and, if_neg Bool.false_ne_true, exitFilterRecord_cons cfg hf, hno _ rfl]
      rfl
    · rw [Bool.true_and, if_pos rfl, exitFilterRecord_cons cfg hf, hno F hn, hn]
      rfl

theorem recordTrace_exit (top : Frame) (rest : List Frame) (he : top.endT ≠ 0) (hs : top.skip = false) :
    recordTrace (top :: rest) =
      ({ top with written := true } :: (if top.written then rest else (flushBelow rest).1),
       (if top.written then [] else (flushBelow rest).2 ++ [entryRec top]) ++ [exitRec top]) := by
  have he' : (top.endT != 0) = true := by simpa using he
  unfold recordTrace
  dsimp only
  rw [hs, he']
  cases top.written
  · rfl
  · rfl
/-- the NORECORD verdict of mcount_entry_filter_record -/
def entryNorecord (cfg : Cfg) (fl : Filt) (F : Frame) : Bool :=
  F.norecord || decide (fl.outCount > 0) || (decide (fl.inCount = 0) && cfg.optIn) ||
    (decide (fl.size > 0) && decide (cfg.fsize F.addr < fl.size))

/-- the frame mcount_entry_filter_record leaves for `F`: the saved filter values and the trigger's tags -/
def tagFrame (cfg : Cfg) (fl : Filt) (tr : Trigger) (F : Frame) : Frame :=
  { F with norecord := entryNorecord cfg fl F, sDepth := fl.svDepth, sMaxDepth := fl.svMaxDepth, sTime := fl.svTime,
           sSize := fl.svSize, filtered := tr.filter == some true, notrace := tr.filter == some false,
           trace := tr.trace, caller := tr.caller }

theorem entryFilterRecord_on (cfg : Cfg) (hf : cfg.fast = false) (s : St) (F : Frame) (rest : List Frame)
    (tr : Trigger) (hfin : tr.finish = false) (hen : s.enabled = true) :
    entryFilterRecord cfg { s with frames := F :: rest } tr =
      { s with frames := tagFrame cfg s.filt tr F :: rest,
               recordIdx := if entryNorecord cfg s.filt F then s.recordIdx else s.recordIdx + 1,
               enableCached := if !entryNorecord cfg s.filt F && (tr.traceOn || tr.traceOff) then true
                               else s.enableCached } := by
  unfold entryFilterRecord tagFrame entryNorecord
  dsimp only
  rw [hf, hfin, hen]
  generalize (F.norecord || decide (s.filt.outCount > 0) || (decide (s.filt.inCount = 0) && cfg.optIn) ||
    (decide (s.filt.size > 0) && decide (cfg.fsize F.addr < s.filt.size))) = nr
  cases nr
  · simp only [Bool.false_eq_true, ↓reduceIte, Bool.not_true, Bool.or_false, Bool.false_and, List.append_nil,
      Bool.not_false, Bool.true_and]
  · rfl

/-- the frame the entry hooks push before mcount_entry_filter_record: -pg hooks push for a rejected call only to
    undo its trigger (start time as read), cygprof hooks always (start time 0 for a rejected call) -/
def newFrame (k : Kind) (isIn : Bool) (f t0 d : Nat) : Frame :=
  { addr := f, start := if k == .cyg && !isIn then 0 else t0, depth := d, cyg := k == .cyg, norecord := !isIn }

/-- the entry hooks of the regular build after the filter check, tracing on, no `finish` trigger -/
theorem entry_on (cfg : Cfg) (hf : cfg.fast = false) (k : Kind) (s : St) (f t0 : Nat) (fr : FR) (s1 : St)
    (tr : Trigger) (hc : entryFilterCheck cfg s f = (fr, s1, tr)) (hfr : fr ≠ .rstack) (hfin : tr.finish = false)
    (hen : s1.enabled = true) :
    entry cfg k s f t0 =
      if k == .pg && (fr != .in_ && !(cfg.f4fixed && tr.changesState)) then (s1, false) else
      ({ s1 with frames := tagFrame cfg s1.filt tr (newFrame k (fr == .in_) f t0 s1.recordIdx) :: s1.frames,
                 recordIdx := if entryNorecord cfg s1.filt (newFrame k (fr == .in_) f t0 s1.recordIdx)
                              then s1.recordIdx else s1.recordIdx + 1,
                 enableCached := if !entryNorecord cfg s1.filt (newFrame k (fr == .in_) f t0 s1.recordIdx) &&
                                    (tr.traceOn || tr.traceOff) then true else s1.enableCached }, true) := by
  have hr : (fr == FR.rstack) = false := by cases fr <;> first | rfl | exact absurd rfl hfr
  unfold entry
  rw [hc]
  dsimp only
  rw [hr]
  cases k
  · rw [Bool.false_or, ← entryFilterRecord_on cfg hf s1 _ s1.frames tr hfin hen]
    cases (fr != FR.in_ && !(cfg.f4fixed && tr.changesState)) <;> rfl
  · rw [if_neg Bool.false_ne_true, ← entryFilterRecord_on cfg hf s1 _ s1.frames tr hfin hen]
    cases fr <;> rfl

end Uft.Mcount

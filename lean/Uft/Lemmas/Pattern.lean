import Uft.Model.Pattern
/- C14 helper lemmas about the pattern-list fold. -/
namespace Uft.Pattern

/-- a "keep the last hit" fold is the last element of the filtered list -/
theorem decide_foldl (f : Patt → Bool) (ps : List Patt) (acc : Option Bool) :
    ps.foldl (fun ret p => if f p then some p.positive else ret) acc =
      match (ps.filter f).getLast? with
      | some p => some p.positive
      | none => acc := by
  induction ps generalizing acc with
  | nil => simp
  | cons p ps ih =>
    simp only [List.foldl_cons, ih, List.filter_cons]
    by_cases hp : f p
    · simp only [hp, if_true, List.getLast?_cons]
      cases h : (ps.filter f).getLast? <;> simp
    · simp [hp]

end Uft.Pattern

import Uft.Lemmas.FstackSpec
/- C07, the replay loop (fstack_skip look-ahead, leaf folding) shows the same records as the
   fstack_check_filter loop for EVERY option set — trace_on / trace_off triggers, --trace=off, any trigger
   table — on every depth-consistent record stream.  Simulation: while replay holds back the line of an
   accepted ENTRY, the other loop is one display level ahead and has printed that line already. -/
namespace Uft.Fstack
open Uft.Mcount (Rec Trigger Call Calls evCall evCalls)

/-- fstack_check_skip never skips an ENTRY that fstack_entry would accept (any option set) -/
theorem checkSkip_sound (c : RCfg) (s : FS) (r : Rec) (ht : r.type = 0)
    (h : checkSkip c s r = true) : verdict c s r.addr ≠ Verdict.accept := by
  intro hv
  obtain ⟨⟨h1, h2, h3, h4⟩, h5, h6, h7⟩ := verdict_accept c s _ hv
  have hoff : (c.trig r.addr).traceOff = false := by
    cases hto : (c.trig r.addr).traceOff with
    | false => rfl
    | true => simp [enAfter, hto] at h5
  -- the look-ahead's own opt-in / location test: `loc = none` and not rejected means no -L in force
  have hloc : (c.trig r.addr).loc.isNone = true → c.locIn = false := by
    intro hl
    cases hl2 : (c.trig r.addr).loc with
    | none => simpa [locReject, hl2] using h4
    | some v => simp [hl2] at hl
  simp only [checkSkip, ht, h1, h2, hoff, h7, isIn, depthAfter, Nat.lt_irrefl, Nat.zero_ne_one, ↓reduceIte, gt_iff_lt,
    decide_true, Bool.false_or, Bool.and_false] at h h3 h6
  split at h
  · rename_i hA
    simp only [Bool.and_eq_true, Bool.or_eq_true, decide_eq_true_eq, Bool.not_eq_true'] at hA
    obtain ⟨⟨⟨ha1, ha2⟩, ha3⟩, ha4⟩ := hA
    rcases ha3 with ho | hl
    · simp [ha1, ho, ha4] at h3
    · rw [hloc ha2] at hl
      cases hl
  · split at h
    · cases h
    · rename_i hd
      cases hdep : (c.trig r.addr).depth with
      | some v => simp [hdep] at hd
      | none =>
        rw [hdep] at h6
        exact h6 (of_decide_eq_true h)

/-! ### one record in replay's loop -/

theorem stepBmain_entry (c : RCfg) (hnl : c.noLibcall = false) (s : FS) (r : Rec) (ht : r.type = 0) :
    stepBmain c s r =
      (if !(fsEntry c (account s r) r.addr).2 then (⟨(fsEntry c (account s r) r.addr).1, none⟩, [])
       else if c.noMerge then
         (⟨updEntry (fsEntry c (account s r) r.addr).1, none⟩, [shown r (fsEntry c (account s r) r.addr).1.dispDepth])
       else (⟨(fsEntry c (account s r) r.addr).1, some (r, (fsEntry c (account s r) r.addr).1.dispDepth)⟩, [])) := by
  simp only [stepBmain, isPlt_false c hnl, Bool.false_eq_true, ↓reduceIte, ht]

theorem stepBmain_exit (c : RCfg) (hnl : c.noLibcall = false) (s : FS) (r : Rec) (ht : r.type = 1) :
    stepBmain c s r = (⟨(stepA c s r).1, none⟩, (stepA c s r).2) := by
  simp only [stepBmain, stepA, isPlt_false c hnl, Bool.false_eq_true, ↓reduceIte, ht, Nat.succ_ne_self]

theorem stepB_pend_deeper (c : RCfg) (hnl : c.noLibcall = false) (s : FS) (e : Rec) (dd : Nat) (r : Rec)
    (hd : e.depth < r.depth) (ht : r.type ≤ 1) :
    stepB c ⟨s, some (e, dd)⟩ r =
      (if checkSkip c s r then
         (if !(if r.type = 0 then (fsEntry c (account s r) r.addr).1 else fsExit c (account s r)).enabled then
            (⟨updEntry (if r.type = 0 then (fsEntry c (account s r) r.addr).1 else fsExit c (account s r)), none⟩,
             [shown e dd])
          else (⟨if r.type = 0 then (fsEntry c (account s r) r.addr).1 else fsExit c (account s r), some (e, dd)⟩, []))
       else ((stepBmain c (updEntry s) r).1, shown e dd :: (stepBmain c (updEntry s) r).2)) := by
  have h1 : ¬ r.depth ≤ e.depth := by omega
  have h3 : ¬ r.type = 3 := by omega
  simp only [stepB, h1, ↓reduceIte, h3, isPlt_false c hnl, Bool.false_and, Bool.false_or]
  by_cases hk : checkSkip c s r = true
  · simp only [hk, ↓reduceIte]
    by_cases h0 : r.type = 0
    · simp [h0]
    · have h1' : r.type = 1 := by omega
      simp [h1']
  · simp [hk]

theorem stepB_pend_leaf (c : RCfg) (s : FS) (e : Rec) (dd : Nat) (r : Rec) (hd : r.depth = e.depth)
    (ht : r.type = 1) :
    stepB c ⟨s, some (e, dd)⟩ r = (⟨fsExit c (account s r), none⟩, [shown e dd, shown r dd]) := by
  simp [stepB, hd, ht]

/-! ### the simulation -/

/-- the depth fields of an ENTRY/EXIT stream are the nesting depths, `k` calls being open -/
def WFD : Nat → List Rec → Prop
  | _, [] => True
  | k, r :: rs => (r.type = 0 ∧ r.depth = k ∧ WFD (k + 1) rs) ∨ (r.type = 1 ∧ 1 ≤ k ∧ r.depth = k - 1 ∧ WFD (k - 1) rs)

theorem WFD_append_exit (k : Nat) (x : Rec) (hx : x.type = 1) (hd : x.depth = k) (tail : List Rec) (h : WFD k tail) :
    WFD (k + 1) (x :: tail) := by
  simp only [WFD]
  right
  exact ⟨hx, by omega, by simpa using hd, by simpa using h⟩

mutual
theorem WFD_evCall : ∀ (x : Call) (d : Nat) (tail : List Rec), WFD d tail → WFD d (evCall d x ++ tail)
  | .node f t0 t1 kids, d, tail, h => by
    simp only [evCall, List.cons_append, List.append_assoc, List.nil_append, WFD]
    left
    refine ⟨trivial, trivial, ?_⟩
    exact WFD_evCalls kids (d + 1) _ (WFD_append_exit d _ rfl rfl tail h)
theorem WFD_evCalls : ∀ (xs : Calls) (d : Nat) (tail : List Rec), WFD d tail → WFD d (evCalls d xs ++ tail)
  | .nil, d, tail, h => by simpa [evCalls] using h
  | .cons x rest, d, tail, h => by
    simp only [evCalls, List.append_assoc]
    exact WFD_evCall x d _ (WFD_evCalls rest d tail h)
end

theorem WFD_forest (xs : Calls) : WFD 0 (evCalls 0 xs) := by
  have := WFD_evCalls xs 0 [] trivial
  simpa using this

/-- the relation between the two loops: state of report/graph/dump, state of replay, and the
    line replay still owes -/
inductive Sim (c : RCfg) : Nat → FS → RS → List Rec → Prop
  | idle (k : Nat) (s : FS) : Sim c k s ⟨s, none⟩ []
  | pend (k : Nat) (fs : FS) (e : Rec) (d : Nat) (extra : List Fr) (fe : Fr) (rest : List Fr)
      (hen : fs.enabled = true) (hds : fs.dispSet = true) (hdd : fs.dispDepth = d)
      (hst : fs.stack = extra ++ fe :: rest) (hfe : fe.norecord = false)
      (hex : ∀ x ∈ extra, x.norecord = true) (hk : k = e.depth + 1 + extra.length) :
      Sim c k (updEntry fs) ⟨fs, some (e, d)⟩ [shown e d]

theorem verdict_updEntry (c : RCfg) (s : FS) (f : Nat) : verdict c (updEntry s) f = verdict c s f := rfl

/-- a rejected ENTRY does not look at the display depth -/
theorem fsEntry_reject_comm (c : RCfg) (s : FS) (f : Nat) (h : (fsEntry c s f).2 = false) :
    fsEntry c (updEntry s) f = (updEntry (fsEntry c s f).1, false) := by
  have hv : verdict c s f ≠ Verdict.accept := by simpa [fsEntry] using h
  have hvu : verdict c (updEntry s) f = verdict c s f := rfl
  have hda : ∀ tr, depthAfter c (updEntry s) tr = depthAfter c s tr := fun _ => rfl
  refine Prod.ext ?_ h
  simp only [fsEntry, hvu, hda]
  simp [updEntry, hv]

theorem fsExit_updEntry (c : RCfg) (s : FS) : fsExit c (updEntry s) = updEntry (fsExit c s) := rfl

theorem updExit_updEntry (s : FS) (h : s.dispSet = true) : updExit (updEntry s) = s := by
  cases s
  simp_all [updExit, updEntry]

/-- a record whose depth field is the nesting depth, `k` calls being open -/
def AtDepth (k : Nat) (r : Rec) : Prop := (r.type = 0 ∧ r.depth = k) ∨ (r.type = 1 ∧ 1 ≤ k ∧ r.depth = k - 1)

/-- one record handled by replay's main loop, against the other loop -/
theorem stepMain_sim (c : RCfg) (hnl : c.noLibcall = false) (s : FS) (r : Rec) (k : Nat) (hr : AtDepth k r) :
    ∃ owed, Sim c (if r.type = 0 then k + 1 else k - 1) (stepA c s r).1 (stepBmain c s r).1 owed ∧
      (stepA c s r).2 = (stepBmain c s r).2 ++ owed := by
  rcases hr with ⟨h0, hd⟩ | ⟨h1, hk, hd⟩
  · rw [stepA_noplt c hnl, stepBmain_entry c hnl s r h0]
    simp only [h0, ↓reduceIte]
    cases hp : (fsEntry c (account s r) r.addr).2 with
    | false => exact ⟨[], by simpa using Sim.idle _ _, by simp⟩
    | true =>
      simp only [Bool.not_true, Bool.false_eq_true, ↓reduceIte]
      cases hm : c.noMerge with
      | true => exact ⟨[], by simpa using Sim.idle _ _, by simp⟩
      | false =>
        simp only [Bool.false_eq_true, ↓reduceIte]
        have hv : verdict c (account s r) r.addr = .accept := by simpa [fsEntry] using hp
        have hn : verdict c (account s r) r.addr ≠ .traceOff := by rw [hv]; decide
        obtain ⟨l1, l2, _, l4⟩ := fsEntry_live c (account s r) r.addr hn
        refine ⟨[shown r (fsEntry c (account s r) r.addr).1.dispDepth], ?_, by simp⟩
        exact Sim.pend (k + 1) _ r _ [] (entryFr c (account s r) r.addr) (account s r).stack
          (by rw [l1, hv]; rfl) (by rw [l2, hp, Bool.or_true]) rfl (by simp [fsEntry_stack])
          (by rw [l4, hp]; rfl) (by simp) (by simp [hd])
  · have h0 : ¬ r.type = 0 := by omega
    rw [stepBmain_exit c hnl s r h1, if_neg h0]
    exact ⟨[], Sim.idle _ _, by simp⟩

/-- one record: the relation is kept, and what replay owes before and after accounts for the difference in
    what the two loops show -/
theorem sim_step (c : RCfg) (hnl : c.noLibcall = false) (k : Nat) (sA : FS) (sB : RS) (owed : List Rec)
    (hs : Sim c k sA sB owed) (r : Rec) (hr : AtDepth k r) :
    ∃ owed', Sim c (if r.type = 0 then k + 1 else k - 1) (stepA c sA r).1 (stepB c sB r).1 owed' ∧
      owed ++ (stepA c sA r).2 = (stepB c sB r).2 ++ owed' := by
  have ht : r.type ≤ 1 := by rcases hr with ⟨a, _⟩ | ⟨a, _⟩ <;> omega
  cases hs with
  | idle => exact stepMain_sim c hnl sA r k hr
  | pend fs e d extra fe rest hen hds hdd hst hfe hex hk =>
    by_cases hle : r.depth ≤ e.depth
    · -- only the EXIT of the pending ENTRY is not deeper: folded leaf
      have hx : r.type = 1 ∧ extra = [] ∧ r.depth = e.depth := by
        rcases hr with ⟨a, b⟩ | ⟨a, b, c'⟩
        · omega
        · have : extra.length = 0 := by omega
          exact ⟨a, List.eq_nil_of_length_eq_zero this, by omega⟩
      obtain ⟨h1, hnil, hd⟩ := hx
      subst hnil
      have htop : topFr c (updEntry (account fs r)) = fe := by simp [topFr, updEntry, hst]
      have hA : stepA c (updEntry fs) r = (fsExit c (account fs r), [shown r d]) := by
        rw [stepA_noplt c hnl, if_neg (by omega), if_pos h1, account_updEntry]
        unfold exitStep
        rw [htop, hfe, updExit_updEntry _ (by simp [hds])]
        simp [updEntry, hen, hdd]
      rw [stepB_pend_leaf c fs e d r hd h1, hA, if_neg (by omega)]
      exact ⟨[], Sim.idle _ _, by simp⟩
    · have hlt : e.depth < r.depth := by omega
      rw [stepB_pend_deeper c hnl fs e d r hlt ht]
      by_cases hk2 : checkSkip c fs r = true
      · rw [if_pos hk2]
        rcases hr with ⟨h0, hd⟩ | ⟨h1, hk1, hd⟩
        · -- a skipped ENTRY: fstack_entry rejects it
          have hva : verdict c (account fs r) r.addr ≠ .accept := by
            rw [verdict_account]
            exact checkSkip_sound c fs r h0 hk2
          have hrej : (fsEntry c (account fs r) r.addr).2 = false := by simpa [fsEntry] using hva
          have hA : stepA c (updEntry fs) r = (updEntry (fsEntry c (account fs r) r.addr).1, []) := by
            rw [stepA_noplt c hnl, if_pos h0, account_updEntry, fsEntry_reject_comm c _ _ hrej]
            rfl
          rw [hA]
          simp only [h0, ↓reduceIte]
          cases hen3 : (fsEntry c (account fs r) r.addr).1.enabled with
          | false => exact ⟨[], Sim.idle _ _, rfl⟩
          | true =>
            have hn : verdict c (account fs r) r.addr ≠ .traceOff := by
              intro hv
              rw [(fsEntry_traceOff c _ _ hv).2] at hen3
              cases hen3
            obtain ⟨_, l2, l3, l4⟩ := fsEntry_live c (account fs r) r.addr hn
            refine ⟨[shown e d], ?_, rfl⟩
            exact Sim.pend (k + 1) _ e d (entryFr c (account fs r) r.addr :: extra) fe rest hen3
              (by rw [l2, account_dispSet, hds]; rfl) (by rw [l3, hrej, account_dispDepth, hdd]; rfl)
              (by rw [fsEntry_stack, account_stack, hst]; rfl) hfe
              (by
                intro x hx
                simp only [List.mem_cons] at hx
                rcases hx with rfl | hx
                · rw [l4, hrej]; rfl
                · exact hex x hx)
              (by simp only [List.length_cons]; omega)
        · -- a skipped EXIT: of a frame pushed while skipping (NORECORD)
          have h0 : ¬ r.type = 0 := by omega
          have hne : extra ≠ [] := by
            intro hn
            subst hn
            simp at hk
            omega
          obtain ⟨x0, xs, hxs⟩ := List.exists_cons_of_ne_nil hne
          subst hxs
          have hen4 : (fsExit c (account fs r)).enabled = true := by simp [fsExit, hen]
          have hA : stepA c (updEntry fs) r = (updEntry (fsExit c (account fs r)), []) := by
            rw [stepA_noplt c hnl, if_neg h0, if_pos h1, account_updEntry]
            unfold exitStep
            have htop : topFr c (updEntry (account fs r)) = x0 := by simp [topFr, updEntry, hst]
            rw [htop, hex x0 (by simp)]
            rfl
          rw [hA]
          simp only [h0, ↓reduceIte, hen4, Bool.not_true, Bool.false_eq_true]
          refine ⟨[shown e d], ?_, rfl⟩
          exact Sim.pend (k - 1) _ e d xs fe rest hen4 (by simp [fsExit, hds]) (by simp [fsExit, hdd])
            (by simp [fsExit, hst]) hfe (fun x hx => hex x (by simp [hx]))
            (by simp only [List.length_cons] at hk; omega)
      · -- not skipped: the pending line is printed, the main loop handles the record
        rw [if_neg hk2]
        obtain ⟨ow, hsim, hout⟩ := stepMain_sim c hnl (updEntry fs) r k hr
        exact ⟨ow, hsim, by simp [hout]⟩

/-- replay's loop shows what the fstack_check_filter loop shows: any option set, any depth-consistent stream -/
theorem sim_run (c : RCfg) (hnl : c.noLibcall = false) : ∀ (rs : List Rec) (k : Nat) (sA : FS) (sB : RS) (owed : List Rec),
    Sim c k sA sB owed → WFD k rs → runB c sB rs = owed ++ runSteps (stepA c) sA rs
  | [], k, sA, sB, owed, hs, _ => by
    cases hs with
    | idle => rfl
    | pend => rfl
  | r :: rs, k, sA, sB, owed, hs, hw => by
    simp only [WFD] at hw
    have hr : AtDepth k r := by
      rcases hw with ⟨a, b, _⟩ | ⟨a, b, c', _⟩
      · exact Or.inl ⟨a, b⟩
      · exact Or.inr ⟨a, b, c'⟩
    have hw' : WFD (if r.type = 0 then k + 1 else k - 1) rs := by
      rcases hw with ⟨a, b, w⟩ | ⟨a, b, c', w⟩
      · simpa [a] using w
      · have : ¬ r.type = 0 := by omega
        simpa [this] using w
    obtain ⟨ow, hsim, hout⟩ := sim_step c hnl k sA sB owed hs r hr
    simp only [runB, runSteps]
    rw [sim_run c hnl rs _ _ _ ow hsim hw', ← List.append_assoc, ← hout, List.append_assoc]

end Uft.Fstack

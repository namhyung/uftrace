/- C06: properly nested task streams as call trees, the per-task view of replay,
   and what replay shows for a tree. Core only. -/
import Uft.Lemmas.Replay
namespace Uft.Replay
open Uft.Merge

/-! ### call trees and their record streams -/

mutual
  /-- a completed call: function address, entry time, exit time, callees -/
  inductive Call where
    | node (addr tin tout : Nat) (kids : Calls)
  inductive Calls where
    | nil
    | cons (c : Call) (rest : Calls)
end

mutual
  /-- the records written for a call made at nesting depth `d` -/
  def recsCall (d : Nat) : Call → List Rec
    | .node a tin tout kids =>
      { time := tin, exit := false, depth := d, addr := a } :: (recsCalls (d + 1) kids ++
        [{ time := tout, exit := true, depth := d, addr := a }])
  def recsCalls (d : Nat) : Calls → List Rec
    | .nil => []
    | .cons c rest => recsCall d c ++ recsCalls d rest
end

mutual
  /-- what the property says replay must show (without folding) for a call at nesting
      depth `d` of task `i` whose display starts at offset `off`: both lines indented by
      `off + d`, the `}` line carrying `tout - tin` -/
  def shownCall (i off d : Nat) : Call → List Ev
    | .node a tin tout kids =>
      { kind := .entry, task := i, indent := off + d, fn := a, addr := a, dur := 0, time := tin } ::
        (shownCalls i off (d + 1) kids ++
        [{ kind := .exit, task := i, indent := off + d, fn := a, addr := a, dur := tout - tin, time := tout }])
  def shownCalls (i off d : Nat) : Calls → List Ev
    | .nil => []
    | .cons c rest => shownCall i off d c ++ shownCalls i off d rest
end

/-- a stream that stops with calls still open: completed calls, then optionally an open
    call (address, entry time) whose body is again such a stream -/
inductive OpenChain where
  | done (f : Calls)
  | call (f : Calls) (addr tin : Nat) (inner : OpenChain)

def recsOpen (d : Nat) : OpenChain → List Rec
  | .done f => recsCalls d f
  | .call f a tin inner =>
    recsCalls d f ++ ({ time := tin, exit := false, depth := d, addr := a } :: recsOpen (d + 1) inner)

/-- addresses of the calls left open, outermost first -/
def opens : OpenChain → List Nat
  | .done _ => []
  | .call _ a _ inner => a :: opens inner

/-! ### the per-task machine (no folding) -/

def stepNM (f : Nat → Bool) (i inh : Nat) (st : TaskSt) (r : Rec) : TaskSt × Ev :=
  if r.exit then (exitState (consume inh st r), exitEv i (consume inh st r) r)
  else (entryState f (consume inh st r) r, entryEv i (consume inh st r) r)

def runNM (f : Nat → Bool) (i inh : Nat) : TaskSt → List Rec → TaskSt × List Ev
  | st, [] => (st, [])
  | st, r :: rs =>
    ((runNM f i inh (stepNM f i inh st r).1 rs).1, (stepNM f i inh st r).2 :: (runNM f i inh (stepNM f i inh st r).1 rs).2)

theorem runNM_append (f : Nat → Bool) (i inh : Nat) (st : TaskSt) (a b : List Rec) :
    runNM f i inh st (a ++ b) =
      ((runNM f i inh (runNM f i inh st a).1 b).1, (runNM f i inh st a).2 ++ (runNM f i inh (runNM f i inh st a).1 b).2) := by
  induction a generalizing st with
  | nil => simp [runNM]
  | cons r rs ih => simp [runNM, ih]

theorem stepNM_started (f : Nat → Bool) (i inh : Nat) (st : TaskSt) (r : Rec) :
    (stepNM f i inh st r).1.started = true := by
  unfold stepNM; split <;> rfl

theorem stepNM_parent (f : Nat → Bool) (i inh : Nat) (st : TaskSt) (r : Rec) :
    (stepNM f i inh st r).1.parent = st.parent := by
  unfold stepNM; split <;> rfl

theorem stepNM_of_started {f : Nat → Bool} {i inh : Nat} {st : TaskSt} {r : Rec} (h : st.started = true) :
    stepNM f i inh st r = stepNM f i 0 st r := by
  simp [stepNM, consume_of_started (inh := inh) h]

theorem runNM_of_started {f : Nat → Bool} {i inh : Nat} {st : TaskSt} (rs : List Rec) (h : st.started = true) :
    runNM f i inh st rs = runNM f i 0 st rs := by
  induction rs generalizing st with
  | nil => simp [runNM]
  | cons r rs ih =>
    simp only [runNM, stepNM_of_started (inh := inh) h]
    rw [ih (stepNM_started f i 0 st r)]

/-! ### replay without folding, seen from one task -/

/-- the records of task `i` in a merged stream -/
def proj (i : Nat) (m : List (Nat × Rec)) : List Rec := (m.filter (fun p => p.1 == i)).map (·.2)

/-- the lines of task `i` -/
def linesOf (i : Nat) (evs : List Ev) : List Ev := evs.filter (fun e => e.task == i)

theorem replay_false_cons (f : Nat → Bool) (g : G) (j : Nat) (r : Rec) (rest : List (Nat × Rec)) :
    replay false f g ((j, r) :: rest) =
      ((replay false f (upd g j (stepNM f j (inhOf g j) (g j) r).1) rest).1,
       (stepNM f j (inhOf g j) (g j) r).2 :: (replay false f (upd g j (stepNM f j (inhOf g j) (g j) r).1) rest).2) := by
  cases rest with
  | nil => by_cases h : r.exit = true <;> simp [replay, stepNM, h]
  | cons p rest => by_cases h : r.exit = true <;> simp [replay, stepNM, h]

theorem stepNM_task (f : Nat → Bool) (j inh : Nat) (st : TaskSt) (r : Rec) : (stepNM f j inh st r).2.task = j := by
  unfold stepNM; split <;> rfl

/-- What replay shows for task `i` and where it leaves it depends only on the task's own records; the one
    outside influence is the display depth inherited at the task's first record. -/
theorem replay_false_proj (f : Nat → Bool) (i : Nat) :
    ∀ (m : List (Nat × Rec)) (g : G),
      ∃ inh, (linesOf i (replay false f g m).2 = (runNM f i inh (g i) (proj i m)).2 ∧
        (replay false f g m).1 i = (runNM f i inh (g i) (proj i m)).1) ∧
        ((g i).parent = none → inh = 0) := by
  intro m
  induction m with
  | nil => intro g; exact ⟨0, ⟨rfl, rfl⟩, fun _ => rfl⟩
  | cons p rest ih =>
    intro g
    obtain ⟨j, r⟩ := p
    obtain ⟨inh, h, h0⟩ := ih (upd g j (stepNM f j (inhOf g j) (g j) r).1)
    rw [replay_false_cons]
    by_cases hj : j = i
    · subst hj
      -- from its second record on the task is started, and the inherited depth is not looked at again
      rw [upd_same, runNM_of_started _ (stepNM_started f j (inhOf g j) (g j) r),
        ← runNM_of_started (inh := inhOf g j) _ (stepNM_started f j (inhOf g j) (g j) r)] at h
      refine ⟨inhOf g j, ?_, fun hp => by simp [inhOf, hp]⟩
      simpa [linesOf, proj, stepNM_task, runNM] using h
    · have hne : (j == i) = false := by simp [hj]
      rw [upd_other _ (fun e => hj e.symm)] at h h0
      refine ⟨inh, ?_, h0⟩
      simpa [linesOf, proj, stepNM_task, hne] using h

theorem proj_merge (ts : List (List Rec)) (i : Nat) : proj i (merge ts) = ts.getD i [] := by
  rw [← nth_eq_getD]
  exact mergeFuel_filter _ ts (Nat.le_refl _) i

/-- a task without a parent task, in the merged stream of any data set: its machine runs on its own records -/
theorem replay_root_task (f : Nat → Bool) (parents : List (Option Nat)) (ts : List (List Rec)) (i : Nat)
    (hroot : parents.getD i none = none) :
    linesOf i (replay false f (g0 parents) (merge ts)).2 = (runNM f i 0 (TaskSt.fresh none) (ts.getD i [])).2 ∧
    (replay false f (g0 parents) (merge ts)).1 i = (runNM f i 0 (TaskSt.fresh none) (ts.getD i [])).1 := by
  obtain ⟨inh, h, h0⟩ := replay_false_proj f i (merge ts) (g0 parents)
  rw [proj_merge, h0 hroot, g0, hroot] at h
  exact h

/-! ### a call tree through the per-task machine -/

/-- what a run over completed calls leaves behind: display depth, stack count and the
    frames below are as before -/
structure Framed (st out : TaskSt) : Prop where
  started : out.started = true
  disp : out.disp = st.disp
  count : out.stackCount = st.stackCount
  below : ∀ k, k < st.stackCount → out.slots k = st.slots k
  parent : out.parent = st.parent

theorem Framed.refl {st : TaskSt} (h : st.started = true) : Framed st st :=
  ⟨h, rfl, rfl, fun _ _ => rfl, rfl⟩

theorem Framed.trans {a b c : TaskSt} (h1 : Framed a b) (h2 : Framed b c) : Framed a c :=
  ⟨h2.started, h2.disp.trans h1.disp, h2.count.trans h1.count,
   fun k hk => (h2.below k (by rw [h1.count]; exact hk)).trans (h1.below k hk), h2.parent.trans h1.parent⟩

/-- the ENTRY line of a started task and the state it leaves -/
theorem entry_step (f : Nat → Bool) (i : Nat) (st : TaskSt) (r : Rec) (hs : st.started = true) (hr : r.exit = false) :
    (stepNM f i 0 st r).2 =
      { kind := .entry, task := i, indent := st.disp, fn := r.addr, addr := r.addr, dur := 0, time := r.time } ∧
    (stepNM f i 0 st r).1.started = true ∧
    (stepNM f i 0 st r).1.disp = st.disp + 1 ∧
    (stepNM f i 0 st r).1.stackCount = st.stackCount + 1 ∧
    (stepNM f i 0 st r).1.slots st.stackCount = { addr := r.addr, total := r.time, valid := true } ∧
    (∀ k, k < st.stackCount → (stepNM f i 0 st r).1.slots k = st.slots k) ∧
    (stepNM f i 0 st r).1.parent = st.parent := by
  simp only [stepNM, hr, Bool.false_eq_true, if_false, consume_entry hs hr]
  refine ⟨?_, hs, rfl, rfl, ?_, ?_, rfl⟩
  · simp [entryEv, setSlot]
  · simp [entryState, setSlot]
  · intro k hk
    have : k ≠ st.stackCount := Nat.ne_of_lt hk
    simp [entryState, setSlot, this]

/-- the EXIT line of a call whose frame is on top -/
theorem exit_step (f : Nat → Bool) (i : Nat) (st : TaskSt) (x : Rec) (c a tin : Nat)
    (hs : st.started = true) (hx : x.exit = true) (hc : st.stackCount = c + 1)
    (hslot : st.slots c = { addr := a, total := tin, valid := true }) :
    (stepNM f i 0 st x).2 =
      { kind := .exit, task := i, indent := st.disp - 1, fn := x.addr, addr := a, dur := x.time - tin, time := x.time } ∧
    (stepNM f i 0 st x).1.started = true ∧
    (stepNM f i 0 st x).1.disp = st.disp - 1 ∧
    (stepNM f i 0 st x).1.stackCount = c ∧
    (∀ k, k < c → (stepNM f i 0 st x).1.slots k = st.slots k) ∧
    (stepNM f i 0 st x).1.parent = st.parent := by
  simp only [stepNM, hx, if_true, consume_exit hs hx hc]
  refine ⟨?_, hs, rfl, rfl, ?_, rfl⟩
  · simp [exitEv, setSlot, hslot]
  · intro k hk
    have : k ≠ c := Nat.ne_of_lt hk
    simp [exitState, setSlot, this]

mutual
  theorem runNM_call (f : Nat → Bool) (i : Nat) : (c : Call) → (st : TaskSt) → (dd off d : Nat) →
      st.started = true → st.disp = off + d →
      (runNM f i 0 st (recsCall dd c)).2 = shownCall i off d c ∧ Framed st (runNM f i 0 st (recsCall dd c)).1
    | .node a tin tout kids, st, dd, off, d, hs, hd => by
      obtain ⟨e1, e2, e3, e4, e5, e6, e7⟩ :=
        entry_step f i st { time := tin, exit := false, depth := dd, addr := a } hs rfl
      have ih := runNM_calls f i kids
        (stepNM f i 0 st { time := tin, exit := false, depth := dd, addr := a }).1 (dd + 1) off (d + 1) e2
        (by rw [e3, hd, Nat.add_assoc])
      obtain ⟨il, ifr⟩ := ih
      have hc2 := ifr.count.trans e4
      have hslot := (ifr.below st.stackCount (by rw [e4]; exact Nat.lt_succ_self _)).trans e5
      obtain ⟨x1, x2, x3, x4, x5, x6⟩ :=
        exit_step f i _ { time := tout, exit := true, depth := dd, addr := a } st.stackCount a tin
          ifr.started rfl hc2 hslot
      simp only [recsCall, runNM, runNM_append, shownCall]
      refine ⟨?_, ?_⟩
      · rw [e1, il, x1, ifr.disp, e3, hd]
        simp
      · refine ⟨x2, ?_, x4, ?_, ?_⟩
        · rw [x3, ifr.disp, e3, Nat.add_sub_cancel]
        · intro k hk
          rw [x5 k hk, ifr.below k (by rw [e4]; exact Nat.lt_succ_of_lt hk), e6 k hk]
        · rw [x6, ifr.parent, e7]
  theorem runNM_calls (f : Nat → Bool) (i : Nat) : (cs : Calls) → (st : TaskSt) → (dd off d : Nat) →
      st.started = true → st.disp = off + d →
      (runNM f i 0 st (recsCalls dd cs)).2 = shownCalls i off d cs ∧ Framed st (runNM f i 0 st (recsCalls dd cs)).1
    | .nil, st, dd, off, d, hs, hd => by
      refine ⟨by simp [recsCalls, runNM, shownCalls], ?_⟩
      simp only [recsCalls, runNM]
      exact Framed.refl hs
    | .cons c rest, st, dd, off, d, hs, hd => by
      obtain ⟨l1, f1⟩ := runNM_call f i c st dd off d hs hd
      obtain ⟨l2, f2⟩ := runNM_calls f i rest (runNM f i 0 st (recsCall dd c)).1 dd off d f1.started
        (by rw [f1.disp, hd])
      simp only [recsCalls, runNM_append, shownCalls]
      exact ⟨by rw [l1, l2], f1.trans f2⟩
end

theorem Framed.openAddrs {st out : TaskSt} (h : Framed st out) : openAddrs out = openAddrs st := by
  unfold Replay.openAddrs
  rw [h.count]
  exact List.map_congr_left (fun k hk => by rw [h.below k (List.mem_range.1 hk)])

theorem openAddrs_push {s s' : TaskSt} {fr : Frame} (hc : s'.stackCount = s.stackCount + 1)
    (htop : s'.slots s.stackCount = fr) (hb : ∀ k, k < s.stackCount → s'.slots k = s.slots k) :
    openAddrs s' = openAddrs s ++ [fr.addr] := by
  unfold Replay.openAddrs
  rw [hc, List.range_succ, List.map_append, List.map_singleton, htop]
  congr 1
  exact List.map_congr_left (fun k hk => by rw [hb k (List.mem_range.1 hk)])

/-- a stream that stops with open calls: their frames are on the stack, in order, above what was there -/
theorem runNM_open (f : Nat → Bool) (i : Nat) (ch : OpenChain) :
    ∀ (st : TaskSt) (dd : Nat), st.started = true →
      openAddrs (runNM f i 0 st (recsOpen dd ch)).1 = openAddrs st ++ opens ch := by
  induction ch with
  | done cs =>
    intro st dd hs
    simp only [recsOpen, opens, List.append_nil]
    exact (runNM_calls f i cs st dd st.disp 0 hs rfl).2.openAddrs
  | call cs a tin inner ih =>
    intro st dd hs
    obtain ⟨_, fr⟩ := runNM_calls f i cs st dd st.disp 0 hs rfl
    obtain ⟨_, e2, _, e4, e5, e6, _⟩ :=
      entry_step f i (runNM f i 0 st (recsCalls dd cs)).1 { time := tin, exit := false, depth := dd, addr := a }
        fr.started rfl
    simp only [recsOpen, runNM_append, runNM, opens]
    rw [ih _ (dd + 1) e2, openAddrs_push e4 e5 e6, fr.openAddrs, List.append_assoc]
    rfl

/-! ### a task that starts at depth 0 (not forked) -/

/-- the fresh task, marked started -/
def TaskSt.base (parent : Option Nat) : TaskSt := { TaskSt.fresh parent with started := true }

theorem startTask_fresh (parent : Option Nat) (r : Rec) (hr : r.exit = false) (hd : r.depth = 0) :
    startTask 0 (TaskSt.fresh parent) r = TaskSt.base parent := by
  simp [startTask, TaskSt.fresh, TaskSt.base, firstCount, hr, hd]

theorem runNM_fresh_first (f : Nat → Bool) (i : Nat) (parent : Option Nat) (r : Rec) (rs : List Rec)
    (hr : r.exit = false) (hd : r.depth = 0) :
    runNM f i 0 (TaskSt.fresh parent) (r :: rs) = runNM f i 0 (TaskSt.base parent) (r :: rs) := by
  have h1 : consume 0 (TaskSt.fresh parent) r = consume 0 (TaskSt.base parent) r := by
    rw [consume_startTask, startTask_fresh parent r hr hd]
  simp only [runNM, stepNM, h1]

theorem recsCalls_head (d : Nat) (cs : Calls) :
    cs = .nil ∨ ∃ r rs, recsCalls d cs = r :: rs ∧ r.exit = false ∧ r.depth = d := by
  cases cs with
  | nil => left; rfl
  | cons c rest =>
    right
    cases c with
    | node a tin tout kids => exact ⟨_, _, by simp only [recsCalls, recsCall, List.cons_append]; rfl, rfl, rfl⟩

theorem recsOpen_head (d : Nat) (ch : OpenChain) :
    recsOpen d ch = [] ∧ opens ch = [] ∨ ∃ r rs, recsOpen d ch = r :: rs ∧ r.exit = false ∧ r.depth = d := by
  cases ch with
  | done cs =>
    rcases recsCalls_head d cs with h | h
    · left; subst h; exact ⟨rfl, rfl⟩
    · exact Or.inr h
  | call cs a tin inner =>
    right
    rcases recsCalls_head d cs with h | ⟨r, rs, h, h1, h2⟩
    · subst h; exact ⟨_, _, by simp only [recsOpen, recsCalls, List.nil_append]; rfl, rfl, rfl⟩
    · exact ⟨r, rs ++ _, by simp only [recsOpen, h, List.cons_append]; rfl, h1, h2⟩

/-- a task whose records are a forest of completed calls starting at depth 0 -/
theorem runNM_root_calls (f : Nat → Bool) (i : Nat) (parent : Option Nat) (cs : Calls) :
    (runNM f i 0 (TaskSt.fresh parent) (recsCalls 0 cs)).2 = shownCalls i 0 0 cs := by
  rcases recsCalls_head 0 cs with h | ⟨r, rs, h, h1, h2⟩
  · subst h; simp [recsCalls, runNM, shownCalls]
  · rw [h, runNM_fresh_first f i parent r rs h1 h2, ← h]
    exact (runNM_calls f i cs (TaskSt.base parent) 0 0 0 rfl rfl).1

theorem runNM_root_open (f : Nat → Bool) (i : Nat) (parent : Option Nat) (ch : OpenChain) :
    openAddrs (runNM f i 0 (TaskSt.fresh parent) (recsOpen 0 ch)).1 = opens ch := by
  rcases recsOpen_head 0 ch with ⟨h, ho⟩ | ⟨r, rs, h, h1, h2⟩
  · rw [h, ho]
    rfl
  · rw [h, runNM_fresh_first f i parent r rs h1 h2, ← h, runNM_open f i ch (TaskSt.base parent) 0 rfl]
    rfl

/-- `print_remaining_stack` for a task whose stack holds exactly the open calls `os` (none at address 0) -/
theorem remainingOf_eq {s : TaskSt} {os : List Nat} (ho : openAddrs s = os) (hnz : ∀ a ∈ os, a ≠ 0) :
    remainingOf s = os.zipIdx.reverse.map (fun p => (p.2, p.1)) ∧
    (zeroCount s = s.stackCount ↔ os = []) := by
  have hc : s.stackCount = os.length := by simp [← ho, openAddrs]
  have hz : zeroCount s = 0 := by
    unfold zeroCount
    rw [ho]
    cases os with
    | nil => rfl
    | cons a os =>
      have hb : (a == 0) = false := by simpa using hnz a (by simp)
      simp [List.takeWhile, hb]
  refine ⟨by simp [remainingOf, ho, hz], ?_⟩
  rw [hz, hc]
  constructor
  · intro h; exact List.eq_nil_of_length_eq_zero h.symm
  · intro h; simp [h]

/-! ### `--tid`: replaying a selection of the tasks -/

theorem inhOf_congr {gA gB : G} {j : Nat} (hj : gA j = gB j)
    (hp : ∀ p, (gA j).parent = some p → gA p = gB p) : inhOf gA j = inhOf gB j := by
  unfold inhOf
  rw [← hj]
  cases h : (gA j).parent with
  | none => rfl
  | some p => simp [hp p h]

theorem upd_stepNM_parent (f : Nat → Bool) (g : G) (j inh : Nat) (r : Rec) (i : Nat) :
    (upd g j (stepNM f j inh (g j) r).1 i).parent = (g i).parent := by
  by_cases hij : i = j
  · subst hij; rw [upd_same, stepNM_parent]
  · rw [upd_other _ hij]

/-- replaying only the selected tasks shows, for them, what the full replay shows: provided a
    selected task's parent task is selected too (otherwise the fork depth cannot be inherited) -/
theorem replay_false_filter (f : Nat → Bool) (sel : Nat → Bool) :
    ∀ (m : List (Nat × Rec)) (gA gB : G), (∀ i, sel i = true → gA i = gB i) →
      (∀ i, sel i = true → ∀ p, (gA i).parent = some p → sel p = true) →
      (replay false f gB (m.filter (fun p => sel p.1))).2 = (replay false f gA m).2.filter (fun e => sel e.task) ∧
      ∀ i, sel i = true → (replay false f gB (m.filter (fun p => sel p.1))).1 i = (replay false f gA m).1 i := by
  intro m
  induction m with
  | nil => intro gA gB h _; exact ⟨rfl, fun i hi => (h i hi).symm⟩
  | cons q rest ih =>
    intro gA gB hrel hcl
    obtain ⟨j, r⟩ := q
    rw [replay_false_cons f gA]
    have hcl' : ∀ i, sel i = true → ∀ p, (upd gA j (stepNM f j (inhOf gA j) (gA j) r).1 i).parent = some p →
        sel p = true := fun i hi p hp => hcl i hi p (by rwa [upd_stepNM_parent] at hp)
    by_cases hs : sel j = true
    · rw [List.filter_cons_of_pos (p := fun p => sel p.1) (a := (j, r)) hs, replay_false_cons f gB,
        ← inhOf_congr (hrel j hs) (fun p hp => hrel p (hcl j hs p hp)), ← hrel j hs,
        List.filter_cons_of_pos (by rw [stepNM_task]; exact hs)]
      have := ih _ (upd gB j (stepNM f j (inhOf gA j) (gA j) r).1) (fun i hi => by
        by_cases hij : i = j
        · subst hij; rw [upd_same, upd_same]
        · rw [upd_other _ hij, upd_other _ hij]; exact hrel i hi) hcl'
      exact ⟨by rw [this.1], this.2⟩
    · rw [List.filter_cons_of_neg (p := fun p => sel p.1) (a := (j, r)) hs,
        List.filter_cons_of_neg (by rw [stepNM_task]; exact hs)]
      exact ih _ gB (fun i hi => by
        rw [upd_other _ (fun e : i = j => hs (e ▸ hi))]
        exact hrel i hi) hcl'

/-! ### `--column-view` -/

/-- moving a line by `n` columns -/
def Ev.shift (n : Nat) (e : Ev) : Ev := { e with indent := e.indent + n }

theorem columnize_spec (off : Nat) : ∀ (evs : List Ev) (a : List (Nat × Nat)),
    ∃ col : Nat → Nat, columnize off a evs = evs.map (fun e => e.shift (col e.task * off)) ∧
      ∀ t c, a.lookup t = some c → col t = c := by
  intro evs
  induction evs with
  | nil => intro a; exact ⟨fun t => (a.lookup t).getD 0, by simp [columnize], fun t c h => by simp [h]⟩
  | cons e es ih =>
    intro a
    cases h : a.lookup e.task with
    | some c =>
      obtain ⟨col, h1, h2⟩ := ih a
      refine ⟨col, ?_, h2⟩
      simp only [columnize, h, List.map_cons, h1, Ev.shift, h2 _ _ h]
    | none =>
      obtain ⟨col, h1, h2⟩ := ih (a ++ [(e.task, a.length)])
      have hl : ∀ t c, a.lookup t = some c → (a ++ [(e.task, a.length)]).lookup t = some c := by
        intro t c ht
        simp [List.lookup_append, ht]
      have he : (a ++ [(e.task, a.length)]).lookup e.task = some a.length := by
        simp [List.lookup_append, h, List.lookup]
      refine ⟨col, ?_, fun t c ht => h2 t c (hl t c ht)⟩
      simp only [columnize, h, List.map_cons, h1, Ev.shift, h2 _ _ he]

/-! ### well-formed task streams -/

/-- well-formedness of one task's stream that makes `PairsOK` hold for the merged stream -/
def TaskOK : List Rec → Prop
  | r :: x :: rest =>
    (r.exit = false → x.exit = true → x.depth = r.depth → x.addr = r.addr ∧ r.time ≤ x.time) ∧ TaskOK (x :: rest)
  | _ => True

theorem taskOK_tail {r : Rec} {t : List Rec} (h : TaskOK (r :: t)) : TaskOK t := by
  cases t with
  | nil => simp [TaskOK]
  | cons x t => exact h.2

theorem pairsOK_mergeFuel (n : Nat) : ∀ ts : List (List Rec), (∀ j, TaskOK (nth ts j)) → PairsOK (mergeFuel n ts) := by
  induction n with
  | zero => intro ts _; simp [mergeFuel, PairsOK]
  | succ n ih =>
    intro ts hok
    rcases mergeFuel_succ n ts with ⟨he, _⟩ | ⟨i, r, rest, hi, _, he⟩
    · rw [he]; simp [PairsOK]
    · have ih' := ih (ts.set i rest) (forall_nth_set hok hi taskOK_tail)
      rw [he]
      cases n with
      | zero => simp [mergeFuel, PairsOK]
      | succ n =>
        rcases mergeFuel_succ n (ts.set i rest) with ⟨he2, _⟩ | ⟨j, x, rest2, hj, _, he2⟩
        · rw [he2]; simp [PairsOK]
        · rw [he2] at ih' ⊢
          refine ⟨?_, ih'⟩
          intro hr hf
          obtain ⟨⟨rfl, hd⟩, hx⟩ := foldsWith_iff.1 hf
          rw [nth_set] at hj
          simp only [true_and, lt_length_of_nth hi, if_true] at hj
          have := hok j
          rw [hi, hj] at this
          exact this.1 hr hx hd

theorem pairsOK_merge {ts : List (List Rec)} (h : ∀ t ∈ ts, TaskOK t) : PairsOK (merge ts) :=
  pairsOK_mergeFuel _ ts (forall_nth (by simp [TaskOK]) h)

mutual
  /-- no call returns before it was entered -/
  def Call.timed : Call → Prop
    | .node _ tin tout kids => tin ≤ tout ∧ kids.timed
  def Calls.timed : Calls → Prop
    | .nil => True
    | .cons c rest => c.timed ∧ rest.timed
end

mutual
  /-- The stream of completed calls is well-formed and stays so whatever well-formed stream follows it: it ends
      with an EXIT, which constrains nothing after it. -/
  theorem taskOK_recsCall_append (d : Nat) : (c : Call) → c.timed → ∀ b, TaskOK b → TaskOK (recsCall d c ++ b)
    | .node a tin tout kids, h, b, hb => by
      have hx : TaskOK ({ time := tout, exit := true, depth := d, addr := a } :: b) := by
        cases b with
        | nil => trivial
        | cons y b => exact ⟨fun hr => Bool.noConfusion hr, hb⟩
      have hk := taskOK_recsCalls_append (d + 1) kids h.2 _ hx
      simp only [recsCall, List.cons_append, List.append_assoc]
      rcases recsCalls_head (d + 1) kids with hn | ⟨r, rs, he, hr, _⟩
      · subst hn
        exact ⟨fun _ _ _ => ⟨rfl, h.1⟩, hk⟩
      · rw [he] at hk ⊢
        exact ⟨fun _ hx _ => Bool.noConfusion (hr.symm.trans hx), hk⟩
  theorem taskOK_recsCalls_append (d : Nat) : (cs : Calls) → cs.timed → ∀ b, TaskOK b → TaskOK (recsCalls d cs ++ b)
    | .nil, _, _, hb => hb
    | .cons c rest, h, b, hb => by
      simp only [recsCalls, List.append_assoc]
      exact taskOK_recsCall_append d c h.1 _ (taskOK_recsCalls_append d rest h.2 b hb)
end

theorem taskOK_recsCall (d : Nat) : (c : Call) → c.timed → TaskOK (recsCall d c) :=
  fun c h => by simpa using taskOK_recsCall_append d c h [] trivial

end Uft.Replay

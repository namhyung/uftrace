import Uft.Model.SymFile
import Uft.Lemmas.Symtab
/- Helper lemmas for C10: the sort, well-formedness after loading, reading back a saved file,
   and the file names the writer and the reader of a symbol directory settle on. -/
namespace Uft.SymFile
open Uft.Symtab

/-! ### sortByAddr is an address-sorted permutation, and the identity on sorted input -/

theorem insertByAddr_eq (s : Sym) (l : List Sym) :
    insertByAddr s l = insertBefore (fun x => decide (s.addr ≤ x.addr)) s l := by
  induction l with
  | nil => rfl
  | cons x r ih => simp only [insertByAddr, insertBefore, ih, decide_eq_true_eq]

theorem insertByAddr_perm (s : Sym) (l : List Sym) : (insertByAddr s l).Perm (s :: l) :=
  insertByAddr_eq s l ▸ insertBefore_perm _ s l

theorem sortByAddr_perm (l : List Sym) : (sortByAddr l).Perm l := by
  induction l with
  | nil => simp [sortByAddr]
  | cons x r ih =>
    simp only [sortByAddr]
    exact (insertByAddr_perm x _).trans (List.Perm.cons x ih)

theorem insertByAddr_sorted (s : Sym) (l : List Sym) (h : AddrSorted l) :
    AddrSorted (insertByAddr s l) := by
  rw [insertByAddr_eq]
  refine insertBefore_pairwise _ _ s (fun x hx => ?_) (fun x hx => ?_) l h
  · have : s.addr ≤ x.addr := by simpa using hx
    exact ⟨this, fun y hy => Nat.le_trans this hy⟩
  · have : ¬ s.addr ≤ x.addr := by simpa using hx
    exact Nat.le_of_lt (Nat.lt_of_not_le this)

theorem sortByAddr_sorted (l : List Sym) : AddrSorted (sortByAddr l) := by
  induction l with
  | nil => simp [sortByAddr, AddrSorted]
  | cons x r ih => exact insertByAddr_sorted x _ ih

theorem sortByAddr_of_sorted (l : List Sym) (h : AddrSorted l) : sortByAddr l = l := by
  unfold AddrSorted at h
  induction l with
  | nil => rfl
  | cons x r ih =>
    have hx := (List.pairwise_cons.mp h).1
    have hr := (List.pairwise_cons.mp h).2
    simp only [sortByAddr, ih hr]
    cases r with
    | nil => rfl
    | cons y r' => simp [insertByAddr, hx y (by simp)]

/-! ### no proper overlap ⇒ well-formed after sorting -/

theorem NoClash.symm {x y : Sym} (h : NoClash x y) : NoClash y x := ⟨h.2, h.1⟩

theorem wf_of_sorted_noclash (t : List Sym) (hs : AddrSorted t) (hn : NoProperOverlap t) :
    WellFormed t := by
  unfold WellFormed
  have := List.Pairwise.and hs hn
  refine List.Pairwise.imp ?_ this
  intro a b ⟨h1, h2⟩
  exact ⟨h1, h2.1 h1⟩

theorem noProperOverlap_perm {l₁ l₂ : List Sym} (p : l₁.Perm l₂) (h : NoProperOverlap l₁) :
    NoProperOverlap l₂ :=
  p.pairwise h (fun h => NoClash.symm h)

theorem wf_sort_of_noclash (t : List Sym) (hn : NoProperOverlap t) : WellFormed (sortByAddr t) :=
  wf_of_sorted_noclash _ (sortByAddr_sorted t) (noProperOverlap_perm (sortByAddr_perm t).symm hn)

/-! ### the loader never stores a `__sym_end` marker -/

theorem not_symend_of_x64 (name : List Char) (h : name.take 5 = ['_','_','x','6','4']) :
    isSymbolEnd name = false := by
  cases hn : isSymbolEnd name with
  | false => rfl
  | true =>
    exfalso
    simp only [isSymbolEnd, symEndNames, List.contains_eq_mem, List.mem_cons, List.not_mem_nil,
      or_false, decide_eq_true_eq] at hn
    rcases hn with e | e | e <;> (subst e; revert h; decide)

theorem not_symend_of_sys (rest : List Char) : isSymbolEnd (['s','y','s','_'] ++ rest) = false := by
  simp [isSymbolEnd, symEndNames]

theorem renameSyS_no_symend (old name : List Char) (h : isSymbolEnd old = false) :
    isSymbolEnd (renameSyS old name) = false := by
  unfold renameSyS
  split
  · rename_i h1; rw [h1.2.1]; exact not_symend_of_sys _
  · exact h

theorem renameIa32_no_symend (old name : List Char) (h : isSymbolEnd old = false) :
    isSymbolEnd (renameIa32 old name) = false := by
  unfold renameIa32
  split
  · rename_i h1; exact not_symend_of_x64 name h1.2.1
  · exact h

theorem renameLast_no_symend (rev : List Sym) (name : List Char)
    (h : ∀ s ∈ rev, isSymbolEnd s.name = false) :
    ∀ s ∈ renameLast rev name, isSymbolEnd s.name = false := by
  cases rev with
  | nil => simp [renameLast]
  | cons x r =>
    intro s hs
    simp only [renameLast, List.mem_cons] at hs
    rcases hs with e | e
    · subst e
      exact renameIa32_no_symend _ _ (renameSyS_no_symend _ _ (h x (by simp)))
    · exact h s (by simp [e])

theorem fillLast_names (rev : List Sym) (upto : Nat) (P : List Char → Prop)
    (h : ∀ s ∈ rev, P s.name) : ∀ s ∈ fillLast rev upto, P s.name := by
  cases rev with
  | nil => simp [fillLast]
  | cons x r =>
    intro s hs
    simp only [fillLast] at hs
    split at hs
    · rcases List.mem_cons.mp hs with e | e
      · subst e; exact h x (by simp)
      · exact h s (by simp [e])
    · exact h s hs

theorem loadLine_no_symend (off : Nat) (st : LdSt) (line : List Char)
    (h : ∀ s ∈ st.rev, isSymbolEnd s.name = false) :
    ∀ s ∈ (loadLine off st line).rev, isSymbolEnd s.name = false := by
  unfold loadLine
  split
  · exact h
  · unfold loadFields
    split
    · exact renameLast_no_symend _ _ h
    · split
      · exact h
      · split
        · exact fillLast_names _ _ (fun n => isSymbolEnd n = false) h
        · rename_i hne
          intro s hs
          rcases List.mem_cons.mp hs with e | e
          · subst e; simp only; simpa using (not_or.mp hne).2
          · exact fillLast_names _ _ (fun n => isSymbolEnd n = false) h s e

theorem rawLoad_no_symend (off : Nat) (text : List Char) :
    ∀ s ∈ rawLoad off text, isSymbolEnd s.name = false := by
  unfold rawLoad
  suffices hgen : ∀ (lines : List (List Char)) (st : LdSt),
      (∀ s ∈ st.rev, isSymbolEnd s.name = false) →
      ∀ s ∈ (lines.foldl (loadLine off) st).rev, isSymbolEnd s.name = false by
    intro s hs
    exact hgen _ {} (by simp) s (by simpa using hs)
  intro lines
  induction lines with
  | nil => intro st h; exact h
  | cons l r ih => intro st h; exact ih _ (loadLine_no_symend off st l h)

/-! ### reading back what `save_module_symbol_file` wrote -/

theorem hexVal_hexDigit : ∀ d, d < 16 → hexVal (hexDigit d) = some d := by decide

theorem hexDigit_ne (d : Nat) (hd : d < 16) (c : Char) (hc : hexVal c = none) : hexDigit d ≠ c := by
  intro e
  rw [← e, hexVal_hexDigit d hd] at hc
  cases hc

theorem hexDigit_not_space : ∀ d, d < 16 → isSpaceC (hexDigit d) = false := by decide

theorem hexDigit_isDigit : ∀ d, d < 10 → (hexDigit d).isDigit = true := by decide

theorem hexVal_space : hexVal ' ' = none := by decide

/-- parsing what `%0<w>x` printed, followed by a blank -/
theorem hexDigits_hexFixed (w n acc : Nat) (rest : List Char) :
    hexDigits (hexFixed w n ++ ' ' :: rest) acc = (acc * 16 ^ w + n % 16 ^ w, ' ' :: rest) := by
  induction w generalizing acc with
  | zero => simp [hexFixed, hexDigits, hexVal_space, Nat.mod_one]
  | succ w ih =>
    simp only [hexFixed, List.cons_append, hexDigits]
    rw [hexVal_hexDigit _ (Nat.mod_lt _ (by decide))]
    simp only
    rw [ih]
    congr 1
    rw [Nat.mod_pow_succ (b := 16) (k := w) (x := n), Nat.pow_succ]
    rw [Nat.add_mul, Nat.mul_assoc, Nat.mul_comm 16 (16 ^ w), Nat.mul_comm (n / 16 ^ w % 16) (16 ^ w)]
    omega

theorem stripSign_other (c : Char) (tl : List Char) (m0 : c ≠ '-') (p0 : c ≠ '+') :
    stripSign (c :: tl) = (false, c :: tl) := by
  unfold stripSign
  split
  · rename_i h; simp at h; exact absurd h.1 m0
  · rename_i h; simp at h; exact absurd h.1 p0
  · rfl

theorem strip0x_other (c0 c1 : Char) (tl : List Char) (x1 : c1 ≠ 'x') (X1 : c1 ≠ 'X') :
    strip0x (c0 :: c1 :: tl) = c0 :: c1 :: tl := by
  unfold strip0x
  split
  · rename_i x h r heq
    simp only [List.cons.injEq] at heq
    obtain ⟨_, hx, _⟩ := heq
    subst hx
    simp [x1, X1]
  · rfl

/-- `strtoull` on what `%0<w>x` printed (at least 2 digits, value in range), followed by a blank -/
theorem strtoHex_hexFixed (w n : Nat) (rest : List Char) (hn : n < 16 ^ (w + 2))
    (h64 : 16 ^ (w + 2) ≤ U64) :
    strtoHex (hexFixed (w + 2) n ++ ' ' :: rest) = (n, ' ' :: rest) := by
  have key := hexDigits_hexFixed (w + 2) n 0 rest
  have d0 : n / 16 ^ (w + 1) % 16 < 16 := Nat.mod_lt _ (by decide)
  have d1 : n / 16 ^ w % 16 < 16 := Nat.mod_lt _ (by decide)
  simp only [hexFixed, List.cons_append] at key ⊢
  unfold strtoHex
  rw [List.dropWhile_cons_of_neg (by simp [hexDigit_not_space _ d0])]
  rw [stripSign_other _ _ (hexDigit_ne _ d0 '-' (by decide)) (hexDigit_ne _ d0 '+' (by decide))]
  simp only
  rw [strip0x_other _ _ _ (hexDigit_ne _ d1 'x' (by decide)) (hexDigit_ne _ d1 'X' (by decide))]
  simp only [hexVal_hexDigit _ d0, Option.isSome_some, if_true, key]
  rw [Nat.mod_eq_of_lt hn]
  simp
  omega

theorem parseFields_saved (A S : Nat) (ty : Char) (name : List Char) (hA : A < U64)
    (hS : S < 0xa0000000) :
    parseFields (hexFixed 16 A ++ ' ' :: (hexFixed 8 S ++ ' ' :: ty :: ' ' :: name))
      = some (A, S % U32, ty, cutTab name) := by
  have hd : S / 16 ^ 7 % 16 < 10 := by omega
  have step1 := strtoHex_hexFixed 14 A (hexFixed 8 S ++ ' ' :: ty :: ' ' :: name)
    (by unfold U64 at hA; omega) (by unfold U64; decide)
  have step2 : strtoHex (hexDigit (S / 16 ^ 7 % 16) :: (hexFixed 7 S ++ ' ' :: ty :: ' ' :: name))
      = (S, ' ' :: ty :: ' ' :: name) :=
    strtoHex_hexFixed 6 S (ty :: ' ' :: name) (by omega) (by unfold U64; decide)
  unfold parseFields
  rw [step1]
  simp only
  rw [show hexFixed 8 S = hexDigit (S / 16 ^ 7 % 16) :: hexFixed 7 S from rfl, List.cons_append]
  simp only [hexDigit_isDigit _ hd, if_true]
  rw [step2]
  rfl

theorem cutTab_of_noTab (n : List Char) (h : '\t' ∉ n) : cutTab n = n := by
  unfold cutTab
  induction n with
  | nil => rfl
  | cons c r ih =>
    have hc : c ≠ '\t' := fun e => h (by simp [e])
    have hr : '\t' ∉ r := fun e => h (by simp [e])
    simp [hc, ih hr]

/-! ### lines -/

theorem splitLinesAux_line (l rest cur : List Char) (h : '\n' ∉ l) :
    splitLinesAux (l ++ '\n' :: rest) cur = (cur.reverse ++ l) :: splitLinesAux rest [] := by
  induction l generalizing cur with
  | nil => simp [splitLinesAux]
  | cons c r ih =>
    have hc : c ≠ '\n' := fun e => h (by simp [e])
    have hr : '\n' ∉ r := fun e => h (by simp [e])
    simp only [List.cons_append, splitLinesAux, hc, if_false]
    rw [ih _ hr]
    simp

def unlines (ls : List (List Char)) : List Char := (ls.map (· ++ ['\n'])).flatten

theorem splitLines_unlines (ls : List (List Char)) (h : ∀ l ∈ ls, '\n' ∉ l) :
    splitLines (unlines ls) = ls := by
  unfold splitLines unlines
  induction ls with
  | nil => rfl
  | cons l r ih =>
    simp only [List.map_cons, List.flatten_cons, List.append_assoc, List.singleton_append]
    rw [splitLinesAux_line _ _ _ (h l (by simp)), ih (fun x hx => h x (by simp [hx]))]
    rfl

theorem decDigit_ne_nl : ∀ d, decDigit d ≠ '\n' := by
  intro d; unfold decDigit; split <;> decide

theorem decDigitsAux_no_nl (fuel n : Nat) (acc : List Char) (h : '\n' ∉ acc) :
    '\n' ∉ decDigitsAux fuel n acc := by
  induction fuel generalizing n acc with
  | zero => simpa [decDigitsAux] using h
  | succ k ih =>
    have hacc : '\n' ∉ decDigit (n % 10) :: acc := by
      intro hm
      rcases List.mem_cons.mp hm with e | e
      · exact decDigit_ne_nl _ e.symm
      · exact h e
    simp only [decDigitsAux]
    split
    · exact hacc
    · exact ih _ _ hacc

/-- what `save_module_symbol_file` can write and `load_module_symbol_file` reads back unchanged -/
structure SaveOk (s : Sym) : Prop where
  addr : s.addr < U64
  sizePos : 0 < s.size
  sizeLt : s.size < 0xa0000000
  type : s.type ∈ allowedTypes
  typeNe : s.type ≠ '?'
  noTab : '\t' ∉ s.name
  noNl : '\n' ∉ s.name
  notEnd : isSymbolEnd s.name = false

instance (s : Sym) : Decidable (SaveOk s) :=
  decidable_of_iff
    (s.addr < U64 ∧ 0 < s.size ∧ s.size < 0xa0000000 ∧ s.type ∈ allowedTypes ∧ s.type ≠ '?' ∧
      '\t' ∉ s.name ∧ '\n' ∉ s.name ∧ isSymbolEnd s.name = false)
    ⟨fun ⟨a, b, c, d, e, f, g, h⟩ => ⟨a, b, c, d, e, f, g, h⟩,
     fun h => ⟨h.addr, h.sizePos, h.sizeLt, h.type, h.typeNe, h.noTab, h.noNl, h.notEnd⟩⟩

/-- no two consecutive entries with the same (addr, type) -/
def NoAdjDup : List Sym → Prop
  | [] => True
  | [_] => True
  | a :: b :: r => ¬ (a.addr = b.addr ∧ a.type = b.type) ∧ NoAdjDup (b :: r)

/-! ### the header of a saved file

The three `# ...: ` prefixes are spelt out once as character lists, so that no proof has to
evaluate a string literal. -/

def symPre : List Char := ['#',' ','s','y','m','b','o','l','s',':',' ']
def pathPre : List Char := ['#',' ','p','a','t','h',' ','n','a','m','e',':',' ']
def bidPre : List Char := ['#',' ','b','u','i','l','d','-','i','d',':',' ']

theorem symPre_eq : "# symbols: ".toList = symPre := String.toList_ofList
theorem pathPre_eq : "# path name: ".toList = pathPre := String.toList_ofList
theorem bidPre_eq : "# build-id: ".toList = bidPre := String.toList_ofList

/-- the header lines of a saved file -/
def hdrLines (n : Nat) (path bid : List Char) : List (List Char) :=
  [symPre ++ decDigits n, pathPre ++ path] ++ (if bid.isEmpty then [] else [bidPre ++ bid])

theorem save_eq (off : Nat) (path bid : List Char) (t : List Sym) (hne : t ≠ []) :
    save off path bid t = unlines (hdrLines t.length path bid ++ t.map (saveLine off)) := by
  have hte : t.isEmpty = false := by simpa using hne
  unfold save header hdrLines unlines
  rw [hte, symPre_eq, pathPre_eq, bidPre_eq]
  cases bid.isEmpty <;> simp [Function.comp_def]

theorem hdrLines_spec (n : Nat) (path bid : List Char) (hp : '\n' ∉ path) (hb : '\n' ∉ bid) :
    ∀ l ∈ hdrLines n path bid, (∃ r, l = '#' :: r) ∧ '\n' ∉ l := by
  intro l hl
  simp only [hdrLines, List.mem_append, List.mem_cons, List.not_mem_nil, or_false] at hl
  rcases hl with (e | e) | hl
  · subst e
    exact ⟨⟨_, rfl⟩, by simp [symPre, decDigits, decDigitsAux_no_nl]⟩
  · subst e
    exact ⟨⟨_, rfl⟩, by simp [pathPre, hp]⟩
  · split at hl
    · cases hl
    · rw [List.mem_singleton.mp hl]
      exact ⟨⟨_, rfl⟩, by simp [bidPre, hb]⟩

/-! ### the symbol lines of a saved file -/

theorem hexFixed_no_nl (w n : Nat) : '\n' ∉ hexFixed w n := by
  induction w with
  | zero => simp [hexFixed]
  | succ w ih =>
    simp only [hexFixed, List.mem_cons, not_or]
    exact ⟨fun e => hexDigit_ne _ (Nat.mod_lt _ (by decide)) '\n' (by decide) e.symm, ih⟩

theorem allowed_ne_nl : ∀ c ∈ allowedTypes, c ≠ '\n' ∧ c ≠ 'X' := by decide

theorem saveLine_eq (off : Nat) (s : Sym) : saveLine off s =
    hexFixed 16 (saveLine.sub64 s.addr off) ++
      ' ' :: (hexFixed 8 (s.size % U32) ++ ' ' :: s.type :: ' ' :: s.name) := rfl

theorem saveLine_no_nl (off : Nat) (s : Sym) (h : SaveOk s) : '\n' ∉ saveLine off s := by
  rw [saveLine_eq]
  simp only [List.mem_append, List.mem_cons, not_or]
  refine ⟨hexFixed_no_nl _ _, by decide, hexFixed_no_nl _ _, by decide, ?_, by decide, h.noNl⟩
  exact fun e => (allowed_ne_nl _ h.type).1 e.symm

theorem splitLines_save (off : Nat) (path bid : List Char) (t : List Sym)
    (hp : '\n' ∉ path) (hb : '\n' ∉ bid) (hok : ∀ s ∈ t, SaveOk s) (hne : t ≠ []) :
    splitLines (save off path bid t) = hdrLines t.length path bid ++ t.map (saveLine off) := by
  rw [save_eq off path bid t hne, splitLines_unlines]
  intro l hl'
  rcases List.mem_append.mp hl' with h | h
  · exact (hdrLines_spec _ _ _ hp hb l h).2
  · obtain ⟨s, hs, e⟩ := List.mem_map.mp h
    exact e ▸ saveLine_no_nl off s (hok s hs)

theorem saveLine_head (off : Nat) (s : Sym) :
    ∃ d tl, d < 16 ∧ saveLine off s = hexDigit d :: tl :=
  ⟨_, _, Nat.mod_lt _ (by decide), rfl⟩

theorem parseLine_saveLine (off : Nat) (s : Sym) (h : SaveOk s) :
    parseLine (saveLine off s) = some (saveLine.sub64 s.addr off, s.size, s.type, s.name) := by
  have hS : s.size % U32 = s.size := Nat.mod_eq_of_lt (by have := h.sizeLt; unfold U32; omega)
  have hA : saveLine.sub64 s.addr off < U64 := by unfold saveLine.sub64 U64; omega
  have key := parseFields_saved (saveLine.sub64 s.addr off) s.size s.type s.name hA h.sizeLt
  rw [hS, cutTab_of_noTab _ h.noTab] at key
  obtain ⟨d, tl, hd, e⟩ := saveLine_head off s
  rw [saveLine_eq, hS] at e ⊢
  rw [← key, e]
  unfold parseLine
  split
  · rename_i heq
    exact absurd (List.cons.inj heq).1 (hexDigit_ne d hd '#' (by decide))
  · rfl

theorem sub64_add (a off : Nat) (h : a < U64) : (saveLine.sub64 a off + off) % U64 = a := by
  have ho : off % U64 < U64 := Nat.mod_lt _ (by decide)
  have hoff := Nat.mod_add_div off U64
  unfold saveLine.sub64
  rw [Nat.mod_add_mod, show a + U64 - off % U64 + off = a + U64 + U64 * (off / U64) by omega,
    Nat.add_mul_mod_self_left, Nat.add_mod_right, Nat.mod_eq_of_lt h]

theorem sub64_inj (a b off : Nat) (ha : a < U64) (hb : b < U64)
    (h : saveLine.sub64 a off = saveLine.sub64 b off) : a = b := by
  rw [← sub64_add a off ha, ← sub64_add b off hb, h]

/-! ### the loader on the lines of a saved file -/

theorem foldl_hash (off : Nat) (ls : List (List Char)) (st : LdSt)
    (h : ∀ l ∈ ls, ∃ r, l = '#' :: r) : ls.foldl (loadLine off) st = st := by
  induction ls generalizing st with
  | nil => rfl
  | cons l r ih =>
    obtain ⟨x, hx⟩ := h l (by simp)
    have hl : loadLine off st l = st := by
      unfold loadLine
      rw [hx, show parseLine ('#' :: x) = none from rfl]
    rw [List.foldl_cons, hl]
    exact ih st (fun l' hl' => h l' (by simp [hl']))

theorem loadFields_fresh (off : Nat) (st : LdSt) (addr size : Nat) (ty : Char) (name : List Char)
    (hdup : ¬ (addr = st.prevAddr ∧ ty = st.prevType))
    (hty : ty ∈ allowedTypes) (hq : ty ≠ '?') (hne : isSymbolEnd name = false)
    (hhead : ∀ x ∈ st.rev.head?, x.size ≠ 0) :
    loadFields off st addr size ty name =
      { rev := { addr := (addr + off) % U64, size := size, type := ty, name := name } :: st.rev,
        prevAddr := addr, prevType := ty } := by
  have hfill : ∀ a, fillLast st.rev a = st.rev := by
    intro a
    unfold fillLast
    split
    · rename_i x r heq
      rw [if_neg (hhead x (heq ▸ rfl))]
    · rename_i heq; exact heq.symm
  unfold loadFields
  rw [if_neg hdup, if_neg (by simpa using hty)]
  simp only
  rw [if_neg (by simp [hq, hne]), hfill]

theorem loadLine_of_parse (off : Nat) (st : LdSt) (line : List Char) (a sz : Nat) (ty : Char)
    (nm : List Char) (h : parseLine line = some (a, sz, ty, nm)) :
    loadLine off st line = loadFields off st a sz ty nm := by
  unfold loadLine
  rw [h]

theorem loadLine_saved (off : Nat) (st : LdSt) (s : Sym) (h : SaveOk s)
    (hdup : ¬ (saveLine.sub64 s.addr off = st.prevAddr ∧ s.type = st.prevType))
    (hhead : ∀ x ∈ st.rev.head?, x.size ≠ 0) :
    loadLine off st (saveLine off s) =
      { rev := s :: st.rev, prevAddr := saveLine.sub64 s.addr off, prevType := s.type } := by
  rw [loadLine_of_parse off st _ _ _ _ _ (parseLine_saveLine off s h),
    loadFields_fresh off st _ _ _ _ hdup h.type h.typeNe h.notEnd hhead, sub64_add _ _ h.addr]

/-- the duplicate test of the loader never fires along the saved lines: `sub64 · off` is injective
    on 64-bit addresses, so consecutive lines differ in (addr, type) as the entries do -/
theorem foldl_saved (off : Nat) (t : List Sym) :
    ∀ (st : LdSt), (∀ s ∈ t, SaveOk s) → NoAdjDup t →
      (∀ x ∈ t.head?, ¬ (saveLine.sub64 x.addr off = st.prevAddr ∧ x.type = st.prevType)) →
      (∀ x ∈ st.rev.head?, x.size ≠ 0) →
      ((t.map (saveLine off)).foldl (loadLine off) st).rev = t.reverse ++ st.rev := by
  induction t with
  | nil => intro st _ _ _ _; simp
  | cons s r ih =>
    intro st hok hnd hfirst hhead
    have hs := hok s (by simp)
    have hnext : NoAdjDup r ∧ ∀ x ∈ r.head?,
        ¬ (saveLine.sub64 x.addr off = saveLine.sub64 s.addr off ∧ x.type = s.type) := by
      cases r with
      | nil => exact ⟨trivial, fun _ h => nomatch h⟩
      | cons x r' =>
        refine ⟨hnd.2, fun _ h e => ?_⟩
        cases h
        exact hnd.1 ⟨(sub64_inj _ _ off (hok x (by simp)).addr hs.addr e.1).symm, e.2.symm⟩
    simp only [List.map_cons, List.foldl_cons]
    rw [loadLine_saved off st s hs (hfirst s rfl) hhead]
    rw [ih _ (fun x hx => hok x (by simp [hx])) hnext.1 hnext.2
      (fun _ h => by cases h; exact Nat.ne_of_gt hs.sizePos)]
    simp

/-! ### the header `check_symbol_file` reads -/

theorem stripPrefix_append (p r : List Char) : stripPrefix p (p ++ r) = some r := by
  unfold stripPrefix
  rw [List.take_left, List.drop_left, if_pos rfl]

theorem stripPrefix_cons (a b : Char) (p l : List Char) :
    stripPrefix (a :: p) (b :: l) = if a = b then stripPrefix p l else none := by
  unfold stripPrefix
  by_cases h : a = b
  · subst h
    simp
  · have h' : ¬ b = a := fun e => h e.symm
    simp [h, h']

theorem hdrStep_symbols (h : SymHdr) (r : List Char) : hdrStep h (symPre ++ r) = h := by
  rw [hdrStep, pathPre_eq, bidPre_eq]
  simp [symPre, pathPre, bidPre, stripPrefix_cons]

theorem hdrStep_path (h : SymHdr) (p : List Char) :
    hdrStep h (pathPre ++ p) = { h with count := h.count + 1, path := p } := by
  rw [hdrStep, pathPre_eq, bidPre_eq, stripPrefix_append]
  simp [pathPre, bidPre, stripPrefix_cons]

theorem hdrStep_bid (h : SymHdr) (b : List Char) :
    hdrStep h (bidPre ++ b) = { h with count := h.count + 1, bid := b.take 40 } := by
  rw [hdrStep, pathPre_eq, bidPre_eq, stripPrefix_append]
  simp [pathPre, bidPre, stripPrefix_cons]

theorem checkSymbolFile_save (path bid : List Char) (t : List Sym)
    (hp : '\n' ∉ path) (hb : '\n' ∉ bid) (hok : ∀ s ∈ t, SaveOk s) (hne : t ≠ []) (hlen : bid.length ≤ 40) :
    checkSymbolFile (save 0 path bid t) =
      { count := if bid.isEmpty then 1 else 2, path := path, bid := bid } := by
  unfold checkSymbolFile
  rw [splitLines_save 0 path bid t hp hb hok hne]
  rw [List.takeWhile_append_of_pos]
  · cases t with
    | nil => exact absurd rfl hne
    | cons s r =>
      obtain ⟨d, tl, hd, e⟩ := saveLine_head 0 s
      have hh : (some (hexDigit d) == some '#') = false := by
        simpa using hexDigit_ne d hd '#' (by decide)
      simp only [List.map_cons, e, List.takeWhile_cons, List.head?_cons, hh, Bool.false_eq_true,
        if_false, List.append_nil]
      unfold hdrLines
      by_cases hbe : bid.isEmpty = true
      · have : bid = [] := by simpa using hbe
        subst this
        simp only [List.isEmpty_nil, if_true, List.append_nil, List.foldl_cons, List.foldl_nil,
          hdrStep_symbols, hdrStep_path]
      · simp only [hbe, Bool.false_eq_true, if_false, List.cons_append, List.nil_append, List.foldl_cons,
          List.foldl_nil, hdrStep_symbols, hdrStep_path, hdrStep_bid, List.take_of_length_le hlen]
  · intro l hl
    obtain ⟨r, hr⟩ := (hdrLines_spec _ _ _ hp hb l hl).1
    simp [hr]

theorem get_append_new (d : SymDir) (nm x : List Char) (h : d.get nm = none) :
    SymDir.get (d ++ [(nm, x)]) nm = some x := by
  unfold SymDir.get at *
  rw [List.lookup_append, h]; simp [List.lookup]

theorem get_append_inv (d : SymDir) (nm k x y : List Char)
    (h : SymDir.get (d ++ [(k, y)]) nm = some x) : d.get nm = some x ∨ (nm = k ∧ x = y) := by
  unfold SymDir.get at *
  rw [List.lookup_append] at h
  cases hd : List.lookup nm d with
  | some v => rw [hd] at h; left; simpa using h
  | none =>
    rw [hd] at h
    right
    simp only [Option.none_or, List.lookup] at h
    by_cases e : nm == k
    · simp only [e] at h
      exact ⟨by simpa using e, by simpa using h.symm⟩
    · simp [e] at h

theorem saveStep_cases (d : SymDir) (m : Mod) :
    saveStep d m = d ∨
    (m.tab ≠ [] ∧ ∃ nm, (nm = primaryName m ∨ nm = altName m) ∧ d.get nm = none ∧
      saveStep d m = d ++ [(nm, save 0 m.path m.bid m.tab)]) := by
  rw [saveStep, saveInto]
  by_cases ht : m.tab.isEmpty = true
  · left
    rw [if_pos ht]
  · have hne : m.tab ≠ [] := by intro e; simp [e] at ht
    simp only [ht, Bool.false_eq_true, if_false]
    split
    · rename_i hg
      exact Or.inr ⟨hne, _, Or.inl rfl, hg, rfl⟩
    · split
      · left; rfl
      · split
        · left; rfl
        · split
          · rename_i hg
            exact Or.inr ⟨hne, _, Or.inr rfl, hg, rfl⟩
          · left; rfl

theorem saveStep_mono (d : SymDir) (m : Mod) (nm x : List Char) (h : d.get nm = some x) :
    (saveStep d m).get nm = some x := by
  rcases saveStep_cases d m with e | ⟨_, k, _, _, e⟩
  · rw [e]; exact h
  · rw [e]
    unfold SymDir.get at *
    rw [List.lookup_append, h]
    rfl

theorem foldl_saveStep_mono (ms : List Mod) (d : SymDir) (nm x : List Char) (h : d.get nm = some x) :
    (ms.foldl saveStep d).get nm = some x := by
  induction ms generalizing d with
  | nil => exact h
  | cons m r ih => exact ih _ (saveStep_mono d m nm x h)

/-- every file of the directory was written for one of the modules handled so far -/
def Written (done : List Mod) (d : SymDir) : Prop :=
  ∀ nm text, d.get nm = some text →
    ∃ m ∈ done, m.tab ≠ [] ∧ text = save 0 m.path m.bid m.tab ∧ (nm = primaryName m ∨ nm = altName m)

theorem written_foldl (ms done : List Mod) (d : SymDir) (h : Written done d) :
    Written (done ++ ms) (ms.foldl saveStep d) := by
  induction ms generalizing done d with
  | nil => simpa using h
  | cons m r ih =>
    have hstep : Written (done ++ [m]) (saveStep d m) := by
      intro nm text hg
      rcases saveStep_cases d m with e | ⟨hne, k, hk, _, e⟩
      · rw [e] at hg
        obtain ⟨m', hm', r⟩ := h nm text hg
        exact ⟨m', by simp [hm'], r⟩
      · rw [e] at hg
        rcases get_append_inv d nm k text _ hg with h1 | ⟨h1, h2⟩
        · obtain ⟨m', hm', r⟩ := h nm text h1
          exact ⟨m', by simp [hm'], r⟩
        · exact ⟨m, by simp, hne, h2, h1 ▸ hk⟩
    simpa using ih (done ++ [m]) (saveStep d m) hstep

/-- What one recording may contain for writer and reader to agree (`ws` = the reader runs
    with `--with-syms`): strings the header lines can carry; a path names one file; a
    build-id names one binary; an alternative file name is never another module's primary
    name and is shared only by installations of one binary; with `--with-syms` (path check
    waived) every binary has a build-id. -/
structure Consistent (ws : Bool) (ms : List Mod) : Prop where
  ok : ∀ m ∈ ms, '\n' ∉ m.path ∧ '\n' ∉ m.bid ∧ m.bid.length ≤ 40 ∧ ∀ s ∈ m.tab, SaveOk s
  samePath : ∀ m ∈ ms, ∀ m' ∈ ms, m.path = m'.path → m.bid = m'.bid ∧ m.tab = m'.tab
  sameBid : ∀ m ∈ ms, ∀ m' ∈ ms, m.bid = m'.bid → m.bid ≠ [] → m.tab = m'.tab
  altPrim : ∀ m ∈ ms, ∀ m' ∈ ms, altName m ≠ primaryName m'
  altAlt : ∀ m ∈ ms, ∀ m' ∈ ms, altName m = altName m' →
    m.path = m'.path ∨ (m.bid = m'.bid ∧ m.bid ≠ [])
  withSyms : ws = true → ∀ m ∈ ms, m.bid ≠ []

/-- decidable, for the examples: one evaluation reads every string of the recording once -/
instance (ws : Bool) (ms : List Mod) : Decidable (Consistent ws ms) :=
  decidable_of_iff
    ((∀ m ∈ ms, '\n' ∉ m.path ∧ '\n' ∉ m.bid ∧ m.bid.length ≤ 40 ∧ ∀ s ∈ m.tab, SaveOk s) ∧
      (∀ m ∈ ms, ∀ m' ∈ ms, m.path = m'.path → m.bid = m'.bid ∧ m.tab = m'.tab) ∧
      (∀ m ∈ ms, ∀ m' ∈ ms, m.bid = m'.bid → m.bid ≠ [] → m.tab = m'.tab) ∧
      (∀ m ∈ ms, ∀ m' ∈ ms, altName m ≠ primaryName m') ∧
      (∀ m ∈ ms, ∀ m' ∈ ms, altName m = altName m' → m.path = m'.path ∨ (m.bid = m'.bid ∧ m.bid ≠ [])) ∧
      (ws = true → ∀ m ∈ ms, m.bid ≠ []))
    ⟨fun ⟨a, b, c, d, e, f⟩ => ⟨a, b, c, d, e, f⟩,
     fun h => ⟨h.ok, h.samePath, h.sameBid, h.altPrim, h.altAlt, h.withSyms⟩⟩

theorem Consistent.subset {ws ws' : Bool} {ms ms' : List Mod} (h : Consistent ws ms)
    (hsub : ∀ m ∈ ms', m ∈ ms) (hws : ws' = true → ∀ m ∈ ms', m.bid ≠ []) : Consistent ws' ms' where
  ok := fun m hm => h.ok m (hsub m hm)
  samePath := fun m hm m' hm' => h.samePath m (hsub m hm) m' (hsub m' hm')
  sameBid := fun m hm m' hm' => h.sameBid m (hsub m hm) m' (hsub m' hm')
  altPrim := fun m hm m' hm' => h.altPrim m (hsub m hm) m' (hsub m' hm')
  altAlt := fun m hm m' hm' => h.altAlt m (hsub m hm) m' (hsub m' hm')
  withSyms := hws

theorem hdr_of (ws : Bool) (all : List Mod) (hC : Consistent ws all) (m : Mod) (hm : m ∈ all) (hne : m.tab ≠ []) :
    checkSymbolFile (save 0 m.path m.bid m.tab) =
      { count := if m.bid.isEmpty then 1 else 2, path := m.path, bid := m.bid } := by
  obtain ⟨a, b, c, e⟩ := hC.ok m hm
  exact checkSymbolFile_save _ _ _ a b e hne c

theorem selectSymName_of_get (d : SymDir) (ws : Bool) (mname mbid text : List Char)
    (hf : d.get (basename mname ++ ".sym".toList) = some text) :
    selectSymName d ws mname mbid =
      if (checkSymbolFile text).count > 0 ∧
          (((checkSymbolFile text).path ≠ mname ∧ ws = false) ∨
           ((checkSymbolFile text).bid ≠ [] ∧ mbid ≠ [] ∧ (checkSymbolFile text).bid ≠ mbid))
      then newSymName (basename mname ++ ".sym".toList) mname mbid
      else basename mname ++ ".sym".toList := by
  rw [selectSymName, hf]

theorem selectSymName_written (ws : Bool) (all : List Mod) (hC : Consistent ws all) (d : SymDir)
    (m m0 : Mod) (hm0 : m0 ∈ all) (hne0 : m0.tab ≠ [])
    (hf : d.get (primaryName m) = some (save 0 m0.path m0.bid m0.tab)) :
    selectSymName d ws m.path m.bid =
      if (m0.path ≠ m.path ∧ ws = false) ∨ (m0.bid ≠ [] ∧ m.bid ≠ [] ∧ m0.bid ≠ m.bid)
      then altName m else primaryName m := by
  have hcnt : (if m0.bid.isEmpty = true then 1 else 2) > 0 := by split <;> decide
  rw [selectSymName_of_get d ws m.path m.bid _ hf, hdr_of ws all hC m0 hm0 hne0]
  simp only [hcnt, true_and]
  rfl

/-- the reader's choice right after the writer handled module `m` (and in every later
    state `dfin` of the directory, files being only added) -/
theorem reader_after_step (ws : Bool) (all done : List Mod) (d dfin : SymDir) (m : Mod)
    (hC : Consistent ws all) (hsub : ∀ x ∈ done, x ∈ all) (hm : m ∈ all)
    (hW : Written done d) (hne : m.tab ≠ [])
    (hmono : ∀ nm x, (saveStep d m).get nm = some x → dfin.get nm = some x) :
    ∃ m' ∈ all, m'.tab = m.tab ∧
      dfin.get (selectSymName dfin ws m.path m.bid) = some (save 0 m'.path m'.bid m'.tab) := by
  have hte : m.tab.isEmpty = false := by simpa using hne
  have hprimEq : basename m.path ++ ".sym".toList = primaryName m := rfl
  have haltEq : newSymName (primaryName m) m.path m.bid = altName m := rfl
  -- the module whose file is under m's primary name after the step: m itself if the name was free
  obtain ⟨m0, hm0, hne0, hf0, hold⟩ : ∃ m0 ∈ all, m0.tab ≠ [] ∧
      dfin.get (primaryName m) = some (save 0 m0.path m0.bid m0.tab) ∧
      (m0 = m ∨ d.get (primaryName m) = some (save 0 m0.path m0.bid m0.tab)) := by
    cases hd : d.get (primaryName m) with
    | none =>
      have hs : saveStep d m = d ++ [(primaryName m, save 0 m.path m.bid m.tab)] := by
        rw [saveStep, saveInto]
        simp only [hte, Bool.false_eq_true, if_false, hprimEq, hd]
      exact ⟨m, hm, hne, hmono _ _ (by rw [hs]; exact get_append_new d _ _ hd), Or.inl rfl⟩
    | some text0 =>
      obtain ⟨m0, hm0d, hne0, ht0, _⟩ := hW _ _ hd
      subst ht0
      exact ⟨m0, hsub m0 hm0d, hne0, hmono _ _ (saveStep_mono d m _ _ hd), Or.inr rfl⟩
  rw [selectSymName_written ws all hC dfin m m0 hm0 hne0 hf0]
  split
  · -- writer and reader both go for the alternative name
    rename_i hcond
    have hdiff : ¬ (m0.path = m.path ∧ m0.bid = m.bid) := by
      intro h
      rcases hcond with c | c
      · exact c.1 h.1
      · exact c.2.2 h.2
    have hd : d.get (primaryName m) = some (save 0 m0.path m0.bid m0.tab) := by
      rcases hold with e | e
      · subst e
        exact absurd ⟨rfl, rfl⟩ hdiff
      · exact e
    cases hda : d.get (altName m) with
    | none =>
      have hs : saveStep d m = d ++ [(altName m, save 0 m.path m.bid m.tab)] := by
        rw [saveStep, saveInto]
        simp only [hte, Bool.false_eq_true, if_false, hprimEq, hd, hdr_of ws all hC m0 hm0 hne0,
          haltEq, hda]
        rw [if_neg (by split <;> decide), if_neg hdiff]
      exact ⟨m, hm, rfl, hmono _ _ (by rw [hs]; exact get_append_new d _ _ hda)⟩
    | some text1 =>
      obtain ⟨m1, hm1d, hne1, ht1, hnm1⟩ := hW _ _ hda
      have hm1 : m1 ∈ all := hsub m1 hm1d
      have halt1 : altName m = altName m1 := by
        rcases hnm1 with h | h
        · exact absurd h (hC.altPrim m hm m1 hm1)
        · exact h
      have htab : m1.tab = m.tab := by
        rcases hC.altAlt m hm m1 hm1 halt1 with h | h
        · exact ((hC.samePath m hm m1 hm1 h).2).symm
        · exact (hC.sameBid m hm m1 hm1 h.1 h.2).symm
      exact ⟨m1, hm1, htab, hmono _ _ (saveStep_mono d m _ _ (ht1 ▸ hda))⟩
  · -- the primary file serves: the same path name, or --with-syms and the same build-id
    rename_i hcond
    refine ⟨m0, hm0, ?_, hf0⟩
    by_cases hsame : m0.path = m.path
    · exact (hC.samePath m0 hm0 m hm hsame).2
    · have hws : ws = true := by
        cases ws
        · exact absurd (Or.inl ⟨hsame, rfl⟩) hcond
        · rfl
      have hb0 := hC.withSyms hws m0 hm0
      have hb : m0.bid = m.bid :=
        Classical.byContradiction fun h => hcond (Or.inr ⟨hb0, hC.withSyms hws m hm, h⟩)
      exact hC.sameBid m0 hm0 m hm hb hb0

end Uft.SymFile

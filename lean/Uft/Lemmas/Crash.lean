import Uft.Model.Crash
import Uft.Lemmas.Shmem
/- Further invariants of the hand-off (LOST accounting, whole records) and lemmas about the crash
   handler and the recorder's shutdown (helper lemmas for Props/C03, C04). -/
namespace Uft.Shmem
open Uft.Writers

/-! ### LOST accounting: the shape of a thread's emission log -/

/-- where a thread is with respect to dropped records -/
inductive LSt where
  | normal     -- nothing pending
  | failed     -- an allocation just failed (the record that needed the buffer is dropped next)
  | run        -- inside a run of dropped records
  | marked     -- the LOST marker was placed; the next event is the surviving record
  deriving DecidableEq, Repr

/-- the log is accepted iff: records are dropped only in runs that begin with an allocation failure,
    every run ends with exactly one LOST marker of positive count, immediately followed by a kept
    record, and there is no LOST marker anywhere else -/
def lstep : LSt → Ev → Option LSt
  | .normal, .kept _ => some .normal
  | .normal, .allocFail => some .failed
  | .failed, .dropped _ => some .run
  | .run, .dropped _ => some .run
  | .run, .allocFail => some .failed
  | .run, .lostMark n => if n > 0 then some .marked else none
  | .marked, .kept _ => some .normal
  | .run, .lostReport n => if n > 0 then some .normal else none   -- the thread ends: trailing loss reported
  | _, _ => none

def lrun : LSt → List Ev → Option LSt
  | st, [] => some st
  | st, e :: l =>
    match lstep st e with
    | some st' => lrun st' l
    | none => none

/-- counts of the LOST markers in the log (what the file carries) -/
def marks : List Ev → List Nat
  | [] => []
  | .lostMark n :: l => n :: marks l
  | _ :: l => marks l

/-- counts of all LOST reports: the markers (each comes with a LOST message) and the message at the end of the thread -/
def reports : List Ev → List Nat
  | [] => []
  | .lostMark n :: l => n :: reports l
  | .lostReport n :: l => n :: reports l
  | _ :: l => reports l

def nDropped : List Ev → Nat
  | [] => 0
  | .dropped _ :: l => nDropped l + 1
  | _ :: l => nDropped l

theorem reports_append (a b : List Ev) : reports (a ++ b) = reports a ++ reports b := by
  induction a with
  | nil => simp [reports]
  | cons e l ih => cases e <;> simp [reports, ih]

theorem nDropped_append (a b : List Ev) : nDropped (a ++ b) = nDropped a + nDropped b := by
  induction a with
  | nil => simp [nDropped]
  | cons e l ih => cases e <;> simp [nDropped, ih] <;> omega

theorem nDropped_map (rs : List Rec) : nDropped (rs.map Ev.dropped) = rs.length := by
  induction rs with
  | nil => rfl
  | cons r l ih => simp [nDropped, ih]

theorem reports_map (rs : List Rec) : reports (rs.map Ev.dropped) = [] := by
  induction rs with
  | nil => rfl
  | cons r l ih => simpa [reports] using ih

theorem lrun_append (st : LSt) (a b : List Ev) :
    lrun st (a ++ b) = (lrun st a).bind (fun st' => lrun st' b) := by
  induction a generalizing st with
  | nil => simp [lrun]
  | cons e l ih =>
    simp only [List.cons_append, lrun]
    cases lstep st e with
    | none => simp
    | some st' => simp [ih]

theorem lrun_dropped (rs : List Rec) : lrun .run (rs.map Ev.dropped) = some .run := by
  induction rs with
  | nil => rfl
  | cons r l ih => simpa [lrun, lstep] using ih

theorem marks_append (a b : List Ev) : marks (a ++ b) = marks a ++ marks b := by
  induction a with
  | nil => simp [marks]
  | cons e l ih => cases e <;> simp [marks, ih]

/-- how the automaton state, the program counter and `losts` go together -/
def PcOk (pc : Pc) (losts : Nat) (curr : Option Nat) (st : LSt) : Prop :=
  match pc with
  | .idle => (st = .normal ∧ losts = 0) ∨ (st = .run ∧ losts > 0 ∧ curr = none)
  | .needBuf _ | .picked _ | .started _ => (st = .normal ∧ losts = 0) ∨ (st = .run ∧ losts > 0)
  | .wrote _ | .hdr _ => (st = .normal ∨ st = .marked) ∧ losts = 0

/-- what is known of a thread's LOST bookkeeping; `closed`: tracing was finished (the pipe takes no more messages) -/
structure LInv (cfg : Cfg) (closed : Bool) (p : Prod) : Prop where
  ex : ∃ st, lrun .normal p.log = some st ∧ PcOk p.pc p.losts p.curr st
  msgs : p.lostMsgs = reports p.log
  acct : cfg.countFix = true → nDropped p.log = (reports p.log).sum + p.losts
  /-- a thread that ended through mtd_dtor has nothing pending, unless tracing had been finished before -/
  tail : cfg.tailFix = true → p.done = true → p.losts = 0 ∨ closed = true

/-- the thread logs `es` and sends the LOST counts among them; `hpc`: the automaton accepts `es` from wherever the
    program counter allowed it to be, and ends where the new program counter allows; `hacct`: the drops among `es` that
    `es` does not report itself are added to `losts`; `htail`: the clause `tail` for the new state -/
theorem LInv.next {cfg : Cfg} {closed closed' : Bool} {p p' : Prod} (h : LInv cfg closed p) (es : List Ev)
    (hlog : p'.log = p.log ++ es) (hmsgs : p'.lostMsgs = p.lostMsgs ++ reports es)
    (hpc : ∀ st, PcOk p.pc p.losts p.curr st → ∃ st', lrun st es = some st' ∧ PcOk p'.pc p'.losts p'.curr st')
    (hacct : cfg.countFix = true → nDropped es + p.losts = (reports es).sum + p'.losts)
    (htail : cfg.tailFix = true → p'.done = true → p'.losts = 0 ∨ closed' = true) : LInv cfg closed' p' := by
  obtain ⟨⟨st, hst, hok⟩, hm, ha, _⟩ := h
  obtain ⟨st', hst', hok'⟩ := hpc st hok
  refine ⟨⟨st', by rw [hlog, lrun_append, hst]; exact hst', hok'⟩, by rw [hmsgs, hlog, reports_append, hm], fun hf => ?_,
    htail⟩
  have := ha hf
  have := hacct hf
  rw [hlog, nDropped_append, reports_append, List.sum_append]
  omega

theorem LInv.silent {cfg : Cfg} {closed : Bool} {p p' : Prod} (h : LInv cfg closed p)
    (hpc : ∀ st, PcOk p.pc p.losts p.curr st → PcOk p'.pc p'.losts p'.curr st)
    (hlog : p'.log = p.log := by rfl) (hmsgs : p'.lostMsgs = p.lostMsgs := by rfl)
    (hl : p'.losts = p.losts := by rfl) (hd : p'.done = p.done := by rfl) : LInv cfg closed p' :=
  h.next [] (by simp [hlog]) (by simp [hmsgs, reports]) (fun st hok => ⟨st, rfl, hpc st hok⟩)
    (fun _ => by simp [nDropped, reports, hl]) fun hf hd' => by
      rw [hl]
      exact h.tail hf (hd ▸ hd')

theorem LInv.close {cfg : Cfg} {closed : Bool} {p : Prod} (h : LInv cfg closed p) : LInv cfg true p :=
  ⟨h.ex, h.msgs, h.acct, fun _ _ => Or.inr rfl⟩

def LostInv (cfg : Cfg) (s : State) : Prop := ∀ t, LInv cfg s.pipeClosed (s.prod t)

theorem lostInv_setProd {cfg : Cfg} {s : State} {t : Tid} {p' : Prod} (h : LostInv cfg s)
    (hp : LInv cfg s.pipeClosed p') : LostInv cfg (s.setProd t p') := by
  intro x
  by_cases hx : x = t
  · subst hx; simpa using hp
  · rw [setProd_prod_ne _ _ hx]; exact h x

theorem lostInv_same {cfg : Cfg} {s s' : State} (h : LostInv cfg s) (hp : s'.prod = s.prod)
    (hc : s'.pipeClosed = s.pipeClosed) : LostInv cfg s' := by
  intro x; rw [hp, hc]; exact h x

theorem fits_curr {cfg : Cfg} {p : Prod} {r : Rec} (h : fits cfg p r = true) : ∃ c, p.curr = some c := by
  unfold fits at h
  split at h
  · simp at h
  · exact ⟨_, by assumption⟩

theorem lostInv_writeOut {cfg : Cfg} {s : State} {wb : WBuf} {fl : Bool} (h : LostInv cfg s) :
    LostInv cfg (writeOut s wb fl) :=
  writeOut_ind h fun _ _ _ _ => lostInv_setProd h ((h wb.tid).silent fun _ hok => hok)

theorem lostInv_recordMmap {cfg : Cfg} {s : State} {wb : WBuf} (h : LostInv cfg s) : LostInv cfg (recordMmap s wb) :=
  recordMmap_ind h h

theorem PcOk.run_of_pos {pc : Pc} {losts : Nat} {curr : Option Nat} {st : LSt} (h : PcOk pc losts curr st)
    (hl : losts > 0) : st = .run := by
  cases pc with
  | wrote _ | hdr _ => exact absurd h.2 (by omega)
  | _ => exact h.elim (fun h1 => absurd h1.2 (by omega)) (fun h2 => h2.1)

/-- the repaired shmem_finish, run in a state `s1` that is `s` but for thread `t`, which is `done` there with its count
    still pending (`LInv cfg true`: every clause but the last) -/
theorem lostInv_reportTail {cfg : Cfg} {s s1 : State} {t : Tid} {p1 : Prod} (h : LostInv cfg s)
    (hprod : s1.prod = (s.setProd t p1).prod) (hcl : s1.pipeClosed = s.pipeClosed) (ht : LInv cfg true p1)
    (hpc : p1.pc = .idle) : LostInv cfg (reportTail cfg t s1) := by
  have h1 : s1.prod t = p1 := by rw [hprod, setProd_prod_same]
  have ho : ∀ x, x ≠ t → LInv cfg s1.pipeClosed (s1.prod x) := fun x hx => by
    rw [hprod, hcl, setProd_prod_ne _ _ hx]
    exact h x
  unfold reportTail
  simp only []
  split
  · rename_i hg
    simp only [Bool.and_eq_true, decide_eq_true_eq] at hg
    intro x
    rw [send_prod, send_pipeClosed]
    by_cases hx : x = t
    · subst hx
      rw [setProd_prod_same, h1]
      rw [h1] at hg
      refine ht.next [.lostReport p1.losts] rfl rfl (fun st hok => ?_) (fun _ => by simp [nDropped, reports])
        fun _ _ => Or.inl rfl
      rw [hok.run_of_pos hg.1.2]
      exact ⟨.normal, by simp [lrun, lstep, hg.1.2], by simp [PcOk, hpc]⟩
    · rw [setProd_prod_ne _ _ hx]
      exact ho x hx
  · rename_i hg
    intro x
    by_cases hx : x = t
    · subst hx
      rw [h1]
      refine ⟨ht.ex, ht.msgs, ht.acct, fun hf _ => ?_⟩
      -- no report: nothing was pending, or the pipe is closed
      rw [h1] at hg
      simp only [hf, Bool.true_and, Bool.and_eq_true, decide_eq_true_eq, Bool.not_eq_true', not_and,
        Bool.not_eq_false] at hg
      by_cases hl : p1.losts > 0
      · exact Or.inr (hg hl)
      · exact Or.inl (by omega)
    · exact ho x hx

/-- the log and the program counter move together: each rule of the machine is a move of the automaton -/
theorem lostInv_step {cfg : Cfg} {s s' : State} {a : Action} (hi : Inv s) (h : LostInv cfg s)
    (hs : step cfg s a = some s') : LostInv cfg s' := by
  cases step_sound hs with
  | @emit t _ _ _ hce hp =>
    have hdn := (canEmit_iff.mp hce).2.2.1
    refine lostInv_same (lostInv_setProd h ?_) (sendOpt_prod _ _) (sendOpt_pipeClosed _ _)
    cases hp with
    | pWrite hpc hfit =>
      obtain ⟨c, hc⟩ := fits_curr hfit
      refine (h t).silent fun st hok => ?_
      simp only [PcOk, hpc, hc] at hok ⊢
      exact hok.elim (fun h1 => ⟨Or.inl h1.1, h1.2⟩) (fun h2 => absurd h2.2.2 (by simp))
    | pBumpTorn hpc | pPickReuse hpc | pPickGrow hpc | pStart hpc =>
      refine (h t).silent fun st hok => ?_
      simpa only [PcOk, hpc] using hok
    | @pBump r _ hpc | @pBump2 r _ hpc =>
      refine (h t).next [.kept r] rfl (List.append_nil _).symm (fun st hok => ?_) (fun _ => rfl) (h t).tail
      simp only [PcOk, hpc] at hok
      refine ⟨.normal, ?_, Or.inl ⟨rfl, hok.2⟩⟩
      rcases hok.1 with e | e <;> rw [e] <;> rfl
    | pEnd hpc | pEndNone hpc =>
      refine (h t).silent fun st hok => ?_
      simp only [PcOk, hpc] at hok ⊢
      exact hok.imp id fun h2 => ⟨h2.1, h2.2.1⟩
    | @pPickFail r hpc =>
      refine (h t).next [.allocFail, .dropped r] rfl (List.append_nil _).symm (fun st hok => ?_)
        (fun hf => by simp [nDropped, reports, hf, Nat.add_comm]) fun _ hd => absurd hd (by simp [hdn])
      simp only [PcOk, hpc] at hok
      refine ⟨.run, ?_, Or.inr ⟨rfl, Nat.add_pos_right _ (by split <;> omega), rfl⟩⟩
      rcases hok with ⟨e, _⟩ | ⟨e, _⟩ <;> rw [e] <;> rfl
    | pMarkLost hpc _ hl =>
      refine (h t).next [.lostMark (s.prod t).losts] rfl rfl (fun st hok => ?_)
        (fun _ => by simp [nDropped, reports]) fun _ _ => Or.inl rfl
      rw [hok.run_of_pos hl]
      exact ⟨.marked, by simp [lrun, lstep, hl], Or.inr rfl, rfl⟩
    | pMarkNone hpc _ hl =>
      refine (h t).silent fun st hok => ?_
      simp only [PcOk, hpc] at hok ⊢
      exact hok.elim (fun h1 => ⟨Or.inl h1.1, hl⟩) (fun h2 => absurd h2.2 (by omega))
    | @pAbandon rs cn hpc hc hl =>
      refine (h t).next (rs.map .dropped) rfl (by simp [reports_map]) (fun st hok => ?_)
        (fun hf => by simp [nDropped_map, reports_map, hf, Nat.add_comm]) fun _ hd => absurd hd (by simp [hdn])
      rw [hok.run_of_pos hl]
      refine ⟨.run, lrun_dropped rs, ?_⟩
      show PcOk (s.prod t).pc _ _ _
      rw [hpc]
      exact Or.inr ⟨rfl, Nat.add_pos_left hl _, hc⟩
  | @pPrepare t hst _ =>
    obtain ⟨_, _, hpc, _, _, hl0⟩ := (hi.view t).c.unstarted hst
    refine lostInv_same (lostInv_setProd h ((h t).silent fun st hok => ?_)) (send_prod _ _) (send_pipeClosed _ _)
    simp only [PcOk, hpc, hl0] at hok ⊢
    exact hok.imp id fun h2 => absurd h2.2.1 (by omega)
  | @pFinish t s1 h1 =>
    obtain ⟨_, _, _, hpc, hs'⟩ := finishCore_cases h1
    -- after shmem_finish the thread is `done` while its count may still be pending
    have hp : ∀ o, LInv cfg true { s.prod t with done := true, curr := none, opn := o } := by
      intro o
      refine (h t).next [] (List.append_nil _).symm (List.append_nil _).symm (fun st hok => ⟨st, rfl, ?_⟩)
        (fun _ => rfl) fun _ _ => Or.inr rfl
      show PcOk (s.prod t).pc (s.prod t).losts none st
      rw [hpc] at hok ⊢
      exact hok.imp id fun ⟨h1, h2, _⟩ => ⟨h1, h2, rfl⟩
    rcases hs' with rfl | ⟨c, _, _, rfl⟩
    · exact lostInv_reportTail h rfl rfl (hp _) hpc
    · exact lostInv_reportTail h (send_prod _ _) (send_pipeClosed _ _) (hp _) hpc
  | pFinishTrigger => exact fun x => (h x).close
  | @kill t => exact lostInv_setProd h ((h t).silent fun _ hok => hok)
  | rReadEnd _ => exact lostInv_recordMmap (lostInv_same h rfl rfl)
  | @rFlush t i _ _ _ =>
    exact lostInv_recordMmap (lostInv_setProd (lostInv_same h rfl rfl) ((h t).silent fun _ hok => hok))
  | rRemaining | wWrite => exact lostInv_writeOut (lostInv_same h rfl rfl)
  | _ => exact lostInv_same h rfl rfl

theorem lostInv_reachable {cfg : Cfg} {nw : Nat} {s : State} (h : Reachable cfg nw s) : LostInv cfg s := by
  induction h with
  | init => exact fun _ => ⟨⟨.normal, rfl, Or.inl ⟨rfl, rfl⟩⟩, rfl, fun _ => rfl, fun _ _ => Or.inl rfl⟩
  | step a hr hs ih => exact lostInv_step (inv_reachable hr) ih hs

/-! ### whole records only (with the single size update) -/

def ntBufs (l : List Buf) : Prop := ∀ b ∈ l, ∀ it ∈ b.data, it.isTorn = false

def NT (s : State) : Prop := ∀ t, (∀ it ∈ s.file t, it.isTorn = false) ∧ ntBufs (s.prod t).bufs

theorem ntBufs_flatMap {l : List Buf} (h : ntBufs l) (c : List Nat) : ∀ it ∈ c.flatMap (dataAt l), it.isTorn = false := by
  intro it hit
  obtain ⟨i, _, hi⟩ := List.mem_flatMap.mp hit
  unfold dataAt at hi
  split at hi
  · simp at hi
  · rename_i b hb; exact h b (List.mem_of_getElem? hb) it hi

theorem ntBufs_set {l : List Buf} {i : Nat} {b : Buf} (h : ntBufs l) (hb : ∀ it ∈ b.data, it.isTorn = false) :
    ntBufs (l.set i b) := by
  intro x hx
  rcases List.mem_or_eq_of_mem_set hx with hx | hx
  · exact h x hx
  · subst hx; exact hb

theorem ntBufs_shrink {l : List Buf} {k : Nat} (h : ntBufs l) : ntBufs (shrink l k) := by
  rcases shrink_cases l k with e | ⟨e, _⟩
  · rw [e]; exact h
  · rw [e]; intro b hb; exact h b (List.dropLast_subset l hb)

theorem ntBufs_modData {l : List Buf} {c : Nat} {g : List Item → List Item} (h : ntBufs l)
    (hg : ∀ d : List Item, (∀ it ∈ d, it.isTorn = false) → ∀ it ∈ g d, it.isTorn = false) :
    ntBufs (modData l c g) := by
  unfold modData
  split
  · exact h
  · rename_i b hb
    exact ntBufs_set h (hg b.data (h b (List.mem_of_getElem? hb)))

theorem ntBufs_appendData {l : List Buf} {c : Nat} {it : Item} (h : ntBufs l) (hit : it.isTorn = false) :
    ntBufs (appendData l c it) := by
  rw [appendData_eq]
  refine ntBufs_modData h fun d hd x hx => ?_
  rcases List.mem_append.mp hx with hx | hx
  · exact hd x hx
  · rw [List.mem_singleton.mp hx]; exact hit

theorem nt_setProd {s : State} {t : Tid} {p' : Prod} (h : NT s) (hp : ntBufs p'.bufs) : NT (s.setProd t p') := by
  intro x
  by_cases hx : x = t
  · subst hx; exact ⟨(h x).1, by simpa using hp⟩
  · rw [setProd_prod_ne _ _ hx]; exact h x

theorem nt_same {s s' : State} (h : NT s) (hp : s'.prod = s.prod) (hf : s'.file = s.file) : NT s' := by
  intro x; rw [hp, hf]; exact h x

theorem nt_send {s : State} {m : Msg} (h : NT s) : NT (s.send m) :=
  nt_same h (send_prod s m) (send_file s m)

theorem nt_recordMmap {s : State} {wb : WBuf} (h : NT s) : NT (recordMmap s wb) :=
  recordMmap_ind h h

theorem nt_writeOut {s : State} {wb : WBuf} {fl : Bool} (h : NT s) : NT (writeOut s wb fl) := by
  refine writeOut_ind h fun b b' hb hd x => ?_
  refine ⟨?_, (nt_setProd h (ntBufs_set (h wb.tid).2 (by simp [hd])) x).2⟩
  show ∀ it ∈ (if x = wb.tid then s.file x ++ b.data else s.file x), it.isTorn = false
  split
  · rename_i hx
    intro it hit
    rcases List.mem_append.mp hit with hit | hit
    · exact (h x).1 it hit
    · exact (h wb.tid).2 b (List.mem_of_getElem? hb) it hit
  · exact (h x).1

theorem nt_step {cfg : Cfg} {s s' : State} {a : Action} (hf : cfg.fixed = true) (h : NT s)
    (hs : step cfg s a = some s') : NT s' := by
  cases step_sound hs with
  | @emit t _ _ _ _ hp =>
    refine nt_same (nt_setProd h ?_) (sendOpt_prod _ _) (sendOpt_file _ _)
    cases hp with
    | pBumpTorn _ _ ht => simp [hf] at ht
    | pBump | pMarkLost => exact ntBufs_appendData (h t).2 rfl
    | @pBump2 r c =>
      show ntBufs (completeData (s.prod t).bufs c r)
      rw [completeData_eq]
      refine ntBufs_modData (h t).2 fun d hd x hx => ?_
      rcases List.mem_append.mp hx with hx | hx
      · exact hd x (List.dropLast_subset d hx)
      · rw [List.mem_singleton.mp hx]; rfl
    | pPickReuse => exact ntBufs_shrink (ntBufs_set (h t).2 (by simp))
    | pPickGrow =>
      refine ntBufs_shrink fun b hb => ?_
      rcases List.mem_append.mp hb with hb | hb
      · exact (h t).2 b hb
      · rw [List.mem_singleton.mp hb]; simp
    | _ => exact (h t).2
  | pPrepare =>
    refine nt_send (nt_setProd h fun b hb => ?_)
    simp only [List.mem_cons, List.not_mem_nil, or_false] at hb
    rcases hb with rfl | rfl <;> simp
  | @pFinish t s1 h1 =>
    have hn1 : NT s1 := by
      obtain ⟨_, _, _, _, rfl | ⟨c, _, _, rfl⟩⟩ := finishCore_cases h1
      · exact nt_setProd h (h t).2
      · exact nt_send (nt_setProd h (h t).2)
    unfold reportTail
    simp only []
    split
    · exact nt_send (nt_setProd hn1 (hn1 t).2)
    · exact hn1
  | kill => exact nt_setProd h (h _).2
  | rReadEnd => exact nt_recordMmap (nt_same h rfl rfl)
  | rFlush => exact nt_recordMmap (nt_setProd (nt_same h rfl rfl) (h _).2)
  | rRemaining | wWrite => exact nt_writeOut (nt_same h rfl rfl)
  | pFinishTrigger | rReadStart | rReadLost | rReadFinish | rStop | wPick | wSplice => exact nt_same h rfl rfl

theorem nt_reachable {cfg : Cfg} {nw : Nat} {s : State} (hf : cfg.fixed = true) (h : Reachable cfg nw s) : NT s := by
  induction h with
  | init => intro t; exact ⟨by simp [State.init], by intro b hb; simp [State.init] at hb⟩
  | step a _ hs ih => exact nt_step hf ih hs

theorem clean_of_nt {l : List Item} (h : ∀ it ∈ l, it.isTorn = false) : clean l = l := by
  simp only [clean, List.filter_eq_self]
  intro it hit; simp [h it hit]

/-! ### the LOST counts reach the recorder -/

/-- LOST counts of `t` still in the pipe -/
def pendingLost (t : Tid) : List Msg → Nat
  | [] => 0
  | .lost t' n :: l => (if t' = t then n else 0) + pendingLost t l
  | _ :: l => pendingLost t l

/-- what the recorder has added to shmem_lost_count on behalf of `t` -/
def lostFrom (s : State) (t : Tid) : Nat := ((s.lostLog.filter (fun e => e.1 = t)).map (·.2)).sum

theorem pendingLost_append (t : Tid) (a b : List Msg) : pendingLost t (a ++ b) = pendingLost t a + pendingLost t b := by
  induction a with
  | nil => simp [pendingLost]
  | cons m l ih => cases m <;> simp [pendingLost, ih] <;> omega

/-- delivery: what a thread reported = what the recorder counted for it + what is still in the pipe;
    shmem_lost_count = sum of what was read -/
structure AInv (s : State) : Prop where
  deliv : ∀ t, lostFrom s t + pendingLost t s.pipe = (s.prod t).lostMsgs.sum
  total : s.lostCount = (s.lostLog.map (·.2)).sum

theorem ainv_frame {s s' : State} (h : AInv s) (hk : ∀ t, (s'.prod t).lostMsgs = (s.prod t).lostMsgs)
    (hp : ∀ t, pendingLost t s'.pipe = pendingLost t s.pipe) (hl : s'.lostLog = s.lostLog)
    (hc : s'.lostCount = s.lostCount) : AInv s' := by
  refine ⟨fun t => ?_, ?_⟩
  · rw [hk t, hp t]; simp only [lostFrom, hl]; exact h.deliv t
  · rw [hc, hl]; exact h.total

theorem lostMsgs_setProd {s : State} {t : Tid} {p' : Prod} (hp : p'.lostMsgs = (s.prod t).lostMsgs) (x : Tid) :
    ((s.setProd t p').prod x).lostMsgs = (s.prod x).lostMsgs := by
  by_cases hx : x = t
  · subst hx; simpa using hp
  · rw [setProd_prod_ne _ _ hx]

theorem pendingLost_send {s : State} {m : Msg} (t : Tid) (hm : ∀ x n, m ≠ .lost x n) :
    pendingLost t (s.send m).pipe = pendingLost t s.pipe := by
  unfold State.send; split
  · rfl
  · rw [pendingLost_append]
    cases m with
    | lost x n => exact absurd rfl (hm x n)
    | _ => rfl

/-- producer step that sends no count: `s.setProd t p'`, optionally followed by a message that is not LOST -/
theorem ainv_setProd {s : State} {t : Tid} {p' : Prod} (h : AInv s) (hp : p'.lostMsgs = (s.prod t).lostMsgs) :
    AInv (s.setProd t p') :=
  ainv_frame h (lostMsgs_setProd hp) (fun _ => rfl) rfl rfl

theorem ainv_send {s : State} {m : Msg} (h : AInv s) (hm : ∀ x n, m ≠ .lost x n) : AInv (s.send m) :=
  ainv_frame h (fun t => by rw [send_prod]) (fun t => pendingLost_send t hm) (by simp) (by simp)

theorem ainv_recordMmap {s : State} {wb : WBuf} (h : AInv s) : AInv (recordMmap s wb) :=
  recordMmap_ind h (ainv_frame h (fun _ => rfl) (fun _ => rfl) rfl rfl)

theorem ainv_writeOut {s : State} {wb : WBuf} {fl : Bool} (h : AInv s) : AInv (writeOut s wb fl) :=
  writeOut_ind h fun _ _ _ _ => ainv_frame h (lostMsgs_setProd rfl) (fun _ => rfl) rfl rfl

theorem pendingLost_lost_self (t n : Nat) : pendingLost t [Msg.lost t n] = n := by simp [pendingLost]
theorem pendingLost_lost_other {t x : Tid} (n : Nat) (h : x ≠ t) : pendingLost x [Msg.lost t n] = 0 := by
  simp [pendingLost, Ne.symm h]

/-- pMark with a count pending, and the report of the repaired shmem_finish: the count joins `lostMsgs` and goes
    into the open pipe -/
theorem ainv_report {s : State} {t : Tid} {p' : Prod} {n : Nat} (h : AInv s) (hcl : s.pipeClosed = false)
    (hm : p'.lostMsgs = (s.prod t).lostMsgs ++ [n]) : AInv ((s.setProd t p').send (.lost t n)) := by
  rw [send_open _ (show (s.setProd t p').pipeClosed = false from hcl)]
  refine ⟨fun x => ?_, h.total⟩
  have := h.deliv x
  show lostFrom s x + pendingLost x (s.pipe ++ [.lost t n]) = _
  rw [pendingLost_append]
  by_cases hx : x = t
  · subst hx
    rw [setProd_prod_same, hm, List.sum_append, pendingLost_lost_self]
    simp only [List.sum_cons, List.sum_nil]
    omega
  · rw [setProd_prod_ne _ _ hx, pendingLost_lost_other n hx]
    exact this

theorem ainv_reportTail {cfg : Cfg} {s : State} {t : Tid} (h : AInv s) : AInv (reportTail cfg t s) := by
  unfold reportTail
  simp only []
  split
  · rename_i hg
    simp only [Bool.and_eq_true, Bool.not_eq_true'] at hg
    exact ainv_report h hg.2 rfl
  · exact h

theorem ainv_step {cfg : Cfg} {s s' : State} {a : Action} (h : AInv s) (hs : step cfg s a = some s') : AInv s' := by
  cases step_sound hs with
  | emit hce hp =>
    cases hp with
    | pMarkLost => exact ainv_report h (canEmit_iff.mp hce).2.2.2 rfl
    | pEnd | pStart => exact ainv_send (ainv_setProd h rfl) nofun
    | _ => exact ainv_setProd h rfl
  | pPrepare => exact ainv_send (ainv_setProd h rfl) nofun
  | kill => exact ainv_setProd h rfl
  | pFinish h1 =>
    obtain ⟨_, _, _, _, rfl | ⟨c, _, _, rfl⟩⟩ := finishCore_cases h1
    · exact ainv_reportTail (ainv_setProd h rfl)
    · exact ainv_reportTail (ainv_send (ainv_setProd h rfl) nofun)
  | pFinishTrigger => exact ainv_frame h (fun _ => rfl) (fun x => by simp [pendingLost_append, pendingLost]) rfl rfl
  | rReadStart hp | rReadFinish hp => exact ainv_frame h (fun _ => rfl) (fun x => by simp [hp, pendingLost]) rfl rfl
  | rReadEnd hp => exact ainv_recordMmap (ainv_frame h (fun _ => rfl) (fun x => by simp [hp, pendingLost]) rfl rfl)
  | @rReadLost t n rest hp =>
    refine ⟨fun x => ?_, ?_⟩
    · have := h.deliv x
      simp only [lostFrom, hp, pendingLost] at this ⊢
      by_cases hx : t = x
      · subst hx; simp [List.filter_append, List.sum_append] at this ⊢; omega
      · simp [List.filter_append, hx] at this ⊢; omega
    · have := h.total
      simp [List.sum_append, this]
  | @rFlush t i =>
    exact ainv_recordMmap (ainv_frame h (lostMsgs_setProd (s := { s with shmemList := s.shmemList.erase ⟨t, i⟩ }) rfl)
      (fun _ => rfl) rfl rfl)
  | rRemaining | wWrite => exact ainv_writeOut (ainv_frame h (fun _ => rfl) (fun _ => rfl) rfl rfl)
  | rStop | wPick | wSplice => exact ainv_frame h (fun _ => rfl) (fun _ => rfl) rfl rfl

theorem ainv_reachable {cfg : Cfg} {nw : Nat} {s : State} (h : Reachable cfg nw s) : AInv s := by
  induction h with
  | init => exact ⟨fun t => by simp [State.init, lostFrom, pendingLost], rfl⟩
  | step a _ hs ih => exact ainv_step ih hs

/-! ### threads exist only through mcount_prepare -/

def stKey (p : Prod) : Bool := p.started

theorem started_frame {s s' : State} {t : Tid} (hk : (s'.prod t).started = (s.prod t).started)
    (h : (s'.prod t).started = true) : (s.prod t).started = true := by rw [← hk]; exact h

theorem started_setProd {s : State} {t x : Tid} {p' : Prod} (hp : p'.started = (s.prod t).started) :
    ((s.setProd t p').prod x).started = (s.prod x).started := by
  by_cases hx : x = t
  · subst hx; simpa using hp
  · rw [setProd_prod_ne _ _ hx]

theorem started_setProd' {s : State} {t x : Tid} {p' : Prod} (h : ((s.setProd t p').prod x).started = true)
    (hp : p'.started = (s.prod t).started) : (s.prod x).started = true := by
  rwa [started_setProd hp] at h

theorem started_recordMmap (s : State) (wb : WBuf) (x : Tid) :
    ((recordMmap s wb).prod x).started = (s.prod x).started :=
  recordMmap_ind (P := fun s' => (s'.prod x).started = (s.prod x).started) rfl rfl

theorem started_writeOut (s : State) (wb : WBuf) (fl : Bool) (x : Tid) :
    ((writeOut s wb fl).prod x).started = (s.prod x).started :=
  writeOut_ind (P := fun s' => (s'.prod x).started = (s.prod x).started) rfl fun _ _ _ _ => started_setProd rfl

theorem PStep.started {cfg : Cfg} {t : Tid} {p p' : Prod} {a : Action} {m : Option Msg} (h : PStep cfg t p a p' m) :
    p'.started = p.started := by
  cases h <;> rfl

/-- `started` becomes true only by `pPrepare` -/
theorem started_step {cfg : Cfg} {s s' : State} {a : Action} {x : Tid} (hs : step cfg s a = some s')
    (h : (s'.prod x).started = true) : (s.prod x).started = true ∨ a = .pPrepare x := by
  cases step_sound hs with
  | @pPrepare t =>
    by_cases hx : x = t
    · exact Or.inr (hx ▸ rfl)
    · rw [send_prod, setProd_prod_ne _ _ hx] at h; exact Or.inl h
  | @pFinish t s1 h1 =>
    have h2 : ((reportTail cfg t s1).prod x).started = (s1.prod x).started := by
      unfold reportTail; simp only []; split
      · rw [send_prod]; exact started_setProd rfl
      · rfl
    rw [h2] at h
    obtain ⟨_, _, _, _, rfl | ⟨c, _, _, rfl⟩⟩ := finishCore_cases h1
    · exact Or.inl (started_setProd' h rfl)
    · rw [send_prod] at h; exact Or.inl (started_setProd' h rfl)
  | emit _ hp =>
    rw [sendOpt_prod] at h
    exact Or.inl (started_setProd' h hp.started)
  | kill => exact Or.inl (started_setProd' h rfl)
  | rReadEnd => rw [started_recordMmap] at h; exact Or.inl h
  | @rFlush t i =>
    rw [started_recordMmap] at h
    exact Or.inl (started_setProd' (s := { s with shmemList := s.shmemList.erase ⟨t, i⟩ }) h rfl)
  | rRemaining | wWrite => rw [started_writeOut] at h; exact Or.inl h
  | pFinishTrigger | rReadStart | rReadLost | rReadFinish | rStop | wPick | wSplice => exact Or.inl h

theorem started_run {cfg : Cfg} : ∀ (acts : List Action) (s s' : State) (x : Tid), run cfg s acts = some s' →
    (s'.prod x).started = true → (s.prod x).started = true ∨ .pPrepare x ∈ acts
  | [], s, s', x, hr, h => by simp [run] at hr; subst hr; exact Or.inl h
  | a :: as, s, s', x, hr, h => by
    simp only [run] at hr
    split at hr
    · rename_i s1 hs1
      rcases started_run as s1 s' x hr h with e | e
      · rcases started_step hs1 e with e2 | e2
        · exact Or.inl e2
        · exact Or.inr (by simp [e2])
      · exact Or.inr (by simp [e])
    · simp at hr

end Uft.Shmem

namespace Uft.Crash
open Uft.Shmem Uft.Writers

/-! ### the crash handler -/

/-- every frame that is not skipped (NORECORD / DISABLED) has its ENTRY written -/
def AllW (fs : List Mcount.Frame) : Prop := ∀ f ∈ fs, f.skip = false → f.written = true

/-- record_trace_data's premise (lines 1090-1116): below a written frame everything is written -/
def WClosed : List Mcount.Frame → Prop
  | [] => True
  | f :: r => (f.written = true → AllW r) ∧ WClosed r

theorem allW_cons {f : Mcount.Frame} {r : List Mcount.Frame} :
    AllW (f :: r) ↔ (f.skip = false → f.written = true) ∧ AllW r := List.forall_mem_cons

theorem WClosed_of_allW : ∀ {fs : List Mcount.Frame}, AllW fs → WClosed fs
  | [], _ => trivial
  | _ :: _, h => ⟨fun _ => (allW_cons.mp h).2, WClosed_of_allW (allW_cons.mp h).2⟩

theorem flushBelow_allW : ∀ (fs : List Mcount.Frame), WClosed fs → AllW (Mcount.flushBelow fs).1
  | [], _ => fun _ hf => nomatch hf
  | f :: r, h => by
    unfold Mcount.flushBelow
    split
    · exact allW_cons.mpr ⟨fun _ => ‹_›, h.1 ‹_›⟩
    · split
      · exact allW_cons.mpr ⟨fun hs => absurd ‹f.skip = true› (by simp [hs]), flushBelow_allW r h.2⟩
      · exact allW_cons.mpr ⟨fun _ => rfl, flushBelow_allW r h.2⟩

/-- after record_trace_data on the top frame every open, non-skipped frame is written -/
theorem recordTrace_allW {fs : List Mcount.Frame} (h : WClosed fs) : AllW (Mcount.recordTrace fs).1 := by
  cases fs with
  | nil => exact fun _ hf => nomatch hf
  | cons top rest =>
    unfold Mcount.recordTrace
    refine allW_cons.mpr ⟨?_, ?_⟩
    · -- the top frame: returning, or not skipped and written now, or as it was
      split
      · exact fun _ => rfl
      · split
        · exact fun _ => rfl
        · rename_i he
          intro hs
          simpa [hs] using he
    · split
      · exact h.1 ‹_›
      · exact flushBelow_allW rest h.2

/-- record_trace_data leaves the shadow stack closed -/
theorem recordTrace_WClosed {fs : List Mcount.Frame} (h : WClosed fs) : WClosed (Mcount.recordTrace fs).1 :=
  WClosed_of_allW (recordTrace_allW h)

/-- the ENTRY records still owed for a shadow stack (innermost first): those of the frames that are neither filtered
    out (NORECORD / DISABLED) nor written, outermost first -/
def pendingEntries : List Mcount.Frame → List Mcount.Rec
  | [] => []
  | f :: r => pendingEntries r ++ (if !f.skip && !f.written then [Mcount.entryRec f] else [])

theorem pendingEntries_nil_of_allW : ∀ {fs : List Mcount.Frame}, AllW fs → pendingEntries fs = []
  | [], _ => rfl
  | f :: r, h => by
    obtain ⟨hf, hr⟩ := allW_cons.mp h
    simp only [pendingEntries, pendingEntries_nil_of_allW hr, List.nil_append]
    cases hs : f.skip
    · simp [hf hs]
    · simp

theorem pendingEntries_skip_top {top : Mcount.Frame} (rest : List Mcount.Frame) (hs : top.skip = true) :
    pendingEntries (top :: rest) = pendingEntries rest := by
  simp [pendingEntries, hs]

theorem mem_pendingEntries : ∀ {fs : List Mcount.Frame} {r : Mcount.Rec},
    r ∈ pendingEntries fs ↔ ∃ f ∈ fs, f.skip = false ∧ f.written = false ∧ r = Mcount.entryRec f
  | [], r => by simp [pendingEntries]
  | g :: l, r => by
    simp only [pendingEntries, List.mem_append, mem_pendingEntries (fs := l), List.mem_cons]
    constructor
    · rintro (⟨f, hf, h⟩ | h)
      · exact ⟨f, Or.inr hf, h⟩
      · split at h
        · rename_i hc
          simp only [List.mem_singleton] at h
          simp only [Bool.and_eq_true, Bool.not_eq_eq_eq_not, Bool.not_true] at hc
          exact ⟨g, Or.inl rfl, hc.1, hc.2, h⟩
        · simp at h
    · rintro ⟨f, hf | hf, hs, hw, hr⟩
      · right; subst hf; simp [hs, hw, hr]
      · left; exact ⟨f, hf, hs, hw, hr⟩

/-- the downward walk hands over exactly the owed ENTRY records, outermost first -/
theorem flushBelow_exact : ∀ (fs : List Mcount.Frame), WClosed fs → (Mcount.flushBelow fs).2 = pendingEntries fs
  | [], _ => rfl
  | f :: r, h => by
    unfold Mcount.flushBelow
    by_cases hw : f.written = true
    · simp [hw, pendingEntries_nil_of_allW (allW_cons.mpr ⟨fun _ => hw, h.1 hw⟩)]
    · have hw' : f.written = false := by simpa using hw
      simp only [hw', Bool.false_eq_true, if_false, pendingEntries, Bool.not_false, Bool.and_true]
      have ih := flushBelow_exact r h.2
      cases hs : f.skip <;> simp [ih]

/-- the EXIT record of the frame record_trace_data is called for (only on the exit path: `end_time` set) -/
def exitPart : List Mcount.Frame → List Mcount.Rec
  | [] => []
  | top :: _ => if top.endT != 0 then [Mcount.exitRec top] else []

/-- **record_trace_data, exactly.**  Called for the top frame of ANY stack that satisfies its premise - with filtered-out
    (NORECORD) or DISABLED frames anywhere, the top frame included - it hands over the ENTRY records of all recordable
    open calls that were not written yet, outermost first, then the top frame's EXIT if it is returning; nothing else. -/
theorem recordTrace_exact {fs : List Mcount.Frame} (h : WClosed fs) :
    (Mcount.recordTrace fs).2 = pendingEntries fs ++ exitPart fs := by
  cases fs with
  | nil => rfl
  | cons top rest =>
    unfold Mcount.recordTrace
    by_cases hw : top.written = true
    · simp [hw, pendingEntries_nil_of_allW (allW_cons.mpr ⟨fun _ => hw, h.1 hw⟩), exitPart]
    · have hw' : top.written = false := by simpa using hw
      simp only [hw', Bool.false_eq_true, if_false, Bool.not_false, Bool.true_and, pendingEntries, Bool.and_true,
        exitPart, flushBelow_exact rest h.2]

/-! ### the hooks keep record_trace_data's premise (`WClosed`)

Every function of the hook model that touches the shadow stack: mcount_check_rstack, the TRACE_OFF flush,
mcount_entry_filter_check, mcount_entry_filter_record (the flags it puts on the new frame: NORECORD, DISABLED, …; the
finish trigger; the flush when tracing goes off), mcount_exit_filter_record, the entry and exit hooks of both families,
the crash handler's flush and the fork child handler.  A new call is pushed unwritten, a return pops the top, and in
between the hooks change flags of the top frame other than `written` or call record_trace_data. -/

theorem WClosed_push {fs : List Mcount.Frame} (f : Mcount.Frame) (hf : f.written = false) (h : WClosed fs) :
    WClosed (f :: fs) := ⟨by simp [hf], h⟩

theorem WClosed_tail {f : Mcount.Frame} {fs : List Mcount.Frame} (h : WClosed (f :: fs)) : WClosed fs := h.2

theorem WClosed_retag_same {f f' : Mcount.Frame} {fs : List Mcount.Frame} (hw : f'.written = f.written)
    (h : WClosed (f :: fs)) : WClosed (f' :: fs) := ⟨by rw [hw]; exact h.1, h.2⟩

theorem WClosed_tail' : ∀ {fs : List Mcount.Frame}, WClosed fs → WClosed fs.tail
  | [], _ => trivial
  | _ :: _, h => h.2

/-- what holds of both branches holds of the conditional (the hook functions are cascades of `if`s over large
    records, which `split` is slow to take apart) -/
theorem ite_ind {α : Type} (P : α → Prop) {c : Prop} [Decidable c] {a b : α} (ha : P a) (hb : P b) :
    P (if c then a else b) := by
  split
  · exact ha
  · exact hb

theorem checkRstack_WClosed (cfg : Mcount.Cfg) (s : Mcount.St) (h : WClosed s.frames) :
    WClosed (Mcount.checkRstack cfg s).2.frames := by
  let P (x : Bool × Mcount.St) : Prop := WClosed x.2.frames
  unfold Mcount.checkRstack
  exact ite_ind P (ite_ind P (recordTrace_WClosed h) h) h

theorem traceOffFlush_WClosed (cfg : Mcount.Cfg) (s : Mcount.St) (tr : Mcount.Trigger) (h : WClosed s.frames) :
    WClosed (Mcount.traceOffFlush cfg s tr).frames := by
  rw [Mcount.traceOffFlush_frames]
  exact ite_ind WClosed (recordTrace_WClosed h) h

theorem entryFilterCheck_WClosed (cfg : Mcount.Cfg) (s : Mcount.St) (addr : Nat) (h : WClosed s.frames) :
    WClosed (Mcount.entryFilterCheck cfg s addr).2.1.frames := by
  have hc := checkRstack_WClosed cfg s h
  have ht := traceOffFlush_WClosed cfg _ (cfg.trig addr) hc
  let P (x : Mcount.FR × Mcount.St × Mcount.Trigger) : Prop := WClosed x.2.1.frames
  unfold Mcount.entryFilterCheck
  -- every early return leaves the stack as mcount_check_rstack left it; the last two come after the TRACE_OFF flush
  exact ite_ind P hc (ite_ind P (ite_ind P hc hc) (ite_ind P hc (ite_ind P hc (ite_ind P ht ht))))

theorem entryFilterRecord_WClosed (cfg : Mcount.Cfg) (s : Mcount.St) (tr : Mcount.Trigger) (h : WClosed s.frames)
    (hw : ∀ f r, s.frames = f :: r → f.written = false) :
    WClosed (Mcount.entryFilterRecord cfg s tr).frames := by
  unfold Mcount.entryFilterRecord
  split
  · exact h
  · rename_i f rest hfr
    have hfw := hw f rest hfr
    have hr : WClosed rest := (hfr ▸ h).2
    let P (x : Mcount.St) : Prop := WClosed x.frames
    let Q (x : List Mcount.Frame × List Mcount.Rec) : Prop := WClosed x.1
    -- fast path; finish trigger (flush); NORECORD; DISABLED with or without the flush: the frame stays unwritten
    refine ite_ind P h (ite_ind P ?_ (ite_ind P ?_ (ite_ind Q ?_ ?_)))
    · exact recordTrace_WClosed (WClosed_push _ hfw hr)
    · exact WClosed_push _ hfw hr
    · exact recordTrace_WClosed (WClosed_push _ hfw hr)
    · exact WClosed_push _ hfw hr

theorem exitFilterRecord_WClosed (cfg : Mcount.Cfg) (s : Mcount.St) (h : WClosed s.frames) :
    WClosed (Mcount.exitFilterRecord cfg s).frames := by
  unfold Mcount.exitFilterRecord
  split
  · exact h
  · rename_i f rest hfr
    have hr : WClosed (Mcount.recordTrace (f :: rest)).1 := recordTrace_WClosed (hfr ▸ h)
    let P (x : Mcount.St) : Prop := WClosed x.frames
    -- along the branches of mcount_exit_filter_record: record_trace_data on the top frame, or nothing
    exact ite_ind P (ite_ind P hr h) (ite_ind P h (ite_ind P h (ite_ind P hr h)))

theorem entry_WClosed (cfg : Mcount.Cfg) (k : Mcount.Kind) (s : Mcount.St) (addr now : Nat) (h : WClosed s.frames) :
    WClosed (Mcount.entry cfg k s addr now).1.frames := by
  have h1 := entryFilterCheck_WClosed cfg s addr h
  unfold Mcount.entry
  simp only []
  cases k with
  | pg =>
    simp only []
    split
    · exact h1
    · apply entryFilterRecord_WClosed
      · exact WClosed_push _ rfl h1
      · intro f r e
        simp only [List.cons.injEq] at e
        rw [← e.1]
  | cyg =>
    simp only []
    split
    · exact h1
    · apply entryFilterRecord_WClosed
      · exact WClosed_push _ rfl h1
      · intro f r e
        simp only [List.cons.injEq] at e
        rw [← e.1]

theorem exit_WClosed (cfg : Mcount.Cfg) (s : Mcount.St) (now : Nat) (h : WClosed s.frames) :
    WClosed (Mcount.exit cfg s now).frames := by
  unfold Mcount.exit
  split
  · exact h
  · split
    · exact h
    · rename_i f rest hfr
      rw [hfr] at h
      simp only []
      apply WClosed_tail'
      apply exitFilterRecord_WClosed
      exact WClosed_retag_same (by split <;> rfl) h

theorem hookStep_WClosed (cfg : Mcount.Cfg) (s : Mcount.St) (o : HookOp) (h : WClosed s.frames) :
    WClosed (hookStep cfg s o).frames := by
  cases o with
  | enter k addr now => exact entry_WClosed cfg k s addr now h
  | leave now => exact exit_WClosed cfg s now h
  | flush => exact recordTrace_WClosed h
  | forkChild =>
    -- atfork_child_handler marks every inherited frame WRITTEN
    refine WClosed_of_allW fun g hg _ => ?_
    obtain ⟨g0, _, rfl⟩ := List.mem_map.mp hg
    rfl

theorem runHooks_WClosed (cfg : Mcount.Cfg) : ∀ (ops : List HookOp) (s : Mcount.St), WClosed s.frames →
    WClosed (runHooks cfg s ops).frames
  | [], _, h => h
  | o :: os, s, h => runHooks_WClosed cfg os _ (hookStep_WClosed cfg s o h)

/-! ### the shutdown measure -/

def wcost (w : Warg) : Nat := 2 * w.head.length + 4 * w.bufs.length + (if w.tid.isSome then 1 else 0)
def poolCost (p : Pool) : Nat := 4 * p.writeList.length + (p.writers.map wcost).sum

theorem mu_eq (s : State) : mu s = 6 * s.pipe.length + 5 * s.shmemList.length + poolCost s.pool := by
  have : (fun w : Warg => 2 * w.head.length + 4 * w.bufs.length + (if w.tid.isSome then 1 else 0)) = wcost := rfl
  simp only [mu, poolCost, this]; omega

theorem sum_replace (l1 l2 : List Warg) (w : Warg) :
    ((l1 ++ w :: l2).map wcost).sum = (l1.map wcost).sum + wcost w + (l2.map wcost).sum := by
  simp [List.sum_append, Nat.add_assoc]

theorem enqueue_cost (p : Pool) (wb : WBuf) : poolCost (p.enqueue wb) = poolCost p + 4 := by
  unfold Pool.enqueue
  cases hh : handTo wb p.writers with
  | none => simp [poolCost]; omega
  | some ws' =>
    obtain ⟨l1, w, l2, e, _, e'⟩ := handTo_some hh
    simp only [poolCost]
    rw [e', e, sum_replace, sum_replace]
    simp [wcost]; omega

theorem popHead_cost {p p' : Pool} {i : Nat} {wb : WBuf} (h : p.popHead i = some (p', wb)) :
    poolCost p' + 2 = poolCost p := by
  obtain ⟨l1, w, l2, rest, e, hh, e'⟩ := popHead_some h
  subst e'
  simp only [poolCost]
  rw [e, sum_replace, sum_replace]
  simp [wcost, hh]; omega

theorem splice_cost {p p' : Pool} {i : Nat} (h : p.splice i = some p') : poolCost p' < poolCost p := by
  obtain ⟨l1, w, l2, t0, e, ht, hh, e'⟩ := splice_some h
  subst e'
  simp only [poolCost]
  rw [e, sum_replace, sum_replace]
  by_cases hb : w.bufs = []
  · simp [wcost, hb, ht, hh]
  · have : w.bufs.length > 0 := List.length_pos_iff.mpr hb
    simp [wcost, hb, ht, hh, List.isEmpty_iff]; omega

theorem popRemaining_cost {p p' : Pool} {wb : WBuf} (h : p.popRemaining = some (p', wb)) :
    poolCost p' + 4 = poolCost p := by
  obtain ⟨rest, _, hl, e'⟩ := popRemaining_some h
  subst e'
  simp [poolCost, hl]; omega

theorem mu_recordMmap_le (s : State) (wb : WBuf) : mu (recordMmap s wb) ≤ mu s + 4 :=
  recordMmap_ind (P := fun s' => mu s' ≤ mu s + 4) (Nat.le_add_right _ _) (by simp only [mu_eq, enqueue_cost]; omega)

theorem mu_writeOut (s : State) (wb : WBuf) (fl : Bool) : mu (writeOut s wb fl) = mu s :=
  writeOut_ind (P := fun s' => mu s' = mu s) rfl fun _ _ _ _ => rfl

theorem mu_setProd (s : State) (t : Tid) (p : Prod) : mu (s.setProd t p) = mu s := rfl

/-- every action of the shutdown sequence strictly decreases the measure -/
theorem mu_step {cfg : Cfg} {s s' : State} {a : Action} (ha : isShutdownAct a = true)
    (hs : step cfg s a = some s') : mu s' < mu s := by
  cases step_sound hs with
  | rReadStart hp =>
    simp [mu_eq, hp]
    omega
  | rReadLost hp | rReadFinish hp => simp [mu_eq, hp]
  | @rReadEnd t i rest hp =>
    have := mu_recordMmap_le { s with pipe := rest, shmemList := s.shmemList.erase ⟨t, i⟩ } ⟨t, i⟩
    have hl := List.length_erase_le (a := (⟨t, i⟩ : WBuf)) (l := s.shmemList)
    simp only [mu_eq, hp, List.length_cons] at this ⊢
    omega
  | @rFlush t i hmem =>
    have := mu_recordMmap_le (({ s with shmemList := s.shmemList.erase ⟨t, i⟩ } : State).setProd t
      { s.prod t with opn := if (s.prod t).opn = some i then none else (s.prod t).opn }) ⟨t, i⟩
    have hl := List.length_erase_of_mem hmem
    have hpos : s.shmemList.length > 0 := List.length_pos_of_mem hmem
    simp only [mu_eq, setProd_pipe, setProd_shm, setProd_pool] at this ⊢
    omega
  | rRemaining _ hp =>
    rw [mu_writeOut]
    have := popRemaining_cost hp
    simp only [mu_eq]
    omega
  | wWrite hp =>
    rw [mu_writeOut]
    have := popHead_cost hp
    simp only [mu_eq]
    omega
  | wSplice hp =>
    have := splice_cost hp
    simp only [mu_eq]
    omega
  | emit _ hp => cases hp <;> cases ha
  | _ => cases ha

/-- hence every schedule of shutdown actions is at most `mu s` steps long -/
theorem run_shutdown_bounded {cfg : Cfg} : ∀ (acts : List Action) (s s' : State),
    (∀ a ∈ acts, isShutdownAct a = true) → run cfg s acts = some s' → acts.length + mu s' ≤ mu s
  | [], s, s', _, h => by simp [run] at h; subst h; simp
  | a :: as, s, s', ha, h => by
    simp only [run] at h
    split at h
    · rename_i s1 hs1
      have h1 := mu_step (ha a (by simp)) hs1
      have h2 := run_shutdown_bounded as s1 s' (fun b hb => ha b (by simp [hb])) h
      simp only [List.length_cons]; omega
    · simp at h

/-! ### order of a tid's buffers across exec -/

def ofTid (t : Int) (l : List (Int × Nat)) : List (Int × Nat) := l.filter (fun e => e.1 = t)

theorem ofTid_append (t : Int) (a b : List (Int × Nat)) : ofTid t (a ++ b) = ofTid t a ++ ofTid t b := by
  simp [ofTid]

theorem ofTid_erase_other {t u : Int} (h : u ≠ t) (b : Nat) (l : List (Int × Nat)) :
    ofTid t (l.erase (u, b)) = ofTid t l := by
  rw [ofTid, ← List.erase_filter]
  exact List.erase_of_not_mem (by simp [h])

theorem ofTid_erase_self (t : Int) (b : Nat) (l : List (Int × Nat)) :
    ofTid t (l.erase (t, b)) = (ofTid t l).erase (t, b) :=
  List.erase_filter.symm

theorem flushOld_none {t : Int} {l : List (Int × Nat)} (h : flushOld t l = none) : ofTid t l = [] := by
  induction l with
  | nil => rfl
  | cons e l ih =>
    unfold flushOld at h
    by_cases he : e.1 = t
    · simp [he] at h
    · simp only [he, if_false] at h
      cases hf : flushOld t l with
      | none =>
        have := ih hf
        simp only [ofTid, List.filter_cons, he, decide_false, Bool.false_eq_true, if_false] at this ⊢
        exact this
      | some x => simp [hf] at h

theorem flushOld_some {t : Int} {l l' : List (Int × Nat)} {e : Int × Nat} (h : flushOld t l = some (e, l')) :
    e.1 = t ∧ ofTid t l = e :: ofTid t l' ∧ ∀ u, u ≠ t → ofTid u l' = ofTid u l := by
  induction l generalizing l' with
  | nil => simp [flushOld] at h
  | cons x l ih =>
    unfold flushOld at h
    by_cases hx : x.1 = t
    · simp only [hx, if_true, Option.some.injEq, Prod.mk.injEq] at h
      obtain ⟨h1, h2⟩ := h
      subst h1; subst h2
      refine ⟨hx, by simp [ofTid, hx], ?_⟩
      intro u hu
      have : ¬ x.1 = u := by rw [hx]; exact fun e => hu e.symm
      simp [ofTid, this]
    · simp only [hx, if_false] at h
      cases hf : flushOld t l with
      | none => simp [hf] at h
      | some y =>
        obtain ⟨y1, y2⟩ := y
        simp only [hf, Option.some.injEq, Prod.mk.injEq] at h
        obtain ⟨h1, h2⟩ := h
        subst h1; subst h2
        obtain ⟨i1, i2, i3⟩ := ih hf
        refine ⟨i1, by simp [ofTid, hx] at i2 ⊢; exact i2, ?_⟩
        intro u hu
        have := i3 u hu
        simp only [ofTid, List.filter_cons] at this ⊢
        rw [this]

theorem any_known {known : Int → Int → Int → Int → Bool}
    (hk : ∀ pp pt mp mt, known pp pt mp mt = (pt == mt)) (s : RecState) (pid t : Int) :
    s.tasks.any (fun pos => known pos.pid pos.tid pid t) = knownTid s t := by
  simp [knownTid, hk]

/-- one message: what the recorder has queued for `t`, followed by what it still holds announced for `t`, grows
    exactly by the buffers `t` starts -/
theorem handle_order {known : Int → Int → Int → Int → Bool}
    (hk : ∀ pp pt mp mt, known pp pt mp mt = (pt == mt)) (s : RecState) (m : CMsg) (hok : msgOk s m = true) (t : Int) :
    ofTid t (handle known s m).enq ++ ofTid t (handle known s m).shm =
      ofTid t s.enq ++ ofTid t s.shm ++ startsOf t [m] := by
  cases m with
  | recStart u b =>
    by_cases hu : u = t
    · subst hu; simp [handle, startsOf, ofTid]
    · simp [handle, startsOf, ofTid, hu]
  | recEnd u b =>
    simp only [handle, startsOf, List.append_nil, ofTid_append]
    by_cases hu : u = t
    · subst hu
      simp only [msgOk, shmOf, beq_iff_eq] at hok
      have hs : ofTid u s.shm = [(u, b)] := hok
      rw [ofTid_erase_self, hs]
      simp [ofTid]
    · rw [ofTid_erase_other hu]
      simp [ofTid, hu]
  | taskStart pid u =>
    simp only [handle, startsOf, List.append_nil, any_known hk]
    by_cases hkn : knownTid s u = true
    · simp only [hkn, if_true]
      cases hf : flushOld u s.shm with
      | none => rfl
      | some x =>
        obtain ⟨e, l⟩ := x
        obtain ⟨h1, h2, h3⟩ := flushOld_some hf
        simp only [ofTid_append]
        by_cases hu : u = t
        · subst hu
          rw [h2]
          simp [ofTid, h1]
        · have : ¬ e.1 = t := by rw [h1]; exact hu
          rw [h3 t (Ne.symm hu)]
          simp [ofTid, this]
    · simp [hkn]
  | forkStart pid => simp [handle, startsOf]
  | forkEnd pid tid => simp [handle, startsOf]
  | taskEnd tid => simp [handle, startsOf]

theorem startsOf_cons (t : Int) (m : CMsg) (l : List CMsg) : startsOf t (m :: l) = startsOf t [m] ++ startsOf t l := by
  cases m <;> simp [startsOf]
  split <;> simp

theorem fold_order {known : Int → Int → Int → Int → Bool}
    (hk : ∀ pp pt mp mt, known pp pt mp mt = (pt == mt)) (t : Int) :
    ∀ (msgs : List CMsg) (s : RecState), valid known s msgs = true →
      ofTid t (finishRec (msgs.foldl (handle known) s)).enq = ofTid t s.enq ++ ofTid t s.shm ++ startsOf t msgs
  | [], s, _ => by simp [finishRec, ofTid_append, startsOf]
  | m :: l, s, hv => by
    simp only [valid, Bool.and_eq_true] at hv
    rw [List.foldl_cons, fold_order hk t l _ hv.2, handle_order hk s m hv.1 t, startsOf_cons t m l]
    simp [List.append_assoc]

end Uft.Crash

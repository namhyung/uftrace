import Uft.Lemmas.FstackSim
/- C07, the replay loop (print_graph_rstack with the fstack_skip look-ahead and leaf folding) over the eager
   trace of a forest, directly against the documented selection (tracing on, no trace switch in the table): it
   shows `specCalls` (`B1`), and with the line of an accepted ENTRY still pending it either stays pending over a
   stretch that shows nothing or is printed in front of what the stretch shows (`B2`).  The results about the
   commands do not rest on this: they go through the simulation of FstackSim. -/
namespace Uft.Fstack
open Uft.Mcount (Rec Trigger Call Calls evCall evCalls)

theorem setDisp_succ (s : FS) : setDisp s (s.dispDepth + 1) = updEntry s := rfl

def runBst (c : RCfg) : RS → List Rec → RS × List Rec
  | s, [] => (s, [])
  | s, r :: rest => ((runBst c (stepB c s r).1 rest).1, (stepB c s r).2 ++ (runBst c (stepB c s r).1 rest).2)

theorem runBst_append (c : RCfg) (s : RS) (a b : List Rec) :
    runBst c s (a ++ b) =
      ((runBst c (runBst c s a).1 b).1, (runBst c s a).2 ++ (runBst c (runBst c s a).1 b).2) := by
  induction a generalizing s with
  | nil => simp [runBst]
  | cons r rest ih => simp [runBst, ih, List.append_assoc]

theorem runBst_cons (c : RCfg) (s : RS) (r : Rec) (rs : List Rec) :
    runBst c s (r :: rs) = ((runBst c (stepB c s r).1 rs).1, (stepB c s r).2 ++ (runBst c (stepB c s r).1 rs).2) := rfl

theorem runBst_nil (c : RCfg) (s : RS) : runBst c s [] = (s, []) := rfl

theorem stepB_exit (c : RCfg) (hnl : c.noLibcall = false) (s : FS) (r : Rec) (ht : r.type = 1) :
    stepB c ⟨s, none⟩ r = (⟨(stepA c s r).1, none⟩, (stepA c s r).2) :=
  stepBmain_exit c hnl s r ht

def B1 (c : RCfg) (evs : Nat → List Rec) (sp : Env → Nat → List Rec) : Prop :=
  ∀ d s, Good s → runBst c ⟨s, none⟩ (evs d) = (⟨s, none⟩, sp (envOf s) s.dispDepth)

def B2 (c : RCfg) (evs : Nat → List Rec) (sp : Env → Nat → List Rec) : Prop :=
  ∀ d s e dd, Good s → e.depth < d → s.dispDepth = dd →
    (runBst c ⟨s, some (e, dd)⟩ (evs d) = (⟨s, some (e, dd)⟩, []) ∧ sp (envOf s) (dd + 1) = []) ∨
    runBst c ⟨s, some (e, dd)⟩ (evs d) = (⟨updEntry s, none⟩, shown e dd :: sp (envOf s) (dd + 1))

mutual
theorem both_call (c : RCfg) (hq : Quiet c) (hnl : c.noLibcall = false) : ∀ (x : Call),
    B1 c (fun d => evCall d x) (fun E d => specCall c E d x) ∧
    B2 c (fun d => evCall d x) (fun E d => specCall c E d x)
  | .node f t0 t1 kids => by
    obtain ⟨k1, k2⟩ := both_calls c hq hnl kids
    -- facts about the ENTRY / EXIT of this call from a good state
    have key : ∀ (d : Nat) (s : FS), Good s →
        ∃ (p1 : FS) (fr : Fr), p1 = (fsEntry c (account s { time := t0, type := 0, depth := d, addr := f }) f).1 ∧
          Entered s p1 fr ∧ Good p1 ∧
          (fsEntry c (account s { time := t0, type := 0, depth := d, addr := f }) f).2 = (visit c (envOf s) f).1 ∧
          envOf p1 = (visit c (envOf s) f).2 ∧ p1.dispDepth = s.dispDepth ∧ fr.norecord = !(visit c (envOf s) f).1 := by
      intro d s hg
      obtain ⟨h1, h2, h3, h4, h5, h6⟩ :=
        entry_live c s hg { time := t0, type := 0, depth := d, addr := f } rfl (fires_quiet c hq _ f)
      exact ⟨_, _, rfl, h1, h2, h3, h4, h5, h6⟩
    have hB1 : B1 c (fun d => evCall d (.node f t0 t1 kids)) (fun E d => specCall c E d (.node f t0 t1 kids)) := by
      intro d s hg
      obtain ⟨p1, fr, hp1, hE, hg1, hp2, henv, hdd, hnr⟩ := key d s hg
      have hX := stepA_exit_live c hnl hE hg hg1 hdd _ hnr { time := t1, type := 1, depth := d, addr := f } rfl
      simp only [evCall, runBst_append, List.singleton_append, runBst_cons, runBst_nil, specCall]
      have hEs : stepB c ⟨s, none⟩ { time := t0, type := 0, depth := d, addr := f } =
          stepBmain c s { time := t0, type := 0, depth := d, addr := f } := rfl
      rw [hEs, stepBmain_entry c hnl s _ rfl, ← hp1, hp2]
      cases hv : (visit c (envOf s) f).1 with
      | false =>
        simp only [hv, Bool.false_eq_true, ↓reduceIte] at hX
        simp only [Bool.not_false, ↓reduceIte]
        rw [k1 (d + 1) p1 hg1]
        simp only
        rw [stepB_exit c hnl p1 _ rfl, hX, henv, hdd]
        simp
      | true =>
        simp only [hv, ↓reduceIte] at hX
        simp only [Bool.not_true, Bool.false_eq_true, ↓reduceIte]
        have he : envOf (updEntry p1) = (visit c (envOf s) f).2 := henv
        have hd1 : (updEntry p1).dispDepth = s.dispDepth + 1 := by simp [updEntry, hdd]
        cases hm : c.noMerge with
        | true =>
          simp only [↓reduceIte]
          rw [k1 (d + 1) (updEntry p1) (good_updEntry p1 hg1)]
          simp only
          rw [stepB_exit c hnl _ _ rfl, hX, he, hd1]
          simp [hdd, shown]
        | false =>
          simp only [Bool.false_eq_true, ↓reduceIte]
          rcases k2 (d + 1) p1 { time := t0, type := 0, depth := d, addr := f } s.dispDepth hg1
            (by simp) hdd with ⟨hst, hnil⟩ | hfl
          · -- nothing below is shown: the EXIT folds the pending line into a leaf
            rw [hdd, hst]
            simp only
            rw [stepB_pend_leaf c p1 { time := t0, type := 0, depth := d, addr := f } s.dispDepth
              { time := t1, type := 1, depth := d, addr := f } rfl rfl,
              (exit_entered c hE hg hg1 _ rfl).1, hdd, setDisp_self]
            rw [henv] at hnil
            simp [hnil, shown]
          · rw [hdd, hfl]
            simp only
            rw [stepB_exit c hnl _ _ rfl, hX]
            simp [henv, shown]
    refine ⟨hB1, ?_⟩
    intro d s e dd hg hlt hsd
    obtain ⟨p1, fr, hp1, hE, hg1, hp2, henv, hdd, hnr⟩ := key d s hg
    by_cases hk : checkSkip c s { time := t0, type := 0, depth := d, addr := f } = true
    · -- the ENTRY is skipped by fstack_skip: it is one fstack_entry rejects
      have hv : (visit c (envOf s) f).1 = false := by
        rw [← hp2]
        show (verdict c (account s _) f == Verdict.accept) = false
        rw [verdict_account]
        simpa using checkSkip_sound c s _ rfl hk
      rw [hv] at hnr
      have hspec : ∀ n, specCall c (envOf s) n (.node f t0 t1 kids) = specCalls c (visit c (envOf s) f).2 n kids := by
        intro n; simp [specCall, hv]
      have hEstep : stepB c ⟨s, some (e, dd)⟩ { time := t0, type := 0, depth := d, addr := f } =
          (⟨p1, some (e, dd)⟩, []) := by
        rw [stepB_pend_deeper c hnl s e dd _ hlt (by simp), hk]
        simp only [↓reduceIte, ← hp1, hg1.en, Bool.not_true, Bool.false_eq_true]
      -- if the pending line was printed meanwhile, the EXIT leads back to `s` one display level up
      have hXu : stepA c (updEntry p1) { time := t1, type := 1, depth := d, addr := f } = (updEntry s, []) :=
        stepA_exit_live c hnl (s := updEntry s) (s1 := updEntry p1) ⟨hE.inC, hE.outC, hE.stack, hE.sc, hE.orig⟩
          (good_updEntry s hg) (good_updEntry p1 hg1)
          (by simp [updEntry, hdd]) false hnr _ rfl
      simp only [evCall, runBst_append, List.singleton_append, runBst_cons, runBst_nil, hEstep, hspec]
      rcases k2 (d + 1) p1 e dd hg1 (by omega) (by rw [hdd, hsd]) with ⟨hst, hnil⟩ | hfl
      · rw [hst]
        simp only
        rw [henv] at hnil
        rw [stepB_pend_deeper c hnl p1 e dd _ hlt (by simp)]
        by_cases hk2 : checkSkip c p1 { time := t1, type := 1, depth := d, addr := f } = true
        · left
          simp only [hk2, ↓reduceIte]
          rw [if_neg (by decide : ¬ (1 : Nat) = 0), (exit_entered c hE hg hg1 _ rfl).1, hdd, setDisp_self, hg.en]
          simp [hnil]
        · right
          simp only [hk2, Bool.false_eq_true, ↓reduceIte]
          rw [stepBmain_exit c hnl _ _ rfl, hXu]
          simp [hnil]
      · right
        rw [hfl]
        simp only
        rw [stepB_exit c hnl _ _ rfl, hXu, henv]
        simp
    · -- the ENTRY is not skipped: the pending line is printed and the main loop takes over
      right
      have h1 := hB1 d (updEntry s) (good_updEntry s hg)
      simp only [evCall, List.cons_append, List.nil_append, runBst_cons] at h1 ⊢
      rw [stepB_pend_deeper c hnl s e dd _ hlt (by simp)]
      simp only [hk, Bool.false_eq_true, ↓reduceIte]
      have hm : stepB c ⟨updEntry s, none⟩ { time := t0, type := 0, depth := d, addr := f } =
          stepBmain c (updEntry s) { time := t0, type := 0, depth := d, addr := f } := rfl
      rw [hm] at h1
      have h2 := congrArg Prod.fst h1
      have h3 := congrArg Prod.snd h1
      simp only at h2 h3
      refine Prod.ext h2 ?_
      simp only [List.cons_append]
      rw [h3]
      simp [updEntry, envOf, hsd]
theorem both_calls (c : RCfg) (hq : Quiet c) (hnl : c.noLibcall = false) : ∀ (xs : Calls),
    B1 c (fun d => evCalls d xs) (fun E d => specCalls c E d xs) ∧
    B2 c (fun d => evCalls d xs) (fun E d => specCalls c E d xs)
  | .nil => by
    refine ⟨fun d s hg => rfl, fun d s e dd hg hlt hsd => Or.inl ⟨rfl, rfl⟩⟩
  | .cons x rest => by
    obtain ⟨x1, x2⟩ := both_call c hq hnl x
    obtain ⟨r1, r2⟩ := both_calls c hq hnl rest
    refine ⟨?_, ?_⟩
    · intro d s hg
      simp only [evCalls, runBst_append, specCalls]
      rw [x1 d s hg]
      simp only
      rw [r1 d s hg]
    · intro d s e dd hg hlt hsd
      simp only [evCalls, runBst_append, specCalls]
      rcases x2 d s e dd hg hlt hsd with ⟨hst, hnil⟩ | hfl
      · rw [hst]
        simp only
        rcases r2 d s e dd hg hlt hsd with ⟨hst2, hnil2⟩ | hfl2
        · left; rw [hst2]; simp [hnil, hnil2]
        · right; rw [hfl2]; simp [hnil]
      · right
        rw [hfl]
        simp only
        rw [r1 d (updEntry s) (good_updEntry s hg)]
        simp [updEntry, envOf, hsd]
end

end Uft.Fstack

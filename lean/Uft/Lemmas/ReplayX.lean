/- C06: lemmas about the replay model with the fix-ups (`replayX`): the name classification,
   `--no-merge` as one step per record, the fix-up-free stream (= `replay`), leaf folding.
   Core only. -/
import Uft.Lemmas.ReplayTree
namespace Uft.Replay
open Uft.Merge

/-! ### the name classification -/

theorem strstr_iff_infix (h n : List Char) : strstr h n = true ↔ n <:+: h := by
  induction h with
  | nil =>
    simp only [strstr, List.isEmpty_iff]
    constructor
    · intro e; subst e; exact List.infix_refl _
    · intro e; exact List.eq_nil_of_infix_nil e
  | cons c cs ih =>
    simp only [strstr, Bool.or_eq_true, List.isPrefixOf_iff_prefix, ih]
    constructor
    · rintro (hp | hi)
      · exact hp.isInfix
      · exact hi.trans (List.infix_cons (List.infix_refl _))
    · intro hi
      rcases List.infix_cons_iff.1 hi with hp | hi'
      · exact Or.inl hp
      · exact Or.inr hi'

/-- what the property needs: the four families, name by name -/
def specClass (name : String) : Fix :=
  if ["execl", "execlp", "execle", "execv", "execve", "execvp", "execvpe"].contains name then .exec
  else if ["setjmp", "_setjmp", "sigsetjmp", "__sigsetjmp"].contains name then .setjmp
  else if ["longjmp", "siglongjmp", "__longjmp_chk", "_longjmp"].contains name then .longjmp
  else if ["fork", "vfork", "daemon", "posix.fork"].contains name then .fork
  else .none

theorem cascade_fixupSyms : ∀ n ∈ fixupSyms, cascade n = specClass n := by decide +kernel

theorem classifyName_eq_spec (name : String) : classifyName name = specClass name := by
  unfold classifyName
  by_cases h : fixupSyms.contains name = true
  · rw [if_pos h]
    exact cascade_fixupSyms name (by simpa using h)
  · rw [if_neg h]
    have hm : name ∉ fixupSyms := by simpa using h
    simp only [fixupSyms, List.mem_cons, List.not_mem_nil, or_false, not_or] at hm
    obtain ⟨h1, h2, h3, h4, h5, h6, h7, h8, h9, h10, h11, h12, h13, h14, h15, h16, h17, h18, h19⟩ := hm
    simp [specClass, h1, h2, h3, h4, h5, h6, h7, h8, h9, h10, h11, h12, h13, h14, h15, h16, h17, h18, h19]

/-! ### `--no-merge`: every record is one step -/

def stepX (fx : Fixes) (cls : Nat → Fix) (w : W) (i : Nat) (r : Rec) : W × Ev :=
  if r.exit then (exitW w i (consumeX fx w i r), exitEv i (consumeX fx w i r) r)
  else (entryW cls w i (consumeX fx w i r) r, entryEv i (consumeX fx w i r) r)

theorem replayX_false_cons (fx : Fixes) (cls : Nat → Fix) (w : W) (i : Nat) (r : Rec) (rest : List (Nat × Rec)) :
    replayX fx cls false w ((i, r) :: rest) =
      ((replayX fx cls false (stepX fx cls w i r).1 rest).1,
       (stepX fx cls w i r).2 :: (replayX fx cls false (stepX fx cls w i r).1 rest).2) := by
  cases rest with
  | nil => by_cases h : r.exit = true <;> simp [replayX, stepX, h]
  | cons p rest => by_cases h : r.exit = true <;> simp [replayX, stepX, h]

/-! ### a stream without exec/longjmp entries, code without the repairs: `replayX` is `replay` -/

theorem jumps_false_iff {cls : Nat → Fix} {a : Nat} :
    jumps cls a = false ↔ cls a ≠ .exec ∧ cls a ≠ .longjmp := by
  simp [jumps]

theorem entryStateX_plain {cls : Nat → Fix} {w : W} {s : TaskSt} {r : Rec} (h : jumps cls r.addr = false) :
    entryStateX cls w s r = entryState (isForkOf cls) s r := by
  obtain ⟨h1, h2⟩ := jumps_false_iff.1 h
  unfold entryStateX
  split <;> simp_all

theorem noteW_g (cls : Nat → Fix) (w : W) (i : Nat) (s : TaskSt) (r : Rec) : (noteW cls w i s r).g = w.g := by
  unfold noteW; split <;> rfl

@[simp] theorem entryW_g (cls : Nat → Fix) (w : W) (i : Nat) (s : TaskSt) (r : Rec) :
    (entryW cls w i s r).g = upd w.g i (entryStateX cls w s r) := rfl
@[simp] theorem exitW_g (w : W) (i : Nat) (s : TaskSt) : (exitW w i s).g = upd w.g i (exitState s) := rfl
@[simp] theorem leafW_g (cls : Nat → Fix) (w : W) (i : Nat) (s s2 : TaskSt) (r : Rec) :
    (leafW cls w i s s2 r).g = upd w.g i (leafState (isForkOf cls) s s2 r) := rfl

theorem inhX_plain (w : W) (i : Nat) (r : Rec) : inhX {} w i r = inhOf w.g i := by
  unfold inhX inhOf
  cases (w.g i).parent with
  | none => simp
  | some p =>
    by_cases h : (w.g p).forkDisp = 0
    · simp [h]
    · simp [h]

theorem restoreX_plain (w : W) (i : Nat) (r : Rec) : restoreX {} w i r = w.g i := by
  unfold restoreX
  cases w.xp i with
  | none => rfl
  | some p => simp

theorem consumeX_plain (w : W) (i : Nat) (r : Rec) : consumeX {} w i r = consume (inhOf w.g i) (w.g i) r := by
  simp [consumeX, inhX_plain, restoreX_plain]

/-- no exec*/longjmp-family call in the stream (setjmp- and fork-family calls are allowed) -/
def JumpFree (cls : Nat → Fix) (m : List (Nat × Rec)) : Prop :=
  ∀ p ∈ m, p.2.exit = false → jumps cls p.2.addr = false

theorem replayX_plain (cls : Nat → Fix) (b : Bool) (w : W) (m : List (Nat × Rec)) (h : JumpFree cls m) :
    (replayX {} cls b w m).1.g = (replay b (isForkOf cls) w.g m).1 ∧
    (replayX {} cls b w m).2 = (replay b (isForkOf cls) w.g m).2 := by
  induction w, m using replayX.induct {} cls b with
  | case1 w => exact ⟨rfl, rfl⟩
  | case2 w i r hx => simp [replayX, replay, hx, consumeX_plain]
  | case3 w i r hx =>
    have hj := h (i, r) (by simp) (by simpa using hx)
    simp [replayX, replay, hx, consumeX_plain, entryStateX_plain hj]
  | case4 w i r j x rest s hx ih =>
    have := ih (fun p hp => h p (List.mem_cons_of_mem _ hp))
    simp only [s, exitW_g, consumeX_plain] at this
    simp only [replayX, replay, hx, if_true, consumeX_plain]
    exact ⟨this.1, by rw [this.2]⟩
  | case5 w i r j x rest s hx hf s2 ih =>
    have := ih (fun p hp => h p (List.mem_cons_of_mem _ (List.mem_cons_of_mem _ hp)))
    have hj := h (i, r) (by simp) (by simpa using hx)
    simp only [s, s2, leafW_g, consumeX_plain] at this
    simp only [hj, Bool.not_false, Bool.and_true] at hf
    simp only [replayX, replay, hx, hj, hf, Bool.not_false, Bool.and_true, Bool.false_eq_true, if_true, if_false,
      consumeX_plain]
    exact ⟨this.1, by rw [this.2]⟩
  | case6 w i r j x rest s hx hf ih =>
    have := ih (fun p hp => h p (List.mem_cons_of_mem _ hp))
    have hj := h (i, r) (by simp) (by simpa using hx)
    simp only [s, entryW_g, consumeX_plain, entryStateX_plain hj] at this
    simp only [hj, Bool.not_false, Bool.and_true] at hf
    simp only [replayX, replay, hx, hj, hf, Bool.not_false, Bool.and_true, Bool.false_eq_true, if_false,
      consumeX_plain]
    exact ⟨this.1, by rw [this.2]⟩

/-! ### leaf folding is presentation, with the fix-ups -/

theorem noteW_xp_plain {cls : Nat → Fix} {w : W} {i : Nat} {s : TaskSt} {r : Rec} (h : jumps cls r.addr = false) :
    (noteW cls w i s r).xp = updO w.xp i none := by
  obtain ⟨h1, _⟩ := jumps_false_iff.1 h
  unfold noteW
  split <;> simp_all

theorem updO_same (f : Nat → Option (Nat × Nat)) (i : Nat) (v : Option (Nat × Nat)) : updO f i v i = v := by
  simp [updO]

theorem updO_idem (f : Nat → Option (Nat × Nat)) (i : Nat) (a b : Option (Nat × Nat)) :
    updO (updO f i a) i b = updO f i b := by
  funext k; by_cases hk : k = i <;> simp [updO, hk]

theorem upd_idem (g : G) (i : Nat) (a b : TaskSt) : upd (upd g i a) i b = upd g i b := by
  funext k; by_cases hk : k = i <;> simp [upd, hk]

/-- after consuming an ENTRY its frame is on top of the stack, started or not -/
theorem consume_entry_top (inh : Nat) (st : TaskSt) {r : Rec} (h : r.exit = false) :
    ∃ c, (consume inh st r).stackCount = c + 1 ∧
      (consume inh st r).slots c = { addr := r.addr, total := r.time, valid := true } := by
  refine ⟨(startTask inh st r).stackCount, ?_, ?_⟩
  · simp [consume, newCount, h]
  · simp [consume, accountSlots, h, setSlot]

/-- the state after showing `r` as `name() {` and then consuming `x` is the state after showing `r` folded with `x`
    (whatever kind the two records are): `consume` does not look at the display depths that `entryState` changes -/
theorem leaf_state_eq (f : Nat → Bool) (inh : Nat) (s : TaskSt) (r x : Rec) (hs : s.started = true) :
    exitState (consume inh (entryState f s r) x) = leafState f s (consume 0 s x) r := by
  cases s
  simp only at hs
  subst hs
  rfl

theorem leaf_events_eq (f : Nat → Bool) (i inh : Nat) (s : TaskSt) (r x : Rec) (c : Nat)
    (hs : s.started = true) (hc : s.stackCount = c + 1)
    (hslot : s.slots c = { addr := r.addr, total := r.time, valid := true })
    (hx : x.exit = true) (haddr : x.addr = r.addr) (htime : r.time ≤ x.time) :
    entryEv i s r = (leafEv i s (consume 0 s x) r).asEntry ∧
    exitEv i (consume inh (entryState f s r) x) x = (leafEv i s (consume 0 s x) r).asExit := by
  rw [consume_exit hs hx hc, consume_exit (st := entryState f s r) hs hx hc]
  simp [entryEv, exitEv, leafEv, Ev.asEntry, Ev.asExit, entryState, hc, hslot, setSlot, haddr]
  omega

/-- ENTRY then EXIT under `--no-merge` against the folded leaf: the reader ends where the leaf leaves it,
    and the two lines are the `{` and `}` the leaf line stands for -/
theorem stepX_leaf (fx : Fixes) (cls : Nat → Fix) (w : W) (j : Nat) (r x : Rec) (hr : r.exit = false)
    (hj : jumps cls r.addr = false) (hx : x.exit = true) (haddr : x.addr = r.addr) (htime : r.time ≤ x.time) :
    (stepX fx cls (stepX fx cls w j r).1 j x).1 =
      leafW cls w j (consumeX fx w j r) (consume 0 (consumeX fx w j r) x) r ∧
    (stepX fx cls w j r).2 = (leafEv j (consumeX fx w j r) (consume 0 (consumeX fx w j r) x) r).asEntry ∧
    (stepX fx cls (stepX fx cls w j r).1 j x).2 =
      (leafEv j (consumeX fx w j r) (consume 0 (consumeX fx w j r) x) r).asExit := by
  have hs : (consumeX fx w j r).started = true := rfl
  obtain ⟨c, hc, hslot⟩ : ∃ c, (consumeX fx w j r).stackCount = c + 1 ∧
      (consumeX fx w j r).slots c = { addr := r.addr, total := r.time, valid := true } :=
    consume_entry_top (inhX fx w j r) (restoreX fx w j r) hr
  simp only [stepX, hr, hx, Bool.false_eq_true, if_false, if_true]
  generalize consumeX fx w j r = s at hs hc hslot ⊢
  have hre : restoreX fx (entryW cls w j s r) j x = entryState (isForkOf cls) s r := by
    simp [restoreX, entryW, noteW_xp_plain hj, updO, entryStateX_plain hj]
  have he := leaf_events_eq (isForkOf cls) j (inhX fx (entryW cls w j s r) j x) s r x c hs hc hslot hx haddr htime
  refine ⟨?_, he.1, by rw [consumeX, hre]; exact he.2⟩
  simp only [exitW, consumeX, hre, leaf_state_eq (isForkOf cls) _ s r x hs]
  simp only [entryW, leafW, entryStateX_plain hj, upd_idem, updO_idem, noteW_xp_plain hj]

theorem foldX_eq_nomerge (fx : Fixes) (cls : Nat → Fix) (w : W) (m : List (Nat × Rec)) (hok : PairsOK m) :
    unfold (replayX fx cls true w m).2 = (replayX fx cls false w m).2 ∧
    (replayX fx cls true w m).1 = (replayX fx cls false w m).1 := by
  induction w, m using replayX.induct_unfolding fx cls true with
  | case1 w => exact ⟨rfl, rfl⟩
  | case2 w i r s hx => simp [replayX, hx, unfold, exitEv, s]
  | case3 w i r s hx => simp [replayX, hx, unfold, entryEv, s]
  | case4 w i r j x rest s hx out ih =>
    have := ih (pairsOK_tail hok)
    rw [replayX_false_cons]
    simp only [stepX, hx, if_true, unfold, exitEv]
    exact ⟨by rw [this.1], this.2⟩
  | case5 w i r j x rest s hx hf s2 out ih =>
    have hx : r.exit = false := by simpa using hx
    simp only [Bool.true_and, Bool.and_eq_true, Bool.not_eq_true'] at hf
    obtain ⟨hjmp, hf⟩ := hf
    obtain ⟨⟨rfl, _⟩, hxe⟩ := foldsWith_iff.1 hf
    obtain ⟨haddr, htime⟩ := hok.1 hx hf
    obtain ⟨e1, e2, e3⟩ := stepX_leaf fx cls w j r x hx hjmp hxe haddr htime
    have := ih (pairsOK_tail (pairsOK_tail hok))
    rw [replayX_false_cons, replayX_false_cons, e1, e2, e3]
    simp only [unfold, leafEv]
    exact ⟨by rw [this.1], this.2⟩
  | case6 w i r j x rest s hx hf out ih =>
    have := ih (pairsOK_tail hok)
    rw [replayX_false_cons]
    simp only [stepX, hx, Bool.false_eq_true, if_false, unfold, entryEv]
    exact ⟨by rw [this.1], this.2⟩
end Uft.Replay

/- C08 helper lemmas: what a call tree stands for, apart from the reader's machine: its record
   stream, the node updates as the reader computes them, its invocations (by address, under a
   keying, by name), the well-timed trees, on which the reader's `uint64_t` figures are the exact
   ones, self times and the durations of a row's outermost invocations. -/
import Uft.Lemmas.ReportStats
namespace Uft.Report
open Uft.Mcount (Call Calls)

mutual
  /-- the records of one call executed at nesting depth `d` -/
  def evCall (d : Nat) : Call → List Rec
    | .node f t0 t1 kids =>
      { time := t0, typ := 0, depth := d, addr := f } ::
        (evCalls (d + 1) kids ++ [{ time := t1, typ := 1, depth := d, addr := f }])
  def evCalls (d : Nat) : Calls → List Rec
    | .nil => []
    | .cons c rest => evCall d c ++ evCalls d rest
end

/-- duration of a call as the reader computes it (`uint64_t` subtraction) -/
def dur : Call → Nat
  | .node _ t0 t1 _ => sub64 t1 t0

/-- `child_time` of a frame after its callees `cs` returned, starting from `acc` -/
def childTime (acc : Nat) : Calls → Nat
  | .nil => acc
  | .cons c rest => childTime (add64 acc (dur c)) rest

mutual
  /-- the node updates a call tree stands for, in exit order; `ctx` = addresses of the open callers -/
  def upds (ctx : List Nat) : Call → List Upd
    | .node f t0 t1 kids =>
      let delta := sub64 t1 t0
      let ch := childTime 0 kids
      let child := if ch > delta then delta else ch        -- the clamp child ≤ total
      updsL (ctx ++ [f]) kids ++
        [{ key := f, total := delta, self := sub64 delta child, recursive := ctx.any (· == f) }]
  def updsL (ctx : List Nat) : Calls → List Upd
    | .nil => []
    | .cons c rest => upds ctx c ++ updsL ctx rest
end

mutual
  /-- the node updates a call tree stands for under a keying, in exit order (as the reader
      computes the times); `ctx` = addresses of the open callers -/
  def updsK (ky : Keying) (ctx : List Nat) : Call → List Upd
    | .node f t0 t1 kids =>
      let delta := sub64 t1 t0
      let ch := childTime 0 kids
      let child := if ch > delta then delta else ch
      updsLK ky (ctx ++ [f]) kids ++
        [{ key := ky.name f, total := delta, self := sub64 delta child, recursive := recK ky ctx f f }]
  def updsLK (ky : Keying) (ctx : List Nat) : Calls → List Upd
    | .nil => []
    | .cons c rest => updsK ky ctx c ++ updsLK ky ctx rest
end

/-- duration of a call -/
def durI : Call → Nat
  | .node _ t0 t1 _ => t1 - t0

/-- summed duration of a list of calls -/
def durSum : Calls → Nat
  | .nil => 0
  | .cons c rest => durI c + durSum rest

mutual
  /-- the invocations of a call tree in exit order: function, duration (`total`), duration minus
      the callees' durations (`self`), and whether the same function is among the open callers
      `ctx` (`recursive`) -/
  def invs (ctx : List Nat) : Call → List Upd
    | .node f t0 t1 kids =>
      invsL (ctx ++ [f]) kids ++
        [{ key := f, total := t1 - t0, self := (t1 - t0) - durSum kids, recursive := ctx.any (· == f) }]
  def invsL (ctx : List Nat) : Calls → List Upd
    | .nil => []
    | .cons c rest => invs ctx c ++ invsL ctx rest
end

mutual
  /-- well timed: a call ends no earlier than it starts (before 2^64 ns) and the durations of
      its callees fit into its own; implied by non-decreasing timestamps (`wt_of_mono`) -/
  def wt : Call → Prop
    | .node _ t0 t1 kids => t0 ≤ t1 ∧ t1 < M64 ∧ durSum kids ≤ t1 - t0 ∧ wtL kids
  def wtL : Calls → Prop
    | .nil => True
    | .cons c rest => wt c ∧ wtL rest
end

theorem sub64_eq (a b : Nat) (h : b ≤ a) (ha : a < M64) : sub64 a b = a - b := by
  simp only [sub64, M64] at *
  omega

theorem add64_eq (a b : Nat) (h : a + b < M64) : add64 a b = a + b := by
  simp only [add64, M64] at *
  omega

theorem dur_eq : ∀ (c : Call), wt c → dur c = durI c
  | .node _ t0 t1 _, h => by
    simp only [wt] at h
    simp only [dur, durI]
    exact sub64_eq _ _ h.1 h.2.1

theorem childTime_eq : ∀ (cs : Calls) (acc : Nat), wtL cs → acc + durSum cs < M64 →
    childTime acc cs = acc + durSum cs
  | .nil, acc, _, _ => by simp [childTime, durSum]
  | .cons c rest, acc, h, hlt => by
    simp only [wtL] at h
    simp only [durSum] at hlt
    simp only [childTime, durSum, dur_eq c h.1]
    rw [add64_eq _ _ (by omega), childTime_eq rest _ h.2 (by omega)]
    omega

/-- what the reader's `uint64_t` arithmetic and its clamp make of a well-timed call -/
theorem wt_times {f t0 t1 : Nat} {kids : Calls} (h : wt (.node f t0 t1 kids)) :
    sub64 t1 t0 = t1 - t0 ∧
    sub64 (t1 - t0) (if childTime 0 kids > t1 - t0 then t1 - t0 else childTime 0 kids) = t1 - t0 - durSum kids := by
  simp only [wt] at h
  obtain ⟨h1, h2, h3, h4⟩ := h
  have hc : childTime 0 kids = durSum kids := by
    rw [childTime_eq kids 0 h4 (by omega)]
    omega
  have hcl : ¬ (durSum kids > t1 - t0) := by omega
  rw [hc, if_neg hcl]
  exact ⟨sub64_eq _ _ h1 h2, sub64_eq _ _ h3 (by omega)⟩

mutual
theorem upds_eq : ∀ (c : Call) (ctx : List Nat), wt c → upds ctx c = invs ctx c
  | .node f t0 t1 kids, ctx, h => by
    have hk : wtL kids := by
      simp only [wt] at h
      exact h.2.2.2
    simp only [upds, invs, (wt_times h).1, (wt_times h).2, updsL_eq kids _ hk]
theorem updsL_eq : ∀ (cs : Calls) (ctx : List Nat), wtL cs → updsL ctx cs = invsL ctx cs
  | .nil, _, _ => rfl
  | .cons c rest, ctx, h => by
    simp only [wtL] at h
    simp only [updsL, invsL, upds_eq c ctx h.1, updsL_eq rest ctx h.2]
end

/-- whatever the timestamps, the reader's figures are `uint64_t` values -/
theorem sub64_lt (a b : Nat) : sub64 a b < M64 := Nat.mod_lt _ (by decide)

theorem updsLK_lt (ky : Keying) : ∀ (cs : Calls) (ctx : List Nat), ∀ u ∈ updsLK ky ctx cs, u.total < M64 ∧ u.self < M64
  | .nil, _, u, hu => by simp [updsLK] at hu
  | .cons (.node f t0 t1 kids) rest, ctx, u, hu => by
    simp only [updsLK, updsK, List.mem_append, List.mem_singleton] at hu
    rcases hu with (hu | hu) | hu
    · exact updsLK_lt ky kids _ u hu
    · subst hu
      exact ⟨sub64_lt _ _, sub64_lt _ _⟩
    · exact updsLK_lt ky rest ctx u hu

/-- function and recursion flag of an invocation (everything but the times) -/
def Upd.tag (u : Upd) : Nat × Bool := (u.key, u.recursive)

mutual
/-- the functions and recursion flags of the invocations do not depend on the timestamps -/
theorem upds_tags : ∀ (c : Call) (ctx : List Nat), (upds ctx c).map Upd.tag = (invs ctx c).map Upd.tag
  | .node f t0 t1 kids, ctx => by
    simp only [upds, invs, List.map_append, updsL_tags kids, List.map_cons, List.map_nil, Upd.tag]
theorem updsL_tags : ∀ (cs : Calls) (ctx : List Nat), (updsL ctx cs).map Upd.tag = (invsL ctx cs).map Upd.tag
  | .nil, _ => rfl
  | .cons c rest, ctx => by
    simp only [updsL, invsL, List.map_append, upds_tags c, updsL_tags rest]
end

mutual
/-- the self times of a call tree add up to its duration -/
theorem self_sum_call : ∀ (c : Call) (ctx : List Nat), wt c → ((invs ctx c).map (·.self)).sum = durI c
  | .node f t0 t1 kids, ctx, h => by
    simp only [wt] at h
    simp only [invs, List.map_append, List.sum_append, self_sum_calls kids _ h.2.2.2, durI,
      List.map_cons, List.map_nil, List.sum_cons, List.sum_nil]
    omega
theorem self_sum_calls : ∀ (cs : Calls) (ctx : List Nat), wtL cs → ((invsL ctx cs).map (·.self)).sum = durSum cs
  | .nil, _, _ => rfl
  | .cons c rest, ctx, h => by
    simp only [wtL] at h
    simp only [invsL, List.map_append, List.sum_append, self_sum_call c ctx h.1, self_sum_calls rest ctx h.2,
      durSum]
end

/-! ### non-decreasing timestamps make a forest well timed -/

/-- the timestamps of a record stream -/
def times (rs : List Rec) : List Nat := rs.map (·.time)

/-- non-decreasing -/
def Mono (l : List Nat) : Prop := l.Pairwise (· ≤ ·)

theorem times_evCall (d f t0 t1 : Nat) (kids : Calls) :
    times (evCall d (.node f t0 t1 kids)) = t0 :: (times (evCalls (d + 1) kids) ++ [t1]) := by
  simp [times, evCall]

theorem times_evCalls_cons (d : Nat) (c : Call) (rest : Calls) :
    times (evCalls d (.cons c rest)) = times (evCall d c) ++ times (evCalls d rest) := by
  simp [times, evCalls]

/-- calls executed one after the other between `lo` and `hi` take at most `hi - lo` together -/
theorem durSum_le : ∀ (cs : Calls) (d lo hi : Nat), lo ≤ hi → Mono (times (evCalls d cs)) →
    (∀ x ∈ times (evCalls d cs), lo ≤ x ∧ x ≤ hi) → durSum cs + lo ≤ hi
  | .nil, _, lo, hi, h, _, _ => by
    simp [durSum]
    exact h
  | .cons (.node g a b ks) rest, d, lo, hi, h, hm, hb => by
    rw [times_evCalls_cons, times_evCall] at hm hb
    unfold Mono at hm
    rw [List.pairwise_append] at hm
    obtain ⟨hm1, hm2, hm3⟩ := hm
    rw [List.pairwise_cons] at hm1
    have hab : a ≤ b := hm1.1 b (by simp)
    have hloa : lo ≤ a := (hb a (by simp)).1
    have hbhi : b ≤ hi := (hb b (by simp)).2
    have hrest : ∀ x ∈ times (evCalls d rest), b ≤ x ∧ x ≤ hi := by
      intro x hx
      exact ⟨hm3 b (by simp) x hx, (hb x (by simp [hx])).2⟩
    have ih := durSum_le rest d b hi hbhi hm2 hrest
    simp only [durSum, durI]
    omega

mutual
theorem wt_of_mono : ∀ (c : Call) (d : Nat), Mono (times (evCall d c)) →
    (∀ x ∈ times (evCall d c), x < M64) → wt c
  | .node f t0 t1 kids, d, hm, hb => by
    rw [times_evCall] at hm hb
    unfold Mono at hm
    rw [List.pairwise_cons, List.pairwise_append] at hm
    obtain ⟨hm1, hm2, _, hm4⟩ := hm
    have h01 : t0 ≤ t1 := hm1 t1 (by simp)
    have hkb : ∀ x ∈ times (evCalls (d + 1) kids), t0 ≤ x ∧ x ≤ t1 := by
      intro x hx
      exact ⟨hm1 x (by simp [hx]), hm4 x hx t1 (by simp)⟩
    have hsum := durSum_le kids (d + 1) t0 t1 h01 hm2 hkb
    simp only [wt]
    refine ⟨h01, hb t1 (by simp), by omega, ?_⟩
    exact wtL_of_mono kids (d + 1) hm2 (fun x hx => hb x (by simp [hx]))
theorem wtL_of_mono : ∀ (cs : Calls) (d : Nat), Mono (times (evCalls d cs)) →
    (∀ x ∈ times (evCalls d cs), x < M64) → wtL cs
  | .nil, _, _, _ => by simp [wtL]
  | .cons c rest, d, hm, hb => by
    rw [times_evCalls_cons] at hm hb
    unfold Mono at hm
    rw [List.pairwise_append] at hm
    simp only [wtL]
    exact ⟨wt_of_mono c d hm.1 (fun x hx => hb x (by simp [hx])),
           wtL_of_mono rest d hm.2.1 (fun x hx => hb x (by simp [hx]))⟩
end

/-! ### the data set: one forest per task -/

/-- the data set: task `i` executed the forest `forests[i]` (complete calls, depth 0 upwards) -/
def streamsOf (forests : List Calls) : List (List Rec) := forests.map (evCalls 0)

/-- what the reader's arithmetic makes of the forests (wrap-around and clamp included) -/
def allUpds (forests : List Calls) : List Upd := forests.flatMap (updsL [])

/-- the invocations of the data set -/
def allInvs (forests : List Calls) : List Upd := forests.flatMap (invsL [])

/-- what the reader's arithmetic makes of the forests under a keying -/
def allUpdsK (ky : Keying) (forests : List Calls) : List Upd := forests.flatMap (updsLK ky [])

mutual
/-- names that are the addresses themselves: the keyed tree updates are the plain ones, with
    either recursion test -/
theorem updsK_id (ky : Keying) (hid : ∀ a, ky.name a = a) : ∀ (c : Call) (ctx : List Nat),
    updsK ky ctx c = upds ctx c
  | .node f t0 t1 kids, ctx => by
    have hr : recK ky ctx f f = ctx.any (· == f) := by
      unfold recK
      apply List.any_congr rfl
      intro c
      by_cases h : c = f <;> simp [h, hid]
    simp only [updsK, upds, updsLK_id ky hid kids, hr, hid]
theorem updsLK_id (ky : Keying) (hid : ∀ a, ky.name a = a) : ∀ (cs : Calls) (ctx : List Nat),
    updsLK ky ctx cs = updsL ctx cs
  | .nil, _ => rfl
  | .cons c rest, ctx => by
    simp only [updsLK, updsL, updsK_id ky hid c, updsLK_id ky hid rest]
end

theorem allUpdsK_id (ky : Keying) (hid : ∀ a, ky.name a = a) (forests : List Calls) :
    allUpdsK ky forests = allUpds forests :=
  flatMap_eq_of_forall _ _ _ (fun cs _ => updsLK_id ky hid cs [])

theorem allInvs_self_sum : ∀ (forests : List Calls), (∀ cs ∈ forests, wtL cs) →
    ((allInvs forests).map (·.self)).sum = (forests.map durSum).sum
  | [], _ => rfl
  | cs :: rest, h => by
    have ih := allInvs_self_sum rest (fun x hx => h x (List.mem_cons_of_mem _ hx))
    unfold allInvs at ih ⊢
    simp only [List.flatMap_cons, List.map_append, List.sum_append, List.map_cons, List.sum_cons]
    rw [self_sum_calls cs [] (h cs List.mem_cons_self), ih]

theorem allUpdsK_lt (ky : Keying) (forests : List Calls) (u : Upd) (hu : u ∈ allUpdsK ky forests) :
    u.total < M64 ∧ u.self < M64 := by
  obtain ⟨cs, _, hin⟩ := List.mem_flatMap.mp hu
  exact updsLK_lt ky cs [] u hin

/-! ### rows as the property defines them: a row is a NAME -/

mutual
  /-- the invocations of a call tree under a keying, with exact durations -/
  def invsK (ky : Keying) (ctx : List Nat) : Call → List Upd
    | .node f t0 t1 kids =>
      invsLK ky (ctx ++ [f]) kids ++
        [{ key := ky.name f, total := t1 - t0, self := (t1 - t0) - durSum kids, recursive := recK ky ctx f f }]
  def invsLK (ky : Keying) (ctx : List Nat) : Calls → List Upd
    | .nil => []
    | .cons c rest => invsK ky ctx c ++ invsLK ky ctx rest
end

mutual
  /-- the invocations of a call tree as the rows of the report see them: the row is the function's
      NAME (`name f`), the duration (`total`), the duration minus the callees' durations (`self`),
      and `recursive` = an open caller (`ctx`) belongs to the same row, i.e. has the same name -/
  def invsN (name : Nat → Nat) (ctx : List Nat) : Call → List Upd
    | .node f t0 t1 kids =>
      invsLN name (ctx ++ [f]) kids ++
        [{ key := name f, total := t1 - t0, self := (t1 - t0) - durSum kids,
           recursive := ctx.any (fun c => name c == name f) }]
  def invsLN (name : Nat → Nat) (ctx : List Nat) : Calls → List Upd
    | .nil => []
    | .cons c rest => invsN name ctx c ++ invsLN name ctx rest
end

def allInvsK (ky : Keying) (forests : List Calls) : List Upd := forests.flatMap (invsLK ky [])

/-- the invocations of the data set, row by row -/
def allInvsN (name : Nat → Nat) (forests : List Calls) : List Upd := forests.flatMap (invsLN name [])

mutual
theorem updsK_eq (ky : Keying) : ∀ (c : Call) (ctx : List Nat), wt c → updsK ky ctx c = invsK ky ctx c
  | .node f t0 t1 kids, ctx, h => by
    have hk : wtL kids := by
      simp only [wt] at h
      exact h.2.2.2
    simp only [updsK, invsK, (wt_times h).1, (wt_times h).2, updsLK_eq ky kids _ hk]
theorem updsLK_eq (ky : Keying) : ∀ (cs : Calls) (ctx : List Nat), wtL cs → updsLK ky ctx cs = invsLK ky ctx cs
  | .nil, _, _ => rfl
  | .cons c rest, ctx, h => by
    simp only [wtL] at h
    simp only [updsLK, invsLK, updsK_eq ky c ctx h.1, updsLK_eq ky rest ctx h.2]
end

mutual
theorem updsK_tags (ky : Keying) : ∀ (c : Call) (ctx : List Nat),
    (updsK ky ctx c).map Upd.tag = (invsK ky ctx c).map Upd.tag
  | .node f t0 t1 kids, ctx => by
    simp only [updsK, invsK, List.map_append, updsLK_tags ky kids, List.map_cons, List.map_nil, Upd.tag]
theorem updsLK_tags (ky : Keying) : ∀ (cs : Calls) (ctx : List Nat),
    (updsLK ky ctx cs).map Upd.tag = (invsLK ky ctx cs).map Upd.tag
  | .nil, _ => rfl
  | .cons c rest, ctx => by
    simp only [updsLK, invsLK, List.map_append, updsK_tags ky c, updsLK_tags ky rest]
end

theorem allUpdsK_eq (ky : Keying) (forests : List Calls) (hwt : ∀ cs ∈ forests, wtL cs) :
    allUpdsK ky forests = allInvsK ky forests :=
  flatMap_eq_of_forall _ _ _ (fun cs h => updsLK_eq ky cs [] (hwt cs h))

theorem allUpdsK_tags (ky : Keying) (forests : List Calls) :
    (allUpdsK ky forests).map Upd.tag = (allInvsK ky forests).map Upd.tag :=
  map_flatMap_congr _ _ _ _ _ (fun cs _ => updsLK_tags ky cs [])

/-- row, duration, self time of an invocation (everything but the recursion flag) -/
def Upd.fig (u : Upd) : Nat × Nat × Nat := (u.key, u.total, u.self)

mutual
theorem invsK_figs (ky : Keying) : ∀ (c : Call) (ctx : List Nat),
    (invsK ky ctx c).map Upd.fig = (invsN ky.name ctx c).map Upd.fig
  | .node f t0 t1 kids, ctx => by
    simp only [invsK, invsN, List.map_append, invsLK_figs ky kids, List.map_cons, List.map_nil, Upd.fig]
theorem invsLK_figs (ky : Keying) : ∀ (cs : Calls) (ctx : List Nat),
    (invsLK ky ctx cs).map Upd.fig = (invsLN ky.name ctx cs).map Upd.fig
  | .nil, _ => rfl
  | .cons c rest, ctx => by
    simp only [invsLK, invsLN, List.map_append, invsK_figs ky c, invsLK_figs ky rest]
end

theorem allInvsK_figs (ky : Keying) (forests : List Calls) :
    (allInvsK ky forests).map Upd.fig = (allInvsN ky.name forests).map Upd.fig :=
  map_flatMap_congr _ _ _ _ _ (fun cs _ => invsLK_figs ky cs [])

mutual
/-- a row collects the invocations of every address of that name: same durations and self times
    as the address-level invocations `invs`, keyed by the name -/
theorem invsN_figs (name : Nat → Nat) : ∀ (c : Call) (ctx : List Nat),
    (invsN name ctx c).map Upd.fig = (invs ctx c).map (fun u => (name u.key, u.total, u.self))
  | .node f t0 t1 kids, ctx => by
    simp only [invsN, invs, List.map_append, invsLN_figs name kids, List.map_cons, List.map_nil, Upd.fig]
theorem invsLN_figs (name : Nat → Nat) : ∀ (cs : Calls) (ctx : List Nat),
    (invsLN name ctx cs).map Upd.fig = (invsL ctx cs).map (fun u => (name u.key, u.total, u.self))
  | .nil, _ => rfl
  | .cons c rest, ctx => by
    simp only [invsLN, invsL, List.map_append, invsN_figs name c, invsLN_figs name rest]
end

theorem allInvsN_figs (name : Nat → Nat) (forests : List Calls) :
    (allInvsN name forests).map Upd.fig = (allInvs forests).map (fun u => (name u.key, u.total, u.self)) :=
  map_flatMap_congr _ _ _ _ _ (fun cs _ => invsLN_figs name cs [])

/-! ### the repaired recursion test is the test on names -/

/-- the symbol table is sane: two different addresses share a name only if both lie in symbols
    (the name of an address without symbol is the text of the address itself) -/
def Keying.WF (ky : Keying) : Prop :=
  ∀ a b, ky.name a = ky.name b → a = b ∨ (ky.sym a = true ∧ ky.sym b = true)

theorem recK_byName (ky : Keying) (hb : ky.byName = true) (hw : ky.WF) (ctx : List Nat) (f : Nat) :
    recK ky ctx f f = ctx.any (fun c => ky.name c == ky.name f) := by
  unfold recK
  apply List.any_congr rfl
  intro c
  by_cases hn : ky.name c = ky.name f
  · rcases hw c f hn with e | ⟨h1, h2⟩
    · simp [e]
    · simp [hb, h1, h2, hn]
  · have hne : ¬ c = f := fun e => hn (by rw [e])
    have h1 : (c == f) = false := by simp [hne]
    have h2 : (ky.name c == ky.name f) = false := by simp [hn]
    simp only [h1, h2, Bool.and_false, Bool.or_false]

mutual
theorem invsK_eq_invsN (ky : Keying) (hb : ky.byName = true) (hw : ky.WF) : ∀ (c : Call) (ctx : List Nat),
    invsK ky ctx c = invsN ky.name ctx c
  | .node f t0 t1 kids, ctx => by
    simp only [invsK, invsN, invsLK_eq_invsLN ky hb hw kids, recK_byName ky hb hw]
theorem invsLK_eq_invsLN (ky : Keying) (hb : ky.byName = true) (hw : ky.WF) : ∀ (cs : Calls) (ctx : List Nat),
    invsLK ky ctx cs = invsLN ky.name ctx cs
  | .nil, _ => rfl
  | .cons c rest, ctx => by
    simp only [invsLK, invsLN, invsK_eq_invsN ky hb hw c, invsLK_eq_invsLN ky hb hw rest]
end

theorem allInvsK_eq_allInvsN (ky : Keying) (hb : ky.byName = true) (hw : ky.WF) (forests : List Calls) :
    allInvsK ky forests = allInvsN ky.name forests :=
  flatMap_eq_of_forall _ _ _ (fun cs _ => invsLK_eq_invsLN ky hb hw cs [])

/-! ### the outermost invocations of a row do not overlap: Total ≤ the top-level durations -/

/-- summed duration of the non-recursive invocations of row `k` -/
def nonrecSum (k : Nat) (us : List Upd) : Nat :=
  (((forKey k us).filter (fun u => !u.recursive)).map (·.total)).sum

theorem nonrecSum_append (k : Nat) (a b : List Upd) : nonrecSum k (a ++ b) = nonrecSum k a + nonrecSum k b := by
  simp [nonrecSum, forKey, List.filter_append]

theorem nonrecSum_nil (k : Nat) : nonrecSum k [] = 0 := rfl

theorem nonrecSum_single (k : Nat) (u : Upd) :
    nonrecSum k [u] = if u.key = k ∧ u.recursive = false then u.total else 0 := by
  by_cases hk : u.key = k <;> cases hr : u.recursive <;> simp [nonrecSum, forKey, hk, hr]

mutual
theorem nonrec_zero (name : Nat → Nat) (k : Nat) : ∀ (c : Call) (ctx : List Nat), (∃ a ∈ ctx, name a = k) →
    nonrecSum k (invsN name ctx c) = 0
  | .node f t0 t1 kids, ctx, h => by
    obtain ⟨a, ha, hk⟩ := h
    have h' : ∃ a ∈ ctx ++ [f], name a = k := ⟨a, List.mem_append_left _ ha, hk⟩
    rw [invsN, nonrecSum_append, nonrecs_zero name k kids _ h']
    rw [nonrecSum_single]
    by_cases hf : name f = k
    · have : ctx.any (fun c => name c == name f) = true := by
        apply List.any_eq_true.mpr
        exact ⟨a, ha, by simp [hk, hf]⟩
      simp [this]
    · simp [hf]
theorem nonrecs_zero (name : Nat → Nat) (k : Nat) : ∀ (cs : Calls) (ctx : List Nat), (∃ a ∈ ctx, name a = k) →
    nonrecSum k (invsLN name ctx cs) = 0
  | .nil, _, _ => rfl
  | .cons c rest, ctx, h => by
    rw [invsLN, nonrecSum_append, nonrec_zero name k c ctx h, nonrecs_zero name k rest ctx h]
end

mutual
theorem nonrec_le_call (name : Nat → Nat) (k : Nat) : ∀ (c : Call) (ctx : List Nat), wt c →
    nonrecSum k (invsN name ctx c) ≤ durI c
  | .node f t0 t1 kids, ctx, h => by
    simp only [wt] at h
    obtain ⟨_, _, h3, h4⟩ := h
    rw [invsN, nonrecSum_append, nonrecSum_single]
    simp only [durI]
    by_cases hf : name f = k
    · have hz := nonrecs_zero name k kids (ctx ++ [f]) ⟨f, by simp, hf⟩
      rw [hz]
      split <;> omega
    · have hle := nonrec_le_calls name k kids (ctx ++ [f]) h4
      simp only [hf, false_and, if_false]
      omega
theorem nonrec_le_calls (name : Nat → Nat) (k : Nat) : ∀ (cs : Calls) (ctx : List Nat), wtL cs →
    nonrecSum k (invsLN name ctx cs) ≤ durSum cs
  | .nil, _, _ => by simp [invsLN, nonrecSum_nil]
  | .cons c rest, ctx, h => by
    simp only [wtL] at h
    rw [invsLN, nonrecSum_append]
    have h1 := nonrec_le_call name k c ctx h.1
    have h2 := nonrec_le_calls name k rest ctx h.2
    simp only [durSum]
    omega
end

theorem nonrec_le_forests (name : Nat → Nat) (k : Nat) : ∀ (forests : List Calls), (∀ cs ∈ forests, wtL cs) →
    nonrecSum k (allInvsN name forests) ≤ (forests.map durSum).sum
  | [], _ => by simp [allInvsN, nonrecSum_nil]
  | cs :: rest, h => by
    have h1 := nonrec_le_calls name k cs [] (h cs List.mem_cons_self)
    have h2 := nonrec_le_forests name k rest (fun x hx => h x (List.mem_cons_of_mem _ hx))
    unfold allInvsN at h2 ⊢
    simp only [List.flatMap_cons, nonrecSum_append, List.map_cons, List.sum_cons]
    omega

/-- the self times do not depend on how the rows are named -/
theorem invsN_self_sum (name : Nat → Nat) : ∀ (c : Call) (ctx : List Nat), wt c →
    ((invsN name ctx c).map (·.self)).sum = durI c := by
  intro c ctx h
  have e := congrArg (List.map (·.2.2)) (invsN_figs name c ctx)
  simp only [List.map_map] at e
  exact (congrArg List.sum e).trans (self_sum_call c ctx h)

end Uft.Report

import Uft.Lemmas.Demangle
/-!
# C13 — exact evaluation of the demangler model on names produced by `mangle`

`Rest e p r`: the bytes of the input from index `p` to the end are the list `r`.
All primitives are evaluated exactly against this view.

The walk through `demangle_simple`, `dd_encoding`, `dd_name`, `dd_nested_name` and the parameter types is done once,
for `_ZN <body> E <types>` with the run of the nested-name loop over `<body>` as a hypothesis (`demangle_ZN`);
`demangle_leaf` adds the four kinds of `Leaf` behind components whose encoding is left open.  `DemangleMangleT` supplies
the loop for components with template arguments; the declarations `Decl` of this file (components are source names)
are those without arguments, and their theorem `demangle_mangle` is derived there.
-/
namespace Uft.Demangle
open Uft.Gen.DemangleTables

/-- the input from index `p` to its end is `r` -/
def Rest (e : Env) (p : Nat) (r : List UInt8) : Prop :=
  p + r.length = e.n ∧ ∀ j, j < r.length → e.rd (p + j) = some (r.getD j 0)

theorem Rest.rd {e : Env} {p : Nat} {r : List UInt8} (h : Rest e p r) (j : Nat) (hj : j ≤ r.length) :
    e.rd (p + j) = some (r.getD j 0) := by
  by_cases hlt : j < r.length
  · exact h.2 j hlt
  · have : j = r.length := by omega
    subst this
    rw [h.1, rd_n]
    simp

theorem Rest.of_list (l : List UInt8) (fx : Fixes) : Rest { s := l.toArray, fx := fx } 0 l := by
  refine ⟨by simp [Env.n], ?_⟩
  intro j hj
  simp [Env.rd, hj, List.getD_eq_getElem?_getD]

theorem Rest.append {e : Env} {p : Nat} {a b : List UInt8} (h : Rest e p (a ++ b)) : Rest e (p + a.length) b := by
  have h1 := h.1
  rw [List.length_append] at h1
  refine ⟨by omega, ?_⟩
  intro j hj
  rw [Nat.add_assoc, h.2 (a.length + j) (by rw [List.length_append]; omega)]
  simp [List.getD_eq_getElem?_getD, List.getElem?_append_right]

theorem Rest.head {e : Env} {p : Nat} {c : UInt8} {r : List UInt8} (h : Rest e p (c :: r)) : e.rd p = some c :=
  h.rd 0 (Nat.zero_le _)

theorem Rest.tail {e : Env} {p : Nat} {c : UInt8} {r : List UInt8} (h : Rest e p (c :: r)) : Rest e (p + 1) r :=
  Rest.append (a := [c]) h

section prims
variable {e : Env} {st : St} {r : List UInt8}

theorem peek_eq (k : Nat) (hl : st.len = e.n) (h : Rest e st.pos r) : peek k e st = .ok (r.getD k 0) st := by
  unfold peek
  by_cases hk : st.pos + k > st.len
  · have : r.length < k := by have := h.1; omega
    simp [hk, List.getD_eq_getElem?_getD, List.getElem?_eq_none (Nat.le_of_lt this)]
  · have hk' : k ≤ r.length := by have := h.1; omega
    simp [hk, h.rd k hk']

theorem curr_eq (hl : st.len = e.n) (h : Rest e st.pos r) : curr e st = .ok (r.getD 0 0) st := peek_eq 0 hl h

theorem eof_eq (hl : st.len = e.n) (h : Rest e st.pos r) : eof e st = .ok (decide (r.length = 0)) st := by
  unfold eof
  have h1 := h.1
  have : (st.pos ≥ st.len) = (r.length = 0) := by
    apply propext
    constructor <;> intro _ <;> omega
  simp only [this]

theorem eof_cons {c : UInt8} (hl : st.len = e.n) (h : Rest e st.pos (c :: r)) : eof e st = .ok false st := by
  rw [eof_eq hl h]
  rfl

theorem curr_cons {c : UInt8} (hl : st.len = e.n) (h : Rest e st.pos (c :: r)) : curr e st = .ok c st := curr_eq hl h

theorem consumeN_eq (k : Nat) (hl : st.len = e.n) (h : Rest e st.pos r) (hk : k ≤ r.length) :
    consumeN k e st = .ok (r.getD 0 0) { st with pos := st.pos + k } := by
  unfold consumeN
  have hk' : ¬ st.pos + k > st.len := by have := h.1; omega
  simp [bind_def, curr_eq hl h, getSt, hk', modifySt, pure_def]

theorem consume_cons {c : UInt8} (hl : st.len = e.n) (h : Rest e st.pos (c :: r)) :
    consume e st = .ok c { st with pos := st.pos + 1 } := consumeN_eq 1 hl h (by simp)

theorem debugConsume_eq (c : UInt8) (hl : st.len = e.n) (h : Rest e st.pos (c :: r)) :
    debugConsume c e st = .ok true { st with pos := st.pos + 1 } := by
  unfold debugConsume
  simp [bind_def, consume_cons hl h, pure_def]

end prims

/-- the ASCII digit of `d < 10` -/
def digitByte (d : Nat) : UInt8 := UInt8.ofNat (48 + d)

theorem digitChar_byte (d : Nat) (h : d < 10) : (Nat.digitChar d).toNat.toUInt8 = digitByte d ∧
    isDigit (digitByte d) = true ∧ (digitByte d).toNat = 48 + d := by
  match d, h with
  | 0, _ | 1, _ | 2, _ | 3, _ | 4, _ | 5, _ | 6, _ | 7, _ | 8, _ | 9, _ => exact ⟨rfl, rfl, rfl⟩

theorem decimal_lt (n : Nat) (h : n < 10) : decimal n = [digitByte n] := by
  unfold decimal
  rw [Nat.toDigits_of_lt_base h]
  exact congrArg (fun b => [b]) (digitChar_byte n h).1

theorem decimal_ge (n : Nat) (h : 10 ≤ n) : decimal n = decimal (n / 10) ++ [digitByte (n % 10)] := by
  unfold decimal
  rw [Nat.toDigits_of_base_le (by omega) h, List.map_append]
  exact congrArg (fun b => _ ++ [b]) (digitChar_byte (n % 10) (Nat.mod_lt _ (by omega))).1

/-- value of a decimal digit string -/
def val10 (ds : List UInt8) : Nat := ds.foldl (fun a c => a * 10 + (c.toNat - 48)) 0

theorem val10_append (a : List UInt8) (c : UInt8) : val10 (a ++ [c]) = val10 a * 10 + (c.toNat - 48) := by
  simp [val10, List.foldl_append]

theorem decimal_spec : ∀ (n : Nat), (∀ d ∈ decimal n, isDigit d = true) ∧ val10 (decimal n) = n ∧ decimal n ≠ [] ∧
    (1 ≤ n → (decimal n).head? ≠ some 48) := by
  intro n
  induction n using Nat.strongRecOn with
  | _ n ih =>
    by_cases h : n < 10
    · rw [decimal_lt n h]
      obtain ⟨_, h1, h2⟩ := digitChar_byte n h
      refine ⟨by simpa using h1, by simp [val10, h2], by simp, ?_⟩
      intro hn
      simp only [List.head?_cons, ne_eq, Option.some.injEq]
      intro hh
      have := congrArg UInt8.toNat hh
      rw [h2] at this
      simp at this
      omega
    · have hge : 10 ≤ n := by omega
      rw [decimal_ge n hge]
      obtain ⟨i1, i2, i3, i4⟩ := ih (n / 10) (by omega)
      have hm : n % 10 < 10 := Nat.mod_lt _ (by omega)
      obtain ⟨_, h1, h2⟩ := digitChar_byte (n % 10) hm
      refine ⟨?_, ?_, by simp, ?_⟩
      · intro d hd
        rcases List.mem_append.1 hd with hd | hd
        · exact i1 d hd
        · simp at hd; subst hd; exact h1
      · rw [val10_append, i2, h2]; omega
      · intro _
        have : 1 ≤ n / 10 := by omega
        have := i4 this
        cases hdn : decimal (n / 10) with
        | nil => exact absurd hdn i3
        | cons a t => simp [hdn] at this ⊢; exact this

theorem isDigit_digitVal {c : UInt8} (h : isDigit c = true) : digitVal c = some (c.toNat - 48) ∧ c.toNat - 48 < 10 := by
  have := (isDigit_iff c).1 h
  exact ⟨by simp [digitVal, h], by omega⟩

/-- a non-digit stops a base-10 scan -/
theorem nondigit_stop {c : UInt8} (h : isDigit c = false) : ∀ d, digitVal c = some d → ¬ d < 10 := by
  intro d hd
  simp only [digitVal, h, Bool.false_eq_true, ↓reduceIte, Bool.and_eq_true, decide_eq_true_eq, u8_le_iff,
    UInt8.reduceToNat] at hd
  split at hd
  · cases hd
    omega
  · split at hd
    · cases hd
      omega
    · cases hd

theorem scanDigits_dec {e : Env} : ∀ (ds : List UInt8) (p acc k : Nat) (c : UInt8) (r : List UInt8),
    Rest e p (ds ++ c :: r) → (∀ d ∈ ds, isDigit d = true) → isDigit c = false → ds.length < k →
    scanDigits e 10 k p acc = (ds.foldl (fun a c => a * 10 + (c.toNat - 48)) acc, p + ds.length) := by
  intro ds
  induction ds with
  | nil =>
    intro p acc k c r h _ hc hk
    cases k with
    | zero => omega
    | succ k =>
      unfold scanDigits
      rw [Rest.head (c := c) h]
      simp only [List.foldl_nil, List.length_nil, Nat.add_zero]
      cases hd : digitVal c with
      | none => rfl
      | some d => simp [nondigit_stop hc d hd]
  | cons d ds ih =>
    intro p acc k c r h hds hc hk
    cases k with
    | zero => simp at hk
    | succ k =>
      unfold scanDigits
      rw [Rest.head (c := d) h]
      obtain ⟨hv, hlt⟩ := isDigit_digitVal (hds d List.mem_cons_self)
      simp only [hv, hlt, ↓reduceIte]
      rw [ih (p + 1) _ k c r (Rest.tail (c := d) h) (fun x hx => hds x (List.mem_cons_of_mem _ hx)) hc (by simpa using hk)]
      simp only [List.foldl_cons, List.length_cons]
      congr 1
      omega

/-- `strtoul` on a decimal number `< 2^31` without leading zero, followed by a non-digit -/
theorem strtoul0_dec {e : Env} (ds : List UInt8) (p : Nat) (c : UInt8) (r : List UInt8) (h : Rest e p (ds ++ c :: r))
    (hds : ∀ d ∈ ds, isDigit d = true) (hne : ds ≠ []) (h0 : ds.head? ≠ some 48) (hc : isDigit c = false)
    (hv : val10 ds < 2 ^ 31) : strtoul0 e p = (((val10 ds : Nat) : Int), p + ds.length) := by
  cases ds with
  | nil => exact absurd rfl hne
  | cons d ds =>
    have hr0 : e.rd p = some d := Rest.head (c := d) h
    have hd48 : (d == 48) = false := by
      simp only [List.head?_cons, ne_eq, Option.some.injEq] at h0
      simpa using h0
    unfold strtoul0
    simp only [hr0, Option.getD_some, hd48, Bool.false_and, Bool.false_eq_true, ↓reduceIte]
    have hlen : (d :: ds).length < e.n + 1 - p := by
      have := h.1
      simp only [List.length_append, List.length_cons] at this ⊢
      omega
    rw [scanDigits_dec (d :: ds) p 0 _ c r h hds hc hlen]
    have hv' : List.foldl (fun a c => a * 10 + (c.toNat - 48)) 0 (d :: ds) = val10 (d :: ds) := rfl
    simp only [hv']
    have h64 : ¬ val10 (d :: ds) ≥ 2 ^ 64 := by omega
    have hmod : val10 (d :: ds) % 2 ^ 32 = val10 (d :: ds) := Nat.mod_eq_of_lt (by omega)
    simp only [h64, ↓reduceIte, hmod]
    have h31 : ¬ val10 (d :: ds) ≥ 2 ^ 31 := by omega
    simp only [h31, ↓reduceIte]

theorem rdAt_eq {e : Env} {st : St} {r : List UInt8} (p : Nat) (j : Nat) (h : Rest e p r) (hj : j ≤ r.length) :
    rdAt (p + j) e st = .ok (r.getD j 0) st := by
  unfold rdAt
  rw [h.rd j hj]

theorem rdAt_cons {e : Env} {st : St} {p : Nat} {c : UInt8} {r : List UInt8} (h : Rest e p (c :: r)) :
    rdAt p e st = .ok c st := rdAt_eq p 0 h (Nat.zero_le _)

/-- `dd_number` on `<decimal k>` followed by a non-digit -/
theorem number_eq {e : Env} {st : St} (k : Nat) (c : UInt8) (r : List UInt8) (hl : st.len = e.n)
    (h : Rest e st.pos (decimal k ++ c :: r)) (hk : 1 ≤ k) (hk2 : k < 2 ^ 31) (hc : isDigit c = false) :
    number e st = .ok (k : Int) { st with pos := st.pos + (decimal k).length } := by
  obtain ⟨d1, d2, d3, d4⟩ := decimal_spec k
  have hs := strtoul0_dec (decimal k) st.pos c r h d1 d3 (d4 hk) hc (by rw [d2]; exact hk2)
  rw [d2] at hs
  cases hdk : decimal k with
  | nil => exact absurd hdk d3
  | cons d ds =>
    rw [hdk] at h hs d1
    have hd := d1 d List.mem_cons_self
    have hdr := (isDigit_iff d).1 hd
    have hdn : (d == 110) = false := by
      simp only [beq_eq_false_iff_ne, ne_eq, u8_eq_iff]
      simp; omega
    have hr0 : rdAt st.pos e st = .ok d st := rdAt_cons (c := d) h
    unfold number
    simp only [bind_def, eof_cons (c := d) hl h, Bool.false_eq_true, ↓reduceIte, getSt, hr0, hdn, hd, Bool.not_true, getEnv, hs, modifySt, pure_def]
    congr 2
    omega

theorem readRange_eq {e : Env} {st : St} : ∀ (k p : Nat) (r : List UInt8), Rest e p r → k ≤ r.length →
    readRange p k e st = .ok (r.take k) st := by
  intro k
  induction k with
  | zero => intro p r _ _; simp [readRange, pure_def]
  | succ k ih =>
    intro p r h hk
    cases r with
    | nil => simp at hk
    | cons c r =>
      unfold readRange
      simp only [bind_def, rdAt_cons h, ih (p + 1) r h.tail (by simpa using hk), pure_def, List.take_succ_cons]

theorem findByte_none {e : Env} {st : St} (c : UInt8) (hc0 : c ≠ 0) : ∀ (r : List UInt8) (k p : Nat), Rest e p r →
    c ∉ r → r.length < k → findByte c k p e st = .ok none st := by
  intro r
  induction r with
  | nil =>
    intro k p h _ hk
    cases k with
    | zero => omega
    | succ k =>
      unfold findByte
      have h0 : rdAt p e st = .ok 0 st := rdAt_eq p 0 h (Nat.le_refl _)
      have : ¬ (0 : UInt8) = c := Ne.symm hc0
      simp [bind_def, h0, this, pure_def]
  | cons b r ih =>
    intro k p h hc hk
    cases k with
    | zero => omega
    | succ k =>
      unfold findByte
      have h0 : rdAt p e st = .ok b st := rdAt_cons h
      have hbc : ¬ b = c := by
        simp only [List.mem_cons, not_or] at hc
        exact Ne.symm hc.1
      have hrec := ih k (p + 1) h.tail (fun hm => hc (List.mem_cons_of_mem _ hm)) (by simpa using hk)
      by_cases hb0 : b = 0
      · subst hb0
        simp [bind_def, h0, hbc, pure_def]
      · simp [bind_def, h0, hbc, hb0, hrec]

/-- the output buffer after `dd_append_separator(dd, "::")` -/
def sepOut (st : St) : List UInt8 := if st.firstName then st.out.getD [] else st.out.getD [] ++ [58, 58]

/-- `dd_append_separator(dd, "::")` -/
theorem appendSeparator_eq (e : Env) (st : St) : appendSeparator colon2 e st =
    .ok () { st with out := if st.firstName then st.out else some (st.out.getD [] ++ colon2), firstName := false } := by
  unfold appendSeparator
  cases hf : st.firstName <;> simp [bind_def, getSt, hf, modifySt, appendBytes]

theorem sepOut_eq (st : St) : (if st.firstName then st.out else some (st.out.getD [] ++ colon2)).getD [] = sepOut st := by
  unfold sepOut
  cases st.firstName <;> rfl

/-- the `17h<16 hex digits>` hash component of a Rust symbol (dropped by dd_source_name) -/
def rustHash (id : List UInt8) : Bool := id.length == 17 && id.getD 0 0 == 104 && ((id.drop 1).take 16).all isXDigit

/-- a valid source identifier: nonempty, shorter than 2^31, does not start with a digit, no `$`,
    and not of the form `h<16 hex digits>` (the Rust hash, which dd_source_name drops) -/
structure IdOk (id : List UInt8) : Prop where
  ne : id ≠ []
  len : id.length < 2 ^ 31
  head : isDigit (id.getD 0 0) = false
  nodollar : (36 : UInt8) ∉ id
  nohash : rustHash id = false

/-- `<length><identifier>` -/
def srcName (id : List UInt8) : List UInt8 := decimal id.length ++ id

/-- the effect of dd_source_name on the parser state in name context -/
def appName (st : St) (id : List UInt8) : St :=
  { st with pos := st.pos + (srcName id).length, out := some (sepOut st ++ id), firstName := false }

theorem appName_facts (st : St) (id : List UInt8) : (appName st id).len = st.len ∧ (appName st id).type = st.type ∧
    (appName st id).templates = st.templates ∧ (appName st id).pos = st.pos + (srcName id).length := ⟨rfl, rfl, rfl, rfl⟩

theorem srcName_cons (id : List UInt8) : ∃ d t, srcName id = d :: t ∧ isDigit d = true := by
  obtain ⟨d1, _, d3, _⟩ := decimal_spec id.length
  unfold srcName
  cases hd : decimal id.length with
  | nil => exact absurd hd d3
  | cons a t => exact ⟨a, t ++ id, rfl, d1 a (hd ▸ List.mem_cons_self)⟩

theorem decimal_no_dollar (k : Nat) : (36 : UInt8) ∉ decimal k := by
  intro h
  have := (decimal_spec k).1 36 h
  cases this

/-- the first part of `dd_source_name` on `<length><identifier>`: the length is read, it fits, and the
    identifier is what follows -/
theorem sourceName_number {e : Env} {st : St} (id rest : List UInt8) (hfx : e.fx = Fixes.all) (hl : st.len = e.n)
    (h : Rest e st.pos (srcName id ++ rest)) (hne : id ≠ []) (hlen : id.length < 2 ^ 31)
    (hhead : isDigit (id.getD 0 0) = false) (st1 : St) (hst1 : st1 = { st with pos := st.pos + (decimal id.length).length }) :
    number e st = .ok (id.length : Int) st1 ∧ Rest e st1.pos (id ++ rest) ∧ eof e st1 = .ok false st1 ∧
    (!e.fx.intOvf && decide (st1.pos + (id.length : Int).toNat > 2147483647)) = false ∧
    ¬ (st1.pos + (id.length : Int).toNat > st1.len) := by
  subst hst1
  obtain ⟨c0, idt, rfl⟩ := List.exists_cons_of_ne_nil hne
  have h1 : Rest e (st.pos + (decimal (c0 :: idt).length).length) ((c0 :: idt) ++ rest) := by
    rw [srcName, List.append_assoc] at h
    exact h.append
  refine ⟨?_, h1, eof_cons hl h1, by simp [hfx, Fixes.all], ?_⟩
  · rw [srcName, List.append_assoc] at h
    exact number_eq _ c0 (idt ++ rest) hl h (by simp) hlen hhead
  · have := h1.1
    simp only [List.length_append] at this
    simp only [Int.toNat_natCast]
    omega

/-- the test for a Rust hash in dd_source_name, on an identifier that starts at `p`, computes `rustHash` -/
theorem hashTest_eq {e : Env} {st : St} (p : Nat) (id rest : List UInt8) (hne : id ≠ []) (h : Rest e p (id ++ rest)) :
    (do let x ← rdAt p
        if ((id.length : Int).toNat == 17 && x == 104) = true then do
            let bs ← readRange (p + 1) 16
            pure (bs.all isXDigit)
          else pure false : M Bool) e st = .ok (rustHash id) st := by
  obtain ⟨c0, idt, rfl⟩ := List.exists_cons_of_ne_nil hne
  have h : Rest e p (c0 :: (idt ++ rest)) := h
  rw [Int.toNat_natCast]
  simp only [bind_def, rdAt_cons h, rustHash, List.getD_cons_zero, List.drop_succ_cons, List.drop_zero]
  cases hcond : ((c0 :: idt).length == 17 && c0 == 104)
  · simp only [Bool.false_eq_true, ↓reduceIte, pure_def, Bool.false_and]
  · have h17 : idt.length = 16 := by
      simp only [Bool.and_eq_true, beq_iff_eq, List.length_cons] at hcond
      omega
    rw [if_pos rfl, bind_def, readRange_eq 16 (p + 1) (idt ++ rest) h.tail (by simp; omega)]
    simp only [pure_def, List.take_append_of_le_length (Nat.le_of_eq h17.symm), Bool.true_and]

/-- `dd_source_name` in name context (`type == 0`, `templates == 0`): the identifier is appended after a `::`
    separator -/
theorem sourceName_eq {e : Env} {st : St} (id rest : List UInt8) (hfx : e.fx = Fixes.all) (hl : st.len = e.n)
    (h : Rest e st.pos (srcName id ++ rest)) (hid : IdOk id) (hdollar : (36 : UInt8) ∉ rest)
    (ht : st.type = 0) (htm : st.templates = 0) : sourceName e st = .ok 0 (appName st id) := by
  let st1 : St := { st with pos := st.pos + (decimal id.length).length }
  obtain ⟨hnum, h1, heof, hov, hfit⟩ := sourceName_number id rest hfx hl h hid.ne hid.len hid.head st1 rfl
  have hhash := hashTest_eq (st := st1) st1.pos id rest hid.ne h1
  rw [hid.nohash] at hhash
  let st2 : St := { st1 with out := (if st1.firstName then st1.out else some (st1.out.getD [] ++ colon2)),
                             firstName := false }
  have hsep : appendSeparator colon2 e st1 = .ok () st2 := appendSeparator_eq e st1
  -- `strchr(&old[pos], '$')` searches to the end of the whole name, not of the identifier: hence `hdollar`
  have hfind : findByte 36 (e.n + 1) st1.pos e st2 = .ok none st2 := by
    refine findByte_none 36 (by decide) (id ++ rest) _ _ h1 ?_ ?_
    · simp only [List.mem_append, not_or]
      exact ⟨hid.nodollar, hdollar⟩
    · have := h1.1
      omega
  let st3 : St := { st2 with out := some (st2.out.getD [] ++ id) }
  have happ : appendFrom st1.pos (id.length : Int).toNat e st2 = .ok () st3 := by
    unfold appendFrom
    simp only [Int.toNat_natCast, bind_def, readRange_eq id.length st1.pos (id ++ rest) h1 (by simp),
      List.take_left', appendBytes, modifySt, st3]
  have hcons : consumeN (id.length : Int).toNat e st3 = .ok ((id ++ rest).getD 0 0) { st3 with pos := st3.pos + id.length } := by
    rw [Int.toNat_natCast]
    exact consumeN_eq (st := st3) id.length hl h1 (by simp)
  have hty : (st1.type != 0 && !st1.typeInfo) = false := by simp [st1, ht]
  have htm' : (st1.templates != 0) = false := by simp [st1, htm]
  have hnn : ¬ ((id.length : Int) < 0) := by omega
  simp only [bind_def] at hhash
  unfold sourceName
  simp only [bind_def, hnum, hnn, ↓reduceIte, getEnv, getSt, heof, Bool.false_eq_true, hov, hfit, hty, htm', hhash,
    hsep, hfind, happ, hcons, pure_def]
  simp only [st3, st2, st1, appName, srcName, sepOut_eq, List.length_append, Nat.add_assoc]

theorem digit_beq {d : UInt8} (h : isDigit d = true) (n : UInt8) (hn : isDigit n = false) : (d == n) = false := by
  simp only [beq_eq_false_iff_ne, ne_eq]
  intro hdn
  subst hdn
  rw [h] at hn
  cases hn

theorem digit_not_lower {d : UInt8} (h : isDigit d = true) : isLower d = false := by
  have := (isDigit_iff d).1 h
  have h97 : (97 : UInt8).toNat = 97 := rfl
  simp only [isLower, Bool.and_eq_false_imp, decide_eq_true_eq, decide_eq_false_iff_not, u8_le_iff, h97]
  intro _
  omega

/-- `dd_unqualified_name` on a source name that is not followed by an ABI tag does what `dd_source_name` does -/
theorem unqualifiedName_srcName {e : Env} {st : St} (rec : Fn → M Int) (id rest : List UInt8) (hl : st.len = e.n)
    (h : Rest e st.pos (srcName id ++ rest)) (hB : rest.getD 0 0 ≠ 66) (st' : St) (hsn : sourceName e st = .ok 0 st')
    (hl' : st'.len = st.len) (hp : st'.pos = st.pos + (srcName id).length) :
    bUnqualifiedName rec e st = .ok 0 st' := by
  have hcur' : curr e st' = .ok (rest.getD 0 0) st' := curr_eq (hl'.trans hl) (hp ▸ h.append)
  have hB' : (rest.getD 0 0 == 66) = false := by simpa using hB
  obtain ⟨d, t, hsn', hd⟩ := srcName_cons id
  rw [hsn'] at h
  unfold bUnqualifiedName
  simp only [bind_def, curr_cons hl h, peek_eq 1 hl h, eof_cons hl h, Bool.false_eq_true, ↓reduceIte,
    digit_beq hd 67 rfl, digit_beq hd 68 rfl, digit_beq hd 85 rfl, digit_beq hd 76 rfl, digit_not_lower hd,
    Bool.or_self, hsn, pure_def, hcur', hB']

/-- one iteration of the loop of dd_nested_name on a source name -/
theorem nestedLoop_src {e : Env} {st : St} (F : Nat) (hF : 1 ≤ F) (id rest : List UInt8) (hfx : e.fx = Fixes.all)
    (hl : st.len = e.n) (h : Rest e st.pos (srcName id ++ rest)) (hid : IdOk id) (hdollar : (36 : UInt8) ∉ rest)
    (hB : rest.getD 0 0 ≠ 66) (ht : st.type = 0) (htm : st.templates = 0) :
    run (F + 1) .nestedLoop e st = run F .nestedLoop e (appName st id) := by
  obtain ⟨F, rfl⟩ : ∃ F', F = F' + 1 := ⟨F - 1, by omega⟩
  show bNestedLoop (run (F + 1)) e st = _
  have hun : run (F + 1) .unqualifiedName e st = .ok 0 (appName st id) :=
    unqualifiedName_srcName (run F) id rest hl h hB _ (sourceName_eq id rest hfx hl h hid hdollar ht htm) rfl rfl
  obtain ⟨d, t, hsn, hd⟩ := srcName_cons id
  rw [hsn] at h
  unfold bNestedLoop
  simp only [bind_def, curr_cons hl h, peek_eq 1 hl h, eof_cons hl h, Bool.false_eq_true, ↓reduceIte,
    digit_beq hd 69 rfl, digit_beq hd 68 rfl, digit_beq hd 67 rfl, Bool.false_and, Bool.or_self, hd,
    Bool.or_true, hun]
  simp

/-- the loop of dd_nested_name stops at 'E' -/
theorem nestedLoop_end {e : Env} {st : St} (F : Nat) (rest : List UInt8) (hl : st.len = e.n)
    (h : Rest e st.pos (69 :: rest)) : run (F + 1) .nestedLoop e st = .ok 0 st := by
  show bNestedLoop (run F) e st = _
  unfold bNestedLoop
  simp only [bind_def, curr_cons hl h, beq_self_eq_true, ↓reduceIte, pure_def]

/-- everything the parser tests about a builtin type code -/
def BuiltinFacts (c : UInt8) : Prop :=
    strchrB cvQual c = false ∧ strchrB typePrefix c = false ∧ (c == 70) = false ∧ (c == 84) = false ∧ (c == 65) = false ∧
    (c == 77) = false ∧ (c == 68) = false ∧ (c == 83) = false ∧ (c == 117) = false ∧ (c == 85) = false ∧
    (c == 73) = false ∧ isDigit c = false ∧ (c == 78) = false ∧ (c == 90) = false ∧ strchrB encEnd c = false ∧
    (c == 36) = false ∧ (c == 46) = false ∧ (c == 64) = false ∧ (c == 71) = false

instance (c : UInt8) : Decidable (BuiltinFacts c) := by unfold BuiltinFacts; infer_instance

theorem types_facts : ∀ t ∈ types, BuiltinFacts t.1 := by decide +kernel

theorem builtin_facts (c : UInt8) (h : types.any (fun t => t.1 == c) = true) : BuiltinFacts c := by
  obtain ⟨t, ht, htc⟩ := List.any_eq_true.1 h
  rw [← eq_of_beq htc]
  exact types_facts t ht

theorem builtin_ne_dollar {c : UInt8} (h : types.any (fun t => t.1 == c) = true) : (36 : UInt8) ≠ c := by
  obtain ⟨_, _, _, _, _, _, _, _, _, _, _, _, _, _, _, h36, _⟩ := builtin_facts c h
  exact fun hc => ne_of_beq_false h36 hc.symm

theorem builtin_no_dollar {params : List UInt8} (h : ∀ c ∈ params, types.any (fun t => t.1 == c) = true) :
    (36 : UInt8) ∉ params := fun hm => builtin_ne_dollar (h 36 hm) rfl

/-- `dd_type` on a builtin type code -/
theorem type_builtin {e : Env} {st : St} (F : Nat) (c : UInt8) (rest : List UInt8) (hc : types.any (fun t => t.1 == c) = true)
    (hl : st.len = e.n) (h : Rest e st.pos (c :: rest)) :
    run (F + 2) .type e st = .ok 0 { st with pos := st.pos + 1 } := by
  obtain ⟨b1, b2, b3, b4, b5, b6, b7, b8, b9, b10, b11, b12, b13, b14, _⟩ := builtin_facts c hc
  show bType (run (F + 1)) e st = _
  let st1 : St := { st with type := st.type + 1 }
  let st2 : St := { st1 with level := st1.level + 1 }
  have hinc : incType e st = .ok () st1 := rfl
  have hinc2 : incLevel e st1 = .ok () st2 := rfl
  have h2 : Rest e st2.pos (c :: rest) := h
  have hloop : run (F + 1) (.typeLoop (-1)) e st2 = .ok 0 { st2 with pos := st2.pos + 1 } := by
    show bTypeLoop (run F) (-1) e st2 = _
    unfold bTypeLoop
    simp only [bind_def, eof_cons (st := st2) hl h2, Bool.false_eq_true, ↓reduceIte, curr_cons (st := st2) hl h2,
      b1, b2, b3, b4, b5, b6, b7, b8, b9, b10, b11, b12, b13, b14, Bool.or_self, hc, consume_cons (st := st2) hl h2,
      pure_def]
  unfold bType
  simp only [bind_def, eof_cons hl h, Bool.false_eq_true, ↓reduceIte, hinc, hinc2, hloop, decLevel, decType, modifySt,
    pure_def]
  congr 1
  simp [st2, st1]

/-- the loop over the parameter types in dd_encoding, for builtin parameter types up to the end of the name or
    to a byte that ends an encoding -/
theorem encLoop_builtins {e : Env} (rest : List UInt8) (hstop : rest = [] ∨ strchrB encEnd (rest.getD 0 0) = true) :
    ∀ (params : List UInt8) (F : Nat) (st : St), params.length + 3 ≤ F →
    (∀ c ∈ params, types.any (fun t => t.1 == c) = true) → st.len = e.n → Rest e st.pos (params ++ rest) →
    run F .encLoop e st = .ok 0 { st with pos := st.pos + params.length } := by
  intro params
  induction params with
  | nil =>
    intro F st hF _ hl h
    obtain ⟨F, rfl⟩ : ∃ F', F = F' + 1 := ⟨F - 1, by omega⟩
    show bEncLoop (run F) e st = _
    have h : Rest e st.pos rest := h
    unfold bEncLoop
    cases rest with
    | nil =>
      simp only [bind_def, eof_eq hl h, List.length_nil, decide_true, ↓reduceIte, pure_def]
      rfl
    | cons c r =>
      have hc : strchrB encEnd c = true := hstop.resolve_left (List.cons_ne_nil c r)
      simp only [bind_def, eof_cons hl h, Bool.false_eq_true, ↓reduceIte, curr_cons hl h, hc, pure_def]
      rfl
  | cons c params ih =>
    intro F st hF hb hl h
    obtain ⟨F, rfl⟩ : ∃ F', F = F' + 3 := ⟨F - 3, by simp at hF; omega⟩
    have hc := hb c List.mem_cons_self
    obtain ⟨_, _, _, _, _, _, _, _, _, _, _, _, _, _, b15, _⟩ := builtin_facts c hc
    have h : Rest e st.pos (c :: (params ++ rest)) := h
    have hty : run (F + 2) .type e st = .ok 0 { st with pos := st.pos + 1 } := type_builtin F c _ hc hl h
    have hrec := ih (F + 2) { st with pos := st.pos + 1 } (by simp at hF; omega)
      (fun x hx => hb x (List.mem_cons_of_mem _ hx)) hl h.tail
    show bEncLoop (run (F + 2)) e st = _
    unfold bEncLoop
    simp only [bind_def, eof_cons hl h, Bool.false_eq_true, ↓reduceIte, curr_cons hl h, b15, hty, Int.lt_irrefl, hrec,
      List.length_cons, Nat.add_assoc, Nat.add_comm 1]

/-- `a::b::c` -/
def joinNames (comps : List (List UInt8)) : List UInt8 := [58, 58].intercalate comps

theorem joinNames_cons : ∀ (l : List (List UInt8)) (a : List UInt8),
    joinNames (a :: l) = a ++ l.flatMap (fun id => [58, 58] ++ id) := by
  intro l
  induction l with
  | nil => intro a; simp [joinNames, List.intercalate]
  | cons b l ih =>
    intro a
    have := ih b
    simp only [joinNames, List.intercalate, List.intersperse_cons_cons, List.flatten_cons] at this ⊢
    rw [this, List.flatMap_cons, List.append_assoc]

/-- the parser state after the `n` bytes of the components `path` of a nested name: the identifiers
    are in the output buffer, joined by `::` -/
def afterPath (st : St) (n : Nat) (path : List (List UInt8)) : St :=
  { st with pos := st.pos + n, out := some (joinNames path), firstName := false }

/-- the state of `demangle_simple` after `_ZN` -/
def stN (l : List UInt8) : St := { pos := 3, len := l.toArray.size, level := 2 }

/-- `demangle_simple` on `_ZN <body> E <builtin-type>*`: if the loop of dd_nested_name takes the state after `_ZN`
    to `s3`, positioned at the `E` with output `X`, the result is `X` -/
theorem demangle_ZN (body params l : List UInt8) (hl : l = 95 :: 90 :: 78 :: (body ++ 69 :: params))
    (hb : ∀ c ∈ params, types.any (fun t => t.1 == c) = true) (F : Nat) (hF : F + 3 = fuelFor l.toArray)
    (s3 : St) (X : List UInt8)
    (hloop : run F .nestedLoop { s := l.toArray, fx := Fixes.all } (stN l) = .ok 0 s3)
    (h3l : s3.len = l.length) (h3p : s3.pos = 3 + body.length) (h3v : s3.level = 2) (h3o : s3.out = some X) :
    demangle Fixes.all l.toArray = .str X := by
  let e : Env := { s := l.toArray, fx := Fixes.all }
  let st0 : St := { pos := 0, len := l.toArray.size }
  have hR : Rest e 0 l := Rest.of_list l Fixes.all
  have hn : e.n = l.length := by simp [e, Env.n]
  have hlen : l.length = 3 + body.length + 1 + params.length := by
    rw [hl]
    simp only [List.length_cons, List.length_append]
    omega
  have hFp : params.length + 1 ≤ F := by
    simp only [fuelFor, List.size_toArray] at hF
    omega
  have hl0 : st0.len = e.n := rfl
  have hR0 : Rest e st0.pos (95 :: 90 :: 78 :: (body ++ 69 :: params)) := hl ▸ hR
  let st1 : St := { st0 with pos := 2 }
  let st2 : St := { st1 with level := 1 }
  have hcons : consumeN 2 e st0 = .ok 95 st1 := consumeN_eq 2 hl0 hR0 (by simp)
  have hinc : incLevel e st1 = .ok () st2 := rfl
  have h2 : Rest e st2.pos (78 :: (body ++ 69 :: params)) := hR0.tail.tail
  have h3 : Rest e s3.pos (69 :: params) := by
    rw [h3p]
    exact h2.tail.append
  have hl3 : s3.len = e.n := h3l.trans hn.symm
  have hnn : run (F + 1) .nestedName e st2 = .ok 0 { s3 with pos := s3.pos + 1, level := 1 } := by
    show bNestedName (run F) e st2 = _
    have hdc : debugConsume 78 e st2 = .ok true { st2 with pos := 3 } := debugConsume_eq 78 rfl h2
    have hinc : incLevel e { st2 with pos := 3 } = .ok () (stN l) := rfl
    have hloop : run F .nestedLoop e (stN l) = .ok 0 s3 := hloop
    unfold bNestedName
    simp only [bind_def, eof_cons rfl h2, Bool.false_eq_true, ↓reduceIte, hdc, Bool.not_true, hinc, hloop,
      debugConsume_eq 69 hl3 h3, decLevel, modifySt, pure_def, h3v]
    rfl
  let st4 : St := { s3 with pos := s3.pos + 1, level := 1 }
  have hname : run (F + 2) .name e st2 = .ok 0 st4 := by
    show bName (run (F + 1)) e st2 = _
    unfold bName
    simp only [bind_def, curr_cons rfl h2, eof_cons rfl h2, Bool.false_eq_true, ↓reduceIte, beq_self_eq_true, hnn]
    rfl
  have h4 : Rest e st4.pos (params ++ []) := (List.append_nil params).symm ▸ h3.tail
  let st5 : St := { st4 with pos := st4.pos + params.length }
  have henc : run (F + 2) .encLoop e st4 = .ok 0 st5 :=
    encLoop_builtins [] (Or.inl rfl) params (F + 2) st4 (by omega) hb hl3 h4
  have h5 : Rest e st5.pos [] := h4.append
  have hcur5 : curr e st5 = .ok 0 st5 := curr_eq (st := st5) hl3 h5
  have hrun : run (fuelFor l.toArray) .encoding { s := l.toArray, fx := Fixes.all } { pos := 0, len := l.toArray.size } =
      .ok 0 { st5 with level := 0 } := by
    rw [← hF]
    show bEncoding (run (F + 2)) e st0 = _
    unfold bEncoding
    simp only [bind_def, eof_cons hl0 hR0, Bool.false_eq_true, ↓reduceIte, getSt, hcons, hinc,
      curr_cons (st := st2) rfl h2, show ((78 : UInt8) == 84 || (78 : UInt8) == 71) = false from rfl, hname,
      Int.lt_irrefl, henc, hcur5, show ((0 : UInt8) == 46) = false from rfl, show ((0 : UInt8) == 64) = false from rfl,
      decLevel, modifySt, pure_def, show (st0.pos == 0) = true from rfl]
    rfl
  have hpre : globalPrefix.isPrefixOf l = false := by
    rw [hl]
    simp [globalPrefix, List.isPrefixOf]
  have hpos : st5.pos ≥ st5.len := by
    have := h5.1
    simp only [List.length_nil, Nat.add_zero] at this
    rw [this, hl3]
    exact Nat.le_refl _
  unfold demangle demangleWith
  simp only [hpre, Bool.false_eq_true, ↓reduceIte]
  unfold demangleCore
  have hg : (l.toArray.getD 0 0 == 95 && l.toArray.getD 1 0 == 90) = true := by rw [hl]; rfl
  have hout : st5.out = some X := h3o
  simp only [hg, Bool.not_true, Bool.false_eq_true, ↓reduceIte, hrun, Int.lt_irrefl, decide_false, bne_self_eq_false,
    Bool.or_self, hpos, hout]

/-- the loop of dd_nested_name on a constructor / destructor code followed by `E` -/
theorem nestedLoop_ctor {e : Env} {st : St} (F : Nat) (cd k : UInt8) (hcd : cd = 67 ∨ cd = 68)
    (hk : isDigit k = true) (rest : List UInt8) (hl : st.len = e.n) (ht : st.type = 0) (o : List UInt8)
    (ho : st.out = some o) (h : Rest e st.pos (cd :: k :: 69 :: rest)) :
    run (F + 2) .nestedLoop e st =
      .ok 0 { st with pos := st.pos + 2,
                      out := some (o ++ (if cd = 67 then [58, 58] else [58, 58, 126]) ++ lastComponent o) } := by
  obtain ⟨hE, hCD, hCD'⟩ : (cd == 69) = false ∧ (cd == 67 || cd == 68) = true ∧ (cd != 67 && cd != 68) = false := by
    rcases hcd with rfl | rfl <;> exact ⟨rfl, rfl, rfl⟩
  let st1 : St := { st with pos := st.pos + 1 }
  let st2 : St := { st1 with pos := st1.pos + 1 }
  let st3 : St := { st2 with out := some (o ++ (if cd = 67 then [58, 58] else [58, 58, 126]) ++ lastComponent o) }
  have h2 : Rest e st2.pos (69 :: rest) := h.tail.tail
  have hctor : run (F + 1) .ctorDtorName e st = .ok 0 st3 := by
    show bCtorDtorName (run F) e st = _
    have hc1 : consume e st = .ok cd st1 := consume_cons hl h
    have hc2 : consume e st1 = .ok k st2 := consume_cons (st := st1) hl h.tail
    have ht2 : (st2.type != 0) = false := by simp [st2, st1, ht]
    have ho2 : st2.out = some o := ho
    unfold bCtorDtorName
    simp only [bind_def, hc1, hc2, eof_cons (st := st2) hl h2, Bool.false_eq_true, ↓reduceIte, getSt, hCD',
      digit_beq hk 73 rfl, hk, Bool.not_true, ht2, ho2, appendBytes, modifySt, pure_def]
    simp [st3]
  have hend : run (F + 1) .nestedLoop e st3 = .ok 0 st3 := nestedLoop_end F rest hl h2
  show bNestedLoop (run (F + 1)) e st = _
  unfold bNestedLoop
  simp only [bind_def, curr_cons hl h, hE, eof_cons hl h, peek_eq 1 hl h, List.getD_cons_succ, List.getD_cons_zero,
    digit_beq hk 84 rfl, digit_beq hk 116 rfl, Bool.or_self, Bool.and_false, hCD, Bool.false_eq_true, ↓reduceIte, hctor,
    bne_self_eq_false, hend]
  rfl

/-- everything the parser tests about an entry of `ops[]` -/
def OpFacts (o : UInt8 × UInt8 × List UInt8) : Prop :=
  isLower o.1 = true ∧ (o.1 == 69) = false ∧ (o.1 == 68) = false ∧ (o.1 == 67) = false ∧ (o.1 == 85) = false ∧
  ops.find? (fun p => p.1 == o.1 && p.2.1 == o.2.1) = some o ∧ (o.1 == 36) = false ∧ (o.2.1 == 36) = false ∧
  (o.1 == 66) = false

instance (o : UInt8 × UInt8 × List UInt8) : Decidable (OpFacts o) := by unfold OpFacts; infer_instance

theorem ops_facts_all : ∀ o ∈ ops, OpFacts o := by decide +kernel

/-- the loop of dd_nested_name on an operator code (other than the conversion and literal operators)
    followed by `E` -/
theorem nestedLoop_op {e : Env} {st : St} (F : Nat) (o : UInt8 × UInt8 × List UInt8) (ho : o ∈ ops)
    (hcv : (o.1 == 99 && o.2.1 == 118) = false) (hli : (o.1 == 108 && o.2.1 == 105) = false)
    (rest : List UInt8) (hl : st.len = e.n) (ht : st.type = 0) (h : Rest e st.pos (o.1 :: o.2.1 :: 69 :: rest)) :
    run (F + 3) .nestedLoop e st =
      .ok 0 { st with pos := st.pos + 2, out := some (sepOut st ++ bs%"operator" ++ o.2.2), firstName := false } := by
  obtain ⟨f1, f2, f3, f4, f5, f6, _, _, _⟩ := ops_facts_all o ho
  obtain ⟨a, b, name⟩ := o
  simp only at f1 f2 f3 f4 f5 f6 hcv hli h
  let st1 : St := { st with pos := st.pos + 1 }
  let st2 : St := { st1 with pos := st1.pos + 1 }
  let st3 : St := { st2 with out := some (sepOut st ++ bs%"operator" ++ name), firstName := false }
  have h2 : Rest e st2.pos (69 :: rest) := h.tail.tail
  have hop : run (F + 1) .operatorName e st = .ok 0 st3 := by
    show bOperatorName (run F) e st = _
    have hc1 : consume e st = .ok a st1 := consume_cons hl h
    have hc2 : consume e st1 = .ok b st2 := consume_cons (st := st1) hl h.tail
    have ht2 : (st2.type != 0) = false := by simp [st2, st1, ht]
    unfold bOperatorName
    simp only [bind_def, hc1, hc2, eof_cons (st := st2) hl h2, Bool.false_eq_true, ↓reduceIte, getSt, ht2, f6, hcv, hli,
      appendSeparator_eq, appendBytes, incType, decType, modifySt, pure_def, Option.getD_some]
    simp only [st3, sepOut_eq st2, Int.add_sub_cancel]
    rfl
  have hl3 : st3.len = e.n := hl
  have h3 : Rest e st3.pos (69 :: rest) := h2
  have hun : run (F + 2) .unqualifiedName e st = .ok 0 st3 := by
    show bUnqualifiedName (run (F + 1)) e st = _
    unfold bUnqualifiedName
    simp only [bind_def, curr_cons hl h, peek_eq 1 hl h, eof_cons hl h, Bool.false_eq_true, ↓reduceIte, f3, f4, f5, f1,
      Bool.or_self, hop, curr_cons (st := st3) hl3 h3, show ((69 : UInt8) == 66) = false from rfl, pure_def]
  have hend : run (F + 2) .nestedLoop e st3 = .ok 0 st3 := nestedLoop_end (F + 1) rest hl3 h3
  show bNestedLoop (run (F + 2)) e st = _
  unfold bNestedLoop
  simp only [bind_def, curr_cons hl h, f2, eof_cons hl h, peek_eq 1 hl h, f3, f4, f5, f1, Bool.false_and, Bool.or_self,
    Bool.or_true, Bool.true_or, Bool.false_eq_true, ↓reduceIte, hun, bne_self_eq_false, hend]
  rfl

theorem lastComponent_append (pre last : List UInt8) (h : (58 : UInt8) ∉ last)
    (hpre : pre.reverse.takeWhile (· != 58) = []) : lastComponent (pre ++ last) = last := by
  unfold lastComponent
  rw [List.reverse_append, List.takeWhile_append_of_pos, hpre, List.append_nil, List.reverse_reverse]
  intro y hy
  simp only [bne_iff_ne, ne_eq]
  intro hy58
  exact h (hy58 ▸ List.mem_reverse.1 hy)

/-- the last `::`-component of `a::b::…::last` is `last` -/
theorem lastComponent_join (init : List (List UInt8)) (last : List UInt8) (h : (58 : UInt8) ∉ last) :
    lastComponent (joinNames (init ++ [last])) = last := by
  cases init with
  | nil =>
    rw [List.nil_append, joinNames_cons, List.flatMap_nil, List.append_nil]
    exact lastComponent_append [] last h rfl
  | cons a l =>
    rw [List.cons_append, joinNames_cons, List.flatMap_append, List.flatMap_cons, List.flatMap_nil, List.append_nil,
      ← List.append_assoc, ← List.append_assoc]
    exact lastComponent_append _ last h (by simp)

/-! ## declarations, `mangle`, `qualifiedName` -/

/-- what follows the enclosing scopes in a nested name -/
inductive Leaf
  | fn                                        -- an ordinary function: the innermost name is the function
  | ctor (k : UInt8)                          -- constructor `C<k>` of the innermost class
  | dtor (k : UInt8)                          -- destructor `D<k>` of the innermost class
  | op (o : UInt8 × UInt8 × List UInt8)       -- member operator: an entry of the generated `ops[]` table

def Leaf.bytes : Leaf → List UInt8
  | .fn => []
  | .ctor k => [67, k]
  | .dtor k => [68, k]
  | .op o => [o.1, o.2.1]

def Leaf.Ok : Leaf → Prop
  | .fn => True
  | .ctor k => isDigit k = true
  | .dtor k => isDigit k = true
  | .op o => o ∈ ops ∧ (o.1 == 99 && o.2.1 == 118) = false ∧ (o.1 == 108 && o.2.1 == 105) = false

/-- `_ZN <source-name>+ E <builtin-type>+` -/
def mangleNested (comps : List (List UInt8)) (params : List UInt8) : List UInt8 :=
  [95, 90, 78] ++ comps.flatMap srcName ++ [69] ++ params

/-- `_ZN <source-name>+ <leaf> E <builtin-type>+` -/
def mangleLeaf (comps : List (List UInt8)) (leaf params : List UInt8) : List UInt8 :=
  [95, 90, 78] ++ comps.flatMap srcName ++ leaf ++ [69] ++ params

/-- a C++ declaration: `scope₁::…::scopeₙ::name` plus what `leaf` says, taking builtin-type parameters -/
structure Decl where
  scope : List (List UInt8)
  name : List UInt8
  leaf : Leaf
  params : List UInt8

def Decl.path (d : Decl) : List (List UInt8) := d.scope ++ [d.name]

/-- the Itanium-ABI mangled name `_ZN <source-name>+ [C<k> | D<k> | <operator-code>] E <builtin-type>*` -/
def mangle (d : Decl) : List UInt8 := mangleLeaf d.path d.leaf.bytes d.params

def leafSuffix (name : List UInt8) : Leaf → List UInt8
  | .fn => []
  | .ctor _ => [58, 58] ++ name
  | .dtor _ => [58, 58, 126] ++ name
  | .op o => [58, 58] ++ bs%"operator" ++ o.2.2

/-- the qualified name without parameter list: `a::b::f`, `a::K::K`, `a::K::~K`, `a::K::operator+` -/
def qualifiedName (d : Decl) : List UInt8 := joinNames d.path ++ leafSuffix d.name d.leaf

structure Decl.Ok (d : Decl) : Prop where
  ids : ∀ id ∈ d.path, IdOk id
  nocolon : (58 : UInt8) ∉ d.name
  leaf : d.leaf.Ok
  params : ∀ c ∈ d.params, types.any (fun t => t.1 == c) = true

/-- what follows the components of a nested name contains no `$` … -/
theorem Leaf.tail_no_dollar {leaf : Leaf} (h : leaf.Ok) {params : List UInt8}
    (hpar : ∀ c ∈ params, types.any (fun t => t.1 == c) = true) : (36 : UInt8) ∉ leaf.bytes ++ 69 :: params := by
  simp only [List.mem_append, List.mem_cons, not_or]
  refine ⟨?_, by decide, builtin_no_dollar hpar⟩
  cases leaf with
  | fn => simp [Leaf.bytes]
  | ctor k | dtor k =>
    have hk : (k == 36) = false := digit_beq h 36 rfl
    simp only [Leaf.bytes, List.mem_cons, List.not_mem_nil, or_false, not_or]
    exact ⟨by decide, fun h36 => ne_of_beq_false hk h36.symm⟩
  | op o =>
    obtain ⟨_, _, _, _, _, _, g7, g8, _⟩ := ops_facts_all o h.1
    simp only [Leaf.bytes, List.mem_cons, List.not_mem_nil, or_false, not_or]
    exact ⟨fun h => ne_of_beq_false g7 h.symm, fun h => ne_of_beq_false g8 h.symm⟩

/-- … and does not start with the `B` of an ABI tag -/
theorem Leaf.bytes_head {leaf : Leaf} (h : leaf.Ok) (rest : List UInt8) : (leaf.bytes ++ 69 :: rest).getD 0 0 ≠ 66 := by
  cases leaf with
  | fn | ctor k | dtor k => simp [Leaf.bytes]
  | op o =>
    obtain ⟨_, _, _, _, _, _, _, _, g9⟩ := ops_facts_all o h.1
    simpa [Leaf.bytes] using g9

/-- **demangle ∘ mangle, generic in the enclosing scopes**: if the loop of dd_nested_name takes the state after
    `_ZN` to the state after the components `path` (`body`, their encoding, may be anything), then
    `_ZN <body> <leaf> E <builtin-type>*` demangles to the qualified name.  `name` is the class name that a
    constructor or destructor prints: the last `::`-component of the output so far (`hlast`) -/
theorem demangle_leaf (body : List UInt8) (path : List (List UInt8)) (name : List UInt8) (leaf : Leaf) (params l : List UInt8)
    (hl : l = 95 :: 90 :: 78 :: (body ++ (leaf.bytes ++ 69 :: params)))
    (hlast : leaf = .fn ∨ lastComponent (joinNames path) = name) (hleaf : leaf.Ok)
    (hpar : ∀ c ∈ params, types.any (fun t => t.1 == c) = true)
    (F k : Nat) (hF : F + k + 3 = fuelFor l.toArray) (hF3 : 3 ≤ F)
    (hbody : run (F + k) .nestedLoop { s := l.toArray, fx := Fixes.all } (stN l) =
      run F .nestedLoop { s := l.toArray, fx := Fixes.all } (afterPath (stN l) body.length path)) :
    demangle Fixes.all l.toArray = .str (joinNames path ++ leafSuffix name leaf) := by
  let e : Env := { s := l.toArray, fx := Fixes.all }
  let S : St := afterPath (stN l) body.length path
  have hSl : S.len = e.n := rfl
  have hRS : Rest e S.pos (leaf.bytes ++ 69 :: params) := by
    have hR : Rest e 0 (95 :: 90 :: 78 :: (body ++ (leaf.bytes ++ 69 :: params))) := hl ▸ Rest.of_list l Fixes.all
    exact hR.tail.tail.tail.append
  obtain ⟨F, rfl⟩ : ∃ F', F = F' + 3 := ⟨F - 3, by omega⟩
  have hsep : sepOut S = joinNames path ++ [58, 58] := rfl
  have key : ∃ s3, run (F + 3) .nestedLoop e S = .ok 0 s3 ∧ s3.len = l.length ∧ s3.pos = 3 + (body ++ leaf.bytes).length ∧
      s3.level = 2 ∧ s3.out = some (joinNames path ++ leafSuffix name leaf) := by
    have hlen : S.len = l.length := by simp [S, afterPath, stN]
    have hpos : ∀ n, S.pos + n = 3 + (body.length + n) := fun n => Nat.add_assoc _ _ _
    simp only [List.length_append]
    cases leaf with
    | fn => exact ⟨S, nestedLoop_end (F + 2) params hSl hRS, hlen, hpos 0, rfl, by simp [S, afterPath, leafSuffix]⟩
    | ctor d =>
      refine ⟨_, nestedLoop_ctor (F + 1) 67 d (Or.inl rfl) hleaf params hSl rfl _ rfl hRS, hlen, hpos 2, rfl, ?_⟩
      simp [leafSuffix, hlast.resolve_left nofun]
    | dtor d =>
      refine ⟨_, nestedLoop_ctor (F + 1) 68 d (Or.inr rfl) hleaf params hSl rfl _ rfl hRS, hlen, hpos 2, rfl, ?_⟩
      simp [leafSuffix, hlast.resolve_left nofun]
    | op o =>
      refine ⟨_, nestedLoop_op F o hleaf.1 hleaf.2.1 hleaf.2.2 params hSl rfl hRS, hlen, hpos 2, rfl, ?_⟩
      simp [hsep, leafSuffix]
  obtain ⟨s3, h1, h2, h3, h4, h5⟩ := key
  exact demangle_ZN (body ++ leaf.bytes) params l (by rw [hl, List.append_assoc]) hpar (F + 3 + k) hF s3 _
    (hbody.trans h1) h2 h3 h4 h5

end Uft.Demangle

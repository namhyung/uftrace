import Uft.Model.Fstack
/- C07, the entry/exit automaton one record at a time: what fstack_account_time, fstack_entry and
   fstack_exit do to the reader's state under every option set, and the one fact everything else
   rests on: the EXIT record of a call undoes what its ENTRY record did to the filter state
   (`Entered`, `fsExit_entered`).  State restoration over call trees follows. -/
namespace Uft.Fstack
open Uft.Mcount (Rec Trigger Call Calls evCall evCalls)

/-- run a per-record loop: final state and everything it showed -/
def run (step : FS → Rec → FS × List Rec) : FS → List Rec → FS × List Rec
  | s, [] => (s, [])
  | s, r :: rest => ((run step (step s r).1 rest).1, (step s r).2 ++ (run step (step s r).1 rest).2)

theorem run_snd (step : FS → Rec → FS × List Rec) (s : FS) (rs : List Rec) :
    (run step s rs).2 = runSteps step s rs := by
  induction rs generalizing s with
  | nil => rfl
  | cons r rest ih => simp [run, runSteps, ih]

theorem run_append (step : FS → Rec → FS × List Rec) (s : FS) (a b : List Rec) :
    run step s (a ++ b) =
      ((run step (run step s a).1 b).1, (run step s a).2 ++ (run step (run step s a).1 b).2) := by
  induction a generalizing s with
  | nil => simp [run]
  | cons r rest ih => simp [run, ih, List.append_assoc]

theorem fs_ext (a b : FS) (h1 : a.inCount = b.inCount) (h2 : a.outCount = b.outCount) (h3 : a.depth = b.depth)
    (h4 : a.stack = b.stack) (h5 : a.sc = b.sc) (h6 : a.scSet = b.scSet) (h7 : a.enabled = b.enabled)
    (h8 : a.dispDepth = b.dispDepth) (h9 : a.dispSet = b.dispSet) : a = b := by
  cases a; cases b; simp_all

/-! ### fstack_account_time: only stack_count moves -/

theorem account_entry (s : FS) (r : Rec) (hs : s.scSet = true) (ht : r.type = 0) :
    account s r = { s with sc := s.sc + 1 } := by
  cases s
  simp_all [account]

theorem account_exit (s : FS) (r : Rec) (hs : s.scSet = true) (ht : r.type = 1) :
    account s r = { s with sc := s.sc - 1 } := by
  cases s
  simp_all [account]

theorem account_eq (s : FS) (r : Rec) :
    account s r = { s with sc := (account s r).sc, scSet := (account s r).scSet } := by
  unfold account
  split <;> rfl

@[simp] theorem account_inCount (s : FS) (r : Rec) : (account s r).inCount = s.inCount := by rw [account_eq]
@[simp] theorem account_outCount (s : FS) (r : Rec) : (account s r).outCount = s.outCount := by rw [account_eq]
@[simp] theorem account_depth (s : FS) (r : Rec) : (account s r).depth = s.depth := by rw [account_eq]
@[simp] theorem account_stack (s : FS) (r : Rec) : (account s r).stack = s.stack := by rw [account_eq]
@[simp] theorem account_enabled (s : FS) (r : Rec) : (account s r).enabled = s.enabled := by rw [account_eq]
@[simp] theorem account_dispDepth (s : FS) (r : Rec) : (account s r).dispDepth = s.dispDepth := by rw [account_eq]
@[simp] theorem account_dispSet (s : FS) (r : Rec) : (account s r).dispSet = s.dispSet := by rw [account_eq]

theorem account_updEntry (s : FS) (r : Rec) : account (updEntry s) r = updEntry (account s r) := by
  unfold account
  split <;> rfl

/-- the func_stack slot fstack_entry fills in -/
def entryFr (c : RCfg) (s : FS) (addr : Nat) : Fr :=
  { origDepth := s.depth, filtered := (verdict c s addr).matched && isIn (c.trig addr),
    notrace := verdict c s addr == .notrace, norecord := (verdict c s addr).norecord }

theorem fsEntry_stack (c : RCfg) (s : FS) (addr : Nat) :
    (fsEntry c s addr).1.stack = entryFr c s addr :: s.stack := rfl

theorem fsEntry_inCount (c : RCfg) (s : FS) (addr : Nat) :
    (fsEntry c s addr).1.inCount = (if (entryFr c s addr).filtered then s.inCount + 1 else s.inCount) := rfl

theorem fsEntry_outCount (c : RCfg) (s : FS) (addr : Nat) :
    (fsEntry c s addr).1.outCount =
      (if !(entryFr c s addr).filtered && (entryFr c s addr).notrace then s.outCount + 1 else s.outCount) := by
  simp only [fsEntry, entryFr]
  by_cases h : verdict c s addr = .notrace
  · simp [h, Verdict.matched]
  · simp [h]

theorem verdict_congr (c : RCfg) (a b : FS) (f : Nat) (h1 : a.inCount = b.inCount) (h2 : a.outCount = b.outCount)
    (h3 : a.depth = b.depth) (h4 : a.enabled = b.enabled) : verdict c a f = verdict c b f := by
  unfold verdict depthAfter
  rw [h1, h2, h3, h4]

theorem verdict_account (c : RCfg) (s : FS) (r : Rec) (f : Nat) : verdict c (account s r) f = verdict c s f := by
  exact verdict_congr c _ _ f (account_inCount s r) (account_outCount s r) (account_depth s r) (account_enabled s r)

/-- the checks of fstack_entry that come before the trigger's DEPTH / TRACE_ON / TRACE_OFF updates all passed -/
def PastLoc (c : RCfg) (s : FS) (f : Nat) : Prop :=
  s.outCount = 0 ∧ (c.trig f).filter ≠ some false ∧
  (!isIn (c.trig f) && c.optIn && decide (s.inCount = 0)) = false ∧ locReject c (c.trig f) = false

theorem verdict_pastLoc (c : RCfg) (s : FS) (f : Nat) (h : PastLoc c s f) :
    verdict c s f = (if (!enAfter (c.trig f) s.enabled) = true then .traceOff
                     else if (decide (depthAfter c s (c.trig f) = 0) || c.hide f) = true then .depthOut
                     else .accept) := by
  obtain ⟨h1, h2, h3, h4⟩ := h
  unfold verdict
  rw [if_neg (by omega), if_neg h2, if_neg (by simp [h3]), if_neg (by simp [h4])]

theorem pastLoc_of_late (c : RCfg) (s : FS) (f : Nat) (hl : (verdict c s f).late = true) : PastLoc c s f := by
  unfold verdict at hl
  by_cases h1 : s.outCount > 0
  · rw [if_pos h1] at hl
    exact absurd hl (by decide)
  rw [if_neg h1] at hl
  by_cases h2 : (c.trig f).filter = some false
  · rw [if_pos h2] at hl
    exact absurd hl (by decide)
  rw [if_neg h2] at hl
  by_cases h3 : (!isIn (c.trig f) && c.optIn && decide (s.inCount = 0)) = true
  · rw [if_pos h3] at hl
    exact absurd hl (by decide)
  rw [if_neg h3] at hl
  by_cases h4 : locReject c (c.trig f) = true
  · rw [if_pos h4] at hl
    exact absurd hl (by decide)
  exact ⟨by omega, h2, Bool.eq_false_iff.2 h3, Bool.eq_false_iff.2 h4⟩

theorem verdict_traceOff_iff (c : RCfg) (s : FS) (f : Nat) :
    verdict c s f = .traceOff ↔ PastLoc c s f ∧ enAfter (c.trig f) s.enabled = false := by
  constructor
  · intro h
    have hp := pastLoc_of_late c s f (by rw [h]; rfl)
    refine ⟨hp, ?_⟩
    rw [verdict_pastLoc c s f hp] at h
    cases he : enAfter (c.trig f) s.enabled with
    | false => rfl
    | true =>
      rw [he, if_neg (by decide)] at h
      split at h <;> cases h
  · intro h
    rw [verdict_pastLoc c s f h.1, h.2]
    rfl

theorem enAfter_of_late (c : RCfg) (s : FS) (f : Nat) (hl : (verdict c s f).late = true)
    (hn : verdict c s f ≠ .traceOff) : enAfter (c.trig f) s.enabled = true := by
  cases he : enAfter (c.trig f) s.enabled with
  | false => exact absurd ((verdict_traceOff_iff c s f).2 ⟨pastLoc_of_late c s f hl, he⟩) hn
  | true => rfl

theorem verdict_accept (c : RCfg) (s : FS) (f : Nat) (h : verdict c s f = .accept) :
    PastLoc c s f ∧ enAfter (c.trig f) s.enabled = true ∧ depthAfter c s (c.trig f) ≠ 0 ∧ c.hide f = false := by
  have hl : (verdict c s f).late = true := by rw [h]; rfl
  refine ⟨pastLoc_of_late c s f hl, enAfter_of_late c s f hl (by rw [h]; decide), ?_⟩
  rw [verdict_pastLoc c s f (pastLoc_of_late c s f hl)] at h
  by_cases h6 : (decide (depthAfter c s (c.trig f) = 0) || c.hide f) = true
  · rw [if_pos h6] at h
    split at h <;> cases h
  · simpa using h6

theorem late_of_pastLoc (c : RCfg) (s : FS) (f : Nat) (h : PastLoc c s f) : (verdict c s f).late = true := by
  rw [verdict_pastLoc c s f h]
  split
  · rfl
  · split <;> rfl

theorem fsEntry_traceOff (c : RCfg) (s : FS) (f : Nat) (h : verdict c s f = .traceOff) :
    (fsEntry c s f).2 = false ∧ (fsEntry c s f).1.enabled = false := by
  have := ((verdict_traceOff_iff c s f).1 h).2
  simp [fsEntry, h, Verdict.late, this]

theorem Verdict.norecord_eq (v : Verdict) (h : v ≠ .traceOff) : v.norecord = !(v == .accept) := by
  cases v <;> first | rfl | exact absurd rfl h

/-- an ENTRY whose verdict is not `traceOff`: tracing stays on if it was (a late verdict has it on), the
    display depth is set when the first accepted call is met, and the slot is NORECORD iff the call is not shown -/
theorem fsEntry_live (c : RCfg) (s : FS) (f : Nat) (hn : verdict c s f ≠ .traceOff) :
    (fsEntry c s f).1.enabled = ((verdict c s f).late || s.enabled) ∧
    (fsEntry c s f).1.dispSet = (s.dispSet || (fsEntry c s f).2) ∧
    (fsEntry c s f).1.dispDepth = (if (fsEntry c s f).2 && !s.dispSet then s.sc - 1 else s.dispDepth) ∧
    (entryFr c s f).norecord = !(fsEntry c s f).2 := by
  have hoff : ((verdict c s f).late && (c.trig f).traceOff) = false := by
    cases hl : (verdict c s f).late with
    | false => rfl
    | true =>
      have := enAfter_of_late c s f hl hn
      cases hto : (c.trig f).traceOff with
      | false => rfl
      | true => simp [enAfter, hto] at this
  refine ⟨?_, ?_, ?_, Verdict.norecord_eq _ hn⟩
  · cases hl : (verdict c s f).late with
    | false => simp [fsEntry, hl]
    | true => simp [fsEntry, hl, enAfter_of_late c s f hl hn]
  · simp only [fsEntry, hoff, Bool.false_eq_true, ↓reduceIte]
    by_cases ha : verdict c s f = .accept <;> simp [ha]
  · simp only [fsEntry, hoff, Bool.false_eq_true, ↓reduceIte]
    by_cases ha : verdict c s f = .accept <;> simp [ha]

/-! ### fstack_exit undoes fstack_entry -/

/-- `s1` is `s` with the call of slot `fr` open on top: the counts and the stack are those fstack_entry left,
    whatever it did to filter.depth, the switch and the display depth, and whatever balanced stretch of
    records was read since -/
structure Entered (s s1 : FS) (fr : Fr) : Prop where
  inC : s1.inCount = (if fr.filtered then s.inCount + 1 else s.inCount)
  outC : s1.outCount = (if !fr.filtered && fr.notrace then s.outCount + 1 else s.outCount)
  stack : s1.stack = fr :: s.stack
  sc : s1.sc = s.sc + 1
  orig : fr.origDepth = s.depth

theorem entered_entry (c : RCfg) (s : FS) (r : Rec) (hs : s.scSet = true) (ht : r.type = 0) :
    Entered s (fsEntry c (account s r) r.addr).1 (entryFr c (account s r) r.addr) := by
  rw [account_entry s r hs ht]
  exact ⟨fsEntry_inCount c _ _, fsEntry_outCount c _ _, rfl, rfl, rfl⟩

theorem Entered.upd {s s1 : FS} {fr : Fr} (h : Entered s s1 fr) : Entered s (updEntry s1) fr :=
  ⟨h.inC, h.outC, h.stack, h.sc, h.orig⟩

theorem fsExit_entered (c : RCfg) {s s1 : FS} {fr : Fr} (h : Entered s s1 fr) (hs : s1.scSet = true) (r : Rec)
    (ht : r.type = 1) :
    fsExit c (account s1 r) =
      { s1 with inCount := s.inCount, outCount := s.outCount, depth := s.depth, stack := s.stack, sc := s.sc } := by
  rw [account_exit s1 r hs ht]
  simp only [fsExit, topFr, h.stack, h.inC, h.outC, h.sc, h.orig, List.head?_cons, Option.getD_some, List.tail_cons,
    Nat.add_sub_cancel]
  cases fr.filtered <;> cases fr.notrace <;> rfl

theorem fsExit_updExit (c : RCfg) (s : FS) : fsExit c (updExit s) = updExit (fsExit c s) := rfl

theorem exitStep_fst (c : RCfg) (s : FS) (r : Rec) (q : Bool) :
    (exitStep c s r q).1 = (if (topFr c s).norecord || !s.enabled then fsExit c s else updExit (fsExit c s)) := by
  unfold exitStep
  split <;> rfl

/-! ### the report / graph / dump loop, filter state only -/

/-- the filter state proper: counts, remaining depth, the open calls' saved values and flags -/
structure Core where
  inCount : Nat
  outCount : Nat
  depth : Nat
  stack : List Fr
  sc : Nat
  deriving DecidableEq

def FS.core (s : FS) : Core :=
  { inCount := s.inCount, outCount := s.outCount, depth := s.depth, stack := s.stack, sc := s.sc }

theorem Entered.of_core {s s1 s2 : FS} {fr : Fr} (h : Entered s s1 fr) (hc : s2.core = s1.core) : Entered s s2 fr := by
  have h1 := congrArg Core.inCount hc
  have h2 := congrArg Core.outCount hc
  have h4 := congrArg Core.stack hc
  have h5 := congrArg Core.sc hc
  exact ⟨h1.trans h.inC, h2.trans h.outC, h4.trans h.stack, h5.trans h.sc, h.orig⟩

theorem entered_stepA (c : RCfg) (s : FS) (r : Rec) (hs : s.scSet = true) (ht : r.type = 0) :
    Entered s (stepA c s r).1 (entryFr c (account s r) r.addr) ∧ (stepA c s r).1.scSet = true := by
  have h := entered_entry c s r hs ht
  have hsc : (fsEntry c (account s r) r.addr).1.scSet = true := by rw [account_entry s r hs ht]; exact hs
  simp only [stepA, ht, ↓reduceIte]
  split
  · exact ⟨h.upd, hsc⟩
  · exact ⟨h, hsc⟩

theorem stepA_exit_core (c : RCfg) {s s1 : FS} {fr : Fr} (h : Entered s s1 fr) (hs : s1.scSet = true) (r : Rec)
    (ht : r.type = 1) : (stepA c s1 r).1.core = s.core ∧ (stepA c s1 r).1.scSet = true := by
  have hx : (stepA c s1 r).1 = (exitStep c (account s1 r) r (isPlt c r)).1 := by simp [stepA, ht]
  rw [hx, exitStep_fst, fsExit_entered c h hs r ht]
  split <;> exact ⟨rfl, hs⟩

/-- final state of the report/graph/dump loop -/
def endA (c : RCfg) (s : FS) (rs : List Rec) : FS := (run (stepA c) s rs).1

theorem endA_append (c : RCfg) (s : FS) (a b : List Rec) : endA c s (a ++ b) = endA c (endA c s a) b := by
  simp [endA, run_append]

theorem endA_cons (c : RCfg) (s : FS) (r : Rec) (rs : List Rec) :
    endA c s (r :: rs) = endA c (stepA c s r).1 rs := rfl

theorem endA_nil (c : RCfg) (s : FS) : endA c s [] = s := rfl

mutual
theorem restoredA_call (c : RCfg) : ∀ (x : Call) (d : Nat) (s : FS), s.scSet = true →
    (endA c s (evCall d x)).core = s.core ∧ (endA c s (evCall d x)).scSet = true
  | .node f t0 t1 kids, d, s, hs => by
    obtain ⟨h1, h2⟩ := entered_stepA c s { time := t0, type := 0, depth := d, addr := f } hs rfl
    obtain ⟨k1, k2⟩ := restoredA_calls c kids (d + 1) _ h2
    simp only [evCall, endA_append, List.singleton_append, endA_cons, endA_nil]
    exact stepA_exit_core c (h1.of_core k1) k2 _ rfl
theorem restoredA_calls (c : RCfg) : ∀ (xs : Calls) (d : Nat) (s : FS), s.scSet = true →
    (endA c s (evCalls d xs)).core = s.core ∧ (endA c s (evCalls d xs)).scSet = true
  | .nil, d, s, hs => ⟨rfl, hs⟩
  | .cons x rest, d, s, hs => by
    obtain ⟨h1, h2⟩ := restoredA_call c x d s hs
    obtain ⟨r1, r2⟩ := restoredA_calls c rest d _ h2
    simp only [evCalls, endA_append]
    exact ⟨r1.trans h1, r2⟩
end

end Uft.Fstack

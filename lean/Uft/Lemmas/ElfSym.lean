import Uft.Model.ElfSym
import Uft.Lemmas.SymFile
/- Helper lemmas for C10: tables built from ELF files (filter, sort, de-duplication, merge). -/
namespace Uft.ElfSym
open Uft.Symtab Uft.SymFile

/-! ### the entry filter -/

theorem loadSymbols_mem (off : Nat) (es : List ESym) (prev : Nat) (s : Sym)
    (h : s ∈ loadSymbols off prev es) : ∃ e ∈ es, accepts e = true ∧ s = toSym off e := by
  induction es generalizing prev with
  | nil => simp [loadSymbols] at h
  | cons e r ih =>
    simp only [loadSymbols] at h
    split at h
    · rename_i hc
      rcases List.mem_cons.mp h with e1 | e1
      · exact ⟨e, by simp, hc.1, e1⟩
      · obtain ⟨e', he', ha, hs⟩ := ih _ e1
        exact ⟨e', by simp [he'], ha, hs⟩
    · obtain ⟨e', he', ha, hs⟩ := ih _ h
      exact ⟨e', by simp [he'], ha, hs⟩

/-- every accepted ELF entry has a symbol at its address ("skip aliases" only drops an entry
    whose value is that of the entry accepted right before it) -/
theorem loadSymbols_covers (off : Nat) (es : List ESym) (prev : Nat) (e : ESym)
    (he : e ∈ es) (ha : accepts e = true) :
    e.value = prev ∨ ∃ s ∈ loadSymbols off prev es, s.addr = (e.value + off) % U64 := by
  induction es generalizing prev with
  | nil => simp at he
  | cons e0 r ih =>
    simp only [loadSymbols]
    rcases List.mem_cons.mp he with e1 | e1
    · subst e1
      by_cases hp : prev = e.value
      · exact Or.inl hp.symm
      · right
        rw [if_pos ⟨ha, hp⟩]
        exact ⟨toSym off e, by simp, rfl⟩
    · split
      · rcases ih e0.value e1 with h | ⟨s, hs, hs'⟩
        · right
          exact ⟨toSym off e0, by simp, by simp [toSym, h]⟩
        · right
          exact ⟨s, by simp [hs], hs'⟩
      · rcases ih prev e1 with h | ⟨s, hs, hs'⟩
        · exact Or.inl h
        · exact Or.inr ⟨s, hs, hs'⟩

/-! ### the duplicate-removing loop -/

/-- strictly increasing addresses -/
def StrictSorted (l : List Sym) : Prop := l.Pairwise (fun a b => a.addr < b.addr)

instance (l : List Sym) : Decidable (StrictSorted l) := by unfold StrictSorted; infer_instance

theorem bestName_cases (b n : List Char) : bestName b n = b ∨ bestName b n = n := by
  unfold bestName; split <;> simp

theorem dedupRun_mem (cur : Sym) (best : List Char) (l : List Sym) (r : Sym)
    (h : r ∈ dedupRun cur best l) :
    (∃ x ∈ cur :: l, r.addr = x.addr ∧ r.size = x.size ∧ r.type = x.type) ∧
    ((r.addr = cur.addr ∧ r.name = best) ∨ ∃ y ∈ l, r.addr = y.addr ∧ r.name = y.name) := by
  induction l generalizing cur best with
  | nil =>
    simp only [dedupRun, List.mem_singleton] at h
    subst h
    exact ⟨⟨cur, by simp, rfl, rfl, rfl⟩, Or.inl ⟨rfl, rfl⟩⟩
  | cons y l ih =>
    simp only [dedupRun] at h
    split at h
    · rename_i heq
      obtain ⟨⟨x, hx, hx'⟩, hn⟩ := ih y _ h
      refine ⟨⟨x, List.mem_cons_of_mem _ hx, hx'⟩, ?_⟩
      rcases hn with ⟨ha, hb⟩ | ⟨z, hz, hz'⟩
      · rcases bestName_cases best y.name with e | e
        · exact Or.inl ⟨ha.trans heq.symm, hb.trans e⟩
        · exact Or.inr ⟨y, by simp, ha, hb.trans e⟩
      · exact Or.inr ⟨z, by simp [hz], hz'⟩
    · rcases List.mem_cons.mp h with e | e
      · subst e
        exact ⟨⟨cur, by simp, rfl, rfl, rfl⟩, Or.inl ⟨rfl, rfl⟩⟩
      · obtain ⟨⟨x, hx, hx'⟩, hn⟩ := ih y _ e
        refine ⟨⟨x, List.mem_cons_of_mem _ hx, hx'⟩, Or.inr ?_⟩
        rcases hn with ⟨ha, hb⟩ | ⟨z, hz, hz'⟩
        · exact ⟨y, by simp, ha, hb⟩
        · exact ⟨z, by simp [hz], hz'⟩

theorem dedupRun_ge (cur : Sym) (best : List Char) (l : List Sym)
    (hs : AddrSorted (cur :: l)) (r : Sym) (h : r ∈ dedupRun cur best l) : cur.addr ≤ r.addr := by
  obtain ⟨⟨x, hx, hx', _⟩, _⟩ := dedupRun_mem cur best l r h
  rcases List.mem_cons.mp hx with e | e
  · subst e; omega
  · have := (List.pairwise_cons.mp hs).1 x e; omega

theorem dedupRun_strict (cur : Sym) (best : List Char) (l : List Sym)
    (hs : AddrSorted (cur :: l)) : StrictSorted (dedupRun cur best l) := by
  induction l generalizing cur best with
  | nil => simp [dedupRun, StrictSorted]
  | cons y l ih =>
    have hy : AddrSorted (y :: l) := (List.pairwise_cons.mp hs).2
    have hcy : cur.addr ≤ y.addr := (List.pairwise_cons.mp hs).1 y (by simp)
    simp only [dedupRun]
    split
    · exact ih y _ hy
    · rename_i hne
      refine List.pairwise_cons.mpr ⟨?_, ih y _ hy⟩
      intro r hr
      have := dedupRun_ge y y.name l hy r hr
      show cur.addr < r.addr
      omega

theorem dedupRun_covers (cur : Sym) (best : List Char) (l : List Sym) (x : Sym)
    (hx : x ∈ cur :: l) : ∃ r ∈ dedupRun cur best l, r.addr = x.addr := by
  induction l generalizing cur best x with
  | nil =>
    simp only [List.mem_singleton] at hx
    subst hx
    exact ⟨{ x with name := best }, by simp [dedupRun], rfl⟩
  | cons y l ih =>
    simp only [dedupRun]
    split
    · rename_i heq
      rcases List.mem_cons.mp hx with e | e
      · subst e
        obtain ⟨r, hr, hr'⟩ := ih y (bestName best y.name) y (by simp)
        exact ⟨r, hr, by omega⟩
      · exact ih y _ x e
    · rcases List.mem_cons.mp hx with e | e
      · subst e
        exact ⟨{ x with name := best }, by simp, rfl⟩
      · obtain ⟨r, hr, hr'⟩ := ih y y.name x e
        exact ⟨r, by simp [hr], hr'⟩

theorem dedup_strict (t : List Sym) (hs : AddrSorted t) : StrictSorted (dedup t) := by
  cases t with
  | nil => simp [dedup, StrictSorted]
  | cons x r => exact dedupRun_strict x x.name r hs

theorem dedup_mem (t : List Sym) (r : Sym) (h : r ∈ dedup t) :
    (∃ x ∈ t, r.addr = x.addr ∧ r.size = x.size ∧ r.type = x.type) ∧
    (∃ y ∈ t, r.addr = y.addr ∧ r.name = y.name) := by
  cases t with
  | nil => simp [dedup] at h
  | cons x l =>
    obtain ⟨h1, h2⟩ := dedupRun_mem x x.name l r h
    refine ⟨h1, ?_⟩
    rcases h2 with ⟨ha, hb⟩ | ⟨y, hy, hy'⟩
    · exact ⟨x, by simp, ha, hb⟩
    · exact ⟨y, by simp [hy], hy'⟩

theorem dedup_covers (t : List Sym) (x : Sym) (hx : x ∈ t) : ∃ r ∈ dedup t, r.addr = x.addr := by
  cases t with
  | nil => simp at hx
  | cons y l => exact dedupRun_covers y y.name l x hx

/-! ### `sort_symtab` -/

theorem sortSymtab_strict (t : List Sym) : StrictSorted (sortSymtab t) :=
  dedup_strict _ (sortByAddr_sorted t)

theorem sortSymtab_mem (t : List Sym) (r : Sym) (h : r ∈ sortSymtab t) :
    (∃ x ∈ t, r.addr = x.addr ∧ r.size = x.size ∧ r.type = x.type) ∧
    (∃ y ∈ t, r.addr = y.addr ∧ r.name = y.name) := by
  obtain ⟨⟨x, hx, hx'⟩, ⟨y, hy, hy'⟩⟩ := dedup_mem _ r h
  exact ⟨⟨x, (sortByAddr_perm t).mem_iff.mp hx, hx'⟩, ⟨y, (sortByAddr_perm t).mem_iff.mp hy, hy'⟩⟩

theorem sortSymtab_covers (t : List Sym) (x : Sym) (hx : x ∈ t) :
    ∃ r ∈ sortSymtab t, r.addr = x.addr :=
  dedup_covers _ x ((sortByAddr_perm t).mem_iff.mpr hx)

/-- entries of the raw table: symbols at the same address have the same size (true aliases),
    symbols at different addresses do not overlap, no address computation wraps -/
structure Clean (t : List Sym) : Prop where
  alias : ∀ x ∈ t, ∀ y ∈ t, x.addr = y.addr → x.size = y.size
  disj : ∀ x ∈ t, ∀ y ∈ t, x.addr < y.addr → x.addr + x.size ≤ y.addr
  nowrap : ∀ x ∈ t, x.addr + x.size < U64

theorem stop_eq_of_nowrap (x : Sym) (h : x.addr + x.size < U64) : x.stop = x.addr + x.size := by
  unfold Sym.stop; exact Nat.mod_eq_of_lt h

theorem sortSymtab_range (t : List Sym) (hc : Clean t) (r : Sym) (hr : r ∈ sortSymtab t)
    (x : Sym) (hx : x ∈ t) (ha : r.addr = x.addr) : r.stop = x.stop := by
  obtain ⟨⟨z, hz, hza, hzs, _⟩, _⟩ := sortSymtab_mem t r hr
  have hsz : z.size = x.size := hc.alias z hz x hx (by omega)
  have hnw := hc.nowrap x hx
  unfold Sym.stop
  rw [ha, hzs, hsz]

theorem sortSymtab_wf (t : List Sym) (hc : Clean t) : WellFormed (sortSymtab t) := by
  unfold WellFormed
  have hs := sortSymtab_strict t
  unfold StrictSorted at hs
  rw [List.pairwise_iff_getElem] at hs ⊢
  intro i j hi hj hij
  have hlt := hs i j hi hj hij
  have hmi : (sortSymtab t)[i] ∈ sortSymtab t := List.getElem_mem hi
  have hmj : (sortSymtab t)[j] ∈ sortSymtab t := List.getElem_mem hj
  obtain ⟨⟨x, hx, hxa, _⟩, _⟩ := sortSymtab_mem t _ hmi
  obtain ⟨⟨y, hy, hya, _⟩, _⟩ := sortSymtab_mem t _ hmj
  have hstop := sortSymtab_range t hc _ hmi x hx hxa
  have hd := hc.disj x hx y hy (by omega)
  have hnw := stop_eq_of_nowrap x (hc.nowrap x hx)
  unfold Compat
  refine ⟨by omega, Or.inl ?_⟩
  rw [hstop, hnw]; omega

/-! ### `merge_symtabs` -/

theorem mergeSymtabs_wf (l r : List Sym) (hl : WellFormed l) (hr : WellFormed r)
    (hn : NoProperOverlap (l ++ r)) : WellFormed (mergeSymtabs l r) := by
  unfold mergeSymtabs
  split
  · exact hl
  · exact hr
  · split
    · exact wf_sort_of_noclash _ hn
    · exact wf_sort_of_noclash _ (noProperOverlap_perm List.perm_append_comm hn)

theorem mergeSymtabs_mem (l r : List Sym) (s : Sym) : s ∈ mergeSymtabs l r ↔ s ∈ l ∨ s ∈ r := by
  unfold mergeSymtabs
  split
  · simp
  · simp
  · split
    · rw [(sortByAddr_perm _).mem_iff, List.mem_append]
    · rw [(sortByAddr_perm _).mem_iff, List.mem_append]; exact or_comm

end Uft.ElfSym

/-
C07 — the definitions generated from utils/fstack.c by translators/c2lean.py
(`Uft.Gen.FstackC.fstack_entry`, `fstack_exit`, `fstack_update`) compute what the hand-written model
`Uft/Model/Fstack.lean` (`fsEntry`, `fsExit`, `updEntry`, `updExit`) computes.

The mapping between the generated field structure `St` (one field per C memory location, C `int` as `Int`)
and the model's state record `FS` (counters as `Nat`) is the relation `Rel`; the func_stack slot
(`fstack->flags`, `fstack->orig_depth`) corresponds to a model frame `Fr` by `SlotRel`.

What the hand model abstracts is explicit here, as hypotheses on the opaque callees (`EntryEnv`):
  * `uftrace_match_filter` on the session's filter tree leaves in `*tr` an encoding (`TrEnc`) of the model's
    `Trigger` value `c.trig addr` and of the hide flag `c.hide addr` — pattern matching itself is not modelled;
  * no fix-up symbol matches (the model leaves the exec/setjmp/longjmp/fork fix-ups out);
  * the record is a user record of a known session (`is_kernel_record` false, `find_task_session` non-NULL);
  * the func_stack slot exists (`fstack_get` non-NULL: the model does not cover streams deeper than max_stack).
The model counts in `Nat` where the C code counts in `int`: `fstack_exit` is equivalent on states where the
counter it decrements is positive (hypotheses `hin`, `hout`) — on other states C goes to -1, the model stays 0.
This file has the mapping and `fstack_entry`; `fstack_exit`, `fstack_update` and what `fstack_entry` leaves alone are
proved in `Uft/Props/C07Gen.lean`.
-/
import Uft.Model.Fstack
import Uft.Gen.FstackC
import Uft.Lemmas.CommonGenEq
namespace Uft.FstackGenEq
open Uft.Fstack Uft.Gen.C Uft.Gen.FstackC Uft.GenEq
open Uft.Mcount (Trigger)

theorem isIn_eq (t : Trigger) : isIn t = (t.filter == some true) := rfl

/-- the value of a `depth=` trigger (0 when there is none) -/
def optVal : Option Nat → Nat
  | some d => d
  | none => 0

theorem getD_eq (o : Option Nat) (x : Nat) : o.getD x = if o.isSome then optVal o else x := by
  cases o <;> simp [optVal]

/-- how `struct uftrace_trigger` (as left by uftrace_match_filter) encodes the model's `Trigger` value and the
    hide flag: every test fstack_entry makes on `tr->flags`, `tr->fmode`, `tr->lmode`, `tr->depth` has the
    outcome the model reads off the `Trigger`.  The numerals are the values of TRIGGER_FL_FILTER, _LOC, _DEPTH,
    _TRACE_ON, _TRACE_OFF, _HIDE, FILTER_MODE_IN and FILTER_MODE_OUT as they appear in the generated file. -/
structure TrEnc (t : Trigger) (hide : Bool) (flags fmode lmode : Nat) (depth : Int) : Prop where
  filter : ((flags &&& 2) != 0) = t.filter.isSome
  fmode : t.filter.isSome → (fmode == 1) = (t.filter == some true)
  loc : ((flags &&& 262144) != 0) = t.loc.isSome
  lmode : t.loc.isSome → (lmode == 2) = (t.loc == some false)
  depthF : ((flags &&& 1) != 0) = t.depth.isSome
  depthV : t.depth.isSome → depth = ((optVal t.depth : Nat) : Int)
  traceOn : ((flags &&& 16) != 0) = t.traceOn
  traceOff : ((flags &&& 32) != 0) = t.traceOff
  hide : ((flags &&& 131072) != 0) = hide

/-- the model's reader state `fs` (options `c`) and the generated field structure `s` describe the same state -/
structure Rel (c : RCfg) (fs : FS) (s : St) : Prop where
  inC : s.task_filter_in_count = (fs.inCount : Int)
  outC : s.task_filter_out_count = (fs.outCount : Int)
  depth : s.task_filter_depth = (fs.depth : Int)
  sc : s.task_stack_count = (fs.sc : Int)
  en : s.fstack_enabled = fs.enabled
  dd : s.task_display_depth = (fs.dispDepth : Int)
  dset : s.task_display_depth_set = fs.dispSet
  hdepth : s.task_h_depth = (c.depthOpt : Int)
  optIn : decide (s.fstack_triggers_filter_count > 0) = c.optIn
  locIn : decide (s.fstack_triggers_loc_count > 0) = c.locIn

/-- the func_stack slot `*fstack` holds the model frame `fr` (numerals: FSTACK_FL_FILTERED, _NOTRACE, _NORECORD) -/
structure SlotRel (fr : Fr) (s : St) : Prop where
  orig : s.fstack_orig_depth = (fr.origDepth : Int)
  filtered : ((s.fstack_flags &&& 1) != 0) = fr.filtered
  notrace : ((s.fstack_flags &&& 2) != 0) = fr.notrace
  norecord : ((s.fstack_flags &&& 4) != 0) = fr.norecord

theorem rel_iff (c : RCfg) (fs : FS) (s : St) : Rel c fs s ↔
    (s.task_filter_in_count = (fs.inCount : Int) ∧ s.task_filter_out_count = (fs.outCount : Int) ∧
     s.task_filter_depth = (fs.depth : Int) ∧ s.task_stack_count = (fs.sc : Int) ∧ s.fstack_enabled = fs.enabled ∧
     s.task_display_depth = (fs.dispDepth : Int) ∧ s.task_display_depth_set = fs.dispSet ∧
     s.task_h_depth = (c.depthOpt : Int) ∧ decide (s.fstack_triggers_filter_count > 0) = c.optIn ∧
     decide (s.fstack_triggers_loc_count > 0) = c.locIn) :=
  ⟨fun ⟨a, b, c, d, e, g, h, i, j, k⟩ => ⟨a, b, c, d, e, g, h, i, j, k⟩,
   fun ⟨a, b, c, d, e, g, h, i, j, k⟩ => ⟨a, b, c, d, e, g, h, i, j, k⟩⟩

theorem slotRel_iff (fr : Fr) (s : St) : SlotRel fr s ↔
    (s.fstack_orig_depth = (fr.origDepth : Int) ∧ ((s.fstack_flags &&& 1) != 0) = fr.filtered ∧
     ((s.fstack_flags &&& 2) != 0) = fr.notrace ∧ ((s.fstack_flags &&& 4) != 0) = fr.norecord) :=
  ⟨fun ⟨a, b, c, d⟩ => ⟨a, b, c, d⟩, fun ⟨a, b, c, d⟩ => ⟨a, b, c, d⟩⟩

/-- `verdict` with its tests in the form and order fstack_entry makes them on a state related by `Rel` to `s` and a
    `*tr` that encodes the trigger: the counters as C `int`s, the filter and location flags before their modes, the
    depth that the FILTER and DEPTH updates leave in `task->filter.depth`.  The `return`s of fstack_entry, in source
    order, are the constructors of `Verdict`. -/
theorem verdict_eq (c : RCfg) (s : FS) (a : Nat) : verdict c s a =
    if decide ((s.outCount : Int) > 0) = true then .outRegion
    else if (c.trig a).filter.isSome = true ∧ ¬((c.trig a).filter == some true) = true then .notrace
    else if ¬(c.trig a).filter.isSome = true ∧ (c.optIn && (s.inCount : Int) == 0) = true then .optOut
    else if ((c.trig a).loc.isSome = true ∧ ((c.trig a).loc == some false) = true) ∨
        (¬(c.trig a).loc.isSome = true ∧ c.locIn = true) then .locOut
    else if (!if (c.trig a).traceOff = true then false
        else if (c.trig a).traceOn = true then true else s.enabled) = true then .traceOff
    else if (decide ((if (c.trig a).depth.isSome = true then ((optVal (c.trig a).depth : Nat) : Int)
          else if (c.trig a).filter.isSome = true ∧ ((c.trig a).filter == some true) = true then (c.depthOpt : Int)
          else (s.depth : Int)) ≤ 0) || c.hide a) = true then .depthOut
    else .accept := by
  rcases hf : (c.trig a).filter with _ | _ | _ <;> rcases hl : (c.trig a).loc with _ | _ | _ <;>
    simp [verdict, isIn, locReject, enAfter, depthAfter, getD_eq, hf, hl, ← apply_ite (Nat.cast (R := Int))]

/-- without a slot (`fstack_get` returns NULL) `fstack_exit` does nothing -/
theorem fstack_exit_noslot (o : Oracles) (task : Ptr) (s : St)
    (hget : (o.fstack_get "fstack_exit:1" task s.task_stack_count {}).1 = Ptr.null) :
    fstack_exit o task s = s := by
  unfold fstack_exit
  simp [Id.run, hget, pure]

/-- assumptions on the opaque callees of fstack_entry (see the head of this file) -/
structure EntryEnv (c : RCfg) (o : Oracles) (task rstack tr : Ptr) (s : St) : Prop where
  slot : (o.fstack_get "fstack_entry:1" task (s.task_stack_count - 1) {}).1 ≠ Ptr.null
  user : o.is_kernel_record "fstack_entry:3" task rstack = false
  sess : ∀ p q t, o.find_task_session "fstack_entry:2" p q t ≠ Ptr.null
  nofix : ∀ p w, o.uftrace_match_filter "fstack_entry:5" s.rstack_addr p tr w = (Ptr.null, w)
  trig : ∀ p w, TrEnc (c.trig s.rstack_addr) (c.hide s.rstack_addr)
          (o.uftrace_match_filter "fstack_entry:12" s.rstack_addr p tr w).2.tr_flags
          (o.uftrace_match_filter "fstack_entry:12" s.rstack_addr p tr w).2.tr_fmode
          (o.uftrace_match_filter "fstack_entry:12" s.rstack_addr p tr w).2.tr_lmode
          (o.uftrace_match_filter "fstack_entry:12" s.rstack_addr p tr w).2.tr_depth

/-- `fstack_entry` on a state related to `fs` gives a state related to `(fsEntry c fs addr).1`, returns 0 exactly
    when the model accepts the record, and leaves in the slot the frame the model pushes. -/
theorem fstack_entry_eq (c : RCfg) (o : Oracles) (task rstack tr : Ptr) (s : St) (fs : FS)
    (hr : Rel c fs s) (he : EntryEnv c o task rstack tr s) :
    Rel c (fsEntry c fs s.rstack_addr).1 (fstack_entry o task rstack tr s).1 ∧
    ((fstack_entry o task rstack tr s).2 == 0) = (fsEntry c fs s.rstack_addr).2 ∧
    SlotRel (topFr c (fsEntry c fs s.rstack_addr).1) (fstack_entry o task rstack tr s).1 := by
  obtain ⟨h1, h2, h3, h4, h5, h6, h7, h8, h9, h10⟩ := hr
  obtain ⟨e1, e2, e3, e4, e5⟩ := he
  generalize hw : (o.uftrace_match_filter "fstack_entry:12" s.rstack_addr
      (Ptr.fld (o.find_task_session "fstack_entry:2" (Ptr.fld s.task_h "sessions") s.task_t s.rstack_time) "filters") tr
      { tr_depth := s.tr_depth, tr_flags := s.tr_flags, tr_fmode := s.tr_fmode, tr_lmode := s.tr_lmode }).2 = w
  have tw : TrEnc (c.trig s.rstack_addr) (c.hide s.rstack_addr) w.tr_flags w.tr_fmode w.tr_lmode w.tr_depth :=
    hw ▸ e5 _ _
  generalize hres : fstack_entry o task rstack tr s = r
  unfold fstack_entry fstack_get_filter_mode fstack_get_loc_mode at hres
  simp only [Id.run, pure, beq_eq_false_iff_ne.2 e1, e2, fun p q t => bne_iff_ne.2 (e3 p q t), e4, hw, tw.filter,
    tw.loc, tw.depthF, tw.traceOn, tw.traceOff, tw.hide, Bool.false_eq_true, ↓reduceIte, Bool.not_true,
    Bool.not_false, bne_self_eq_false, Bool.false_and, Bool.and_false] at hres
  simp only [h1, h2, h3, h4, h5, h6, h7, h8, h9, h10, mode_eq, ite_then_congr tw.depthV] at hres
  -- one goal per `return`; the facts about `*tr` that hold once its flag is known are specialised on the way
  repeat' ((replace hres := ite_eq_elim hres; rcases hres with ⟨hc, hres⟩ | ⟨hc, hres⟩) <;>
    (try simp only [tw.fmode hc] at hres) <;> (try simp only [tw.lmode hc] at hres))
  all_goals subst hres
  -- the tests passed and failed on the way to a `return` are those of `verdict_eq` up to the constructor for that
  -- `return`; with the verdict known, `fsEntry` is a record of the same updates
  all_goals (
    clear e3 e4 e5 tw hw
    simp only [fsEntry, verdict_eq, *, and_true, not_true_eq_false, not_false_eq_true, false_and, and_false,
      or_false, or_true, Bool.false_eq_true, ↓reduceIte, depthAfter, enAfter, isIn_eq, topFr,
      getD_eq, Verdict.matched, Verdict.late, Verdict.norecord]
    simp [rel_iff, slotRel_iff, apply_ite (Nat.cast (R := Int)), *] <;> grind)

/-! ### the hypotheses can be met: for every trigger table there are opaque callees as assumed -/

/-- an encoding of a `Trigger` value and the hide flag in `tr->flags` / `fmode` / `lmode` / `depth` -/
def encW (t : Trigger) (hide : Bool) : W_uftrace_match_filter :=
  { tr_flags := (if t.filter.isSome then 2 else 0) ||| (if t.loc.isSome then 262144 else 0) |||
                (if t.depth.isSome then 1 else 0) ||| (if t.traceOn then 16 else 0) |||
                (if t.traceOff then 32 else 0) ||| (if hide then 131072 else 0)
    tr_fmode := match t.filter with | some true => 1 | some false => 2 | none => 0
    tr_lmode := match t.loc with | some true => 1 | some false => 2 | none => 0
    tr_depth := (optVal t.depth : Nat) }

theorem trEnc_encW (t : Trigger) (hide : Bool) :
    TrEnc t hide (encW t hide).tr_flags (encW t hide).tr_fmode (encW t hide).tr_lmode (encW t hide).tr_depth := by
  -- a flag test distributes over the `|||` of `encW` and lands on the numerals
  constructor <;> simp only [encW, or_and_ne, ite_and_ne]
  case fmode => rcases t.filter with _ | _ | _ <;> simp
  case lmode => rcases t.loc with _ | _ | _ <;> simp
  all_goals simp

/-- opaque callees that behave as `EntryEnv` assumes, for the trigger table of `c` -/
def demoOracles (c : RCfg) : Oracles :=
  { find_task_session := fun _ _ _ _ => Ptr.obj 2
    fstack_get := fun _ _ _ w => (Ptr.obj 1, w)
    get_kernel_address := fun _ _ a => a
    is_kernel_record := fun _ _ _ => false
    strcmp := fun _ _ _ => 1
    strncmp := fun _ _ _ _ => 1
    strstr := fun _ _ _ => Ptr.null
    uftrace_match_filter := fun site a _ _ w =>
      if site = "fstack_entry:12" then (Ptr.null, encW (c.trig a) (c.hide a)) else (Ptr.null, w) }

theorem entryEnv_demo (c : RCfg) (task rstack tr : Ptr) (s : St) :
    EntryEnv c (demoOracles c) task rstack tr s := by
  constructor
  · simp [demoOracles]
  · rfl
  · intro p q t; simp [demoOracles]
  · intro p w; simp [demoOracles]
  · intro p w; simpa [demoOracles] using trEnc_encW (c.trig s.rstack_addr) (c.hide s.rstack_addr)

end Uft.FstackGenEq

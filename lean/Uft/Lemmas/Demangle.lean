import Uft.Model.Demangle
/-!
# C13 — lemmas about the demangler model

A small Hoare-style framework (`Tri e st m Q`: from state `st` the computation `m`
returns normally with a result and state satisfying `Q`).  The states are followed through
`pos`, `len` and `expected` only (`At`); there is one rule per primitive, and one notion of
summary (`Summ`) for the leaf grammar functions here and for the grammar functions in
`DemangleSpec.lean`, where it is proved of all of them by induction on the fuel.
-/
namespace Uft.Demangle
open Uft.Gen.DemangleTables

/-! ## the monad -/

theorem bind_def {α β} (m : M α) (f : α → M β) (e : Env) (st : St) :
    (m >>= f) e st = match m e st with
      | .ok a st' => f a e st'
      | .crash k => .crash k
      | .fuel => .fuel := rfl

theorem pure_def {α} (a : α) (e : Env) (st : St) : (pure a : M α) e st = .ok a st := rfl

/-- `dd->expected != NULL` as a number (for `omega`) -/
def exN (st : St) : Nat := if st.expected then 1 else 0

theorem exN_le (st : St) : exN st ≤ 1 := by unfold exN; split <;> omega

theorem exN_eq_of {st st' : St} (h : st'.expected = st.expected) : exN st' = exN st := by
  simp [exN, h]

/-- The byte at `dd->len` is the NUL or the `.`/`@` at which `dd_encoding` cut the name. -/
def Stop (e : Env) (l : Nat) : Prop := l = e.n ∨ e.rd l = some 46 ∨ e.rd l = some 64

theorem rd_n (e : Env) : e.rd e.n = some 0 := by simp [Env.rd, Env.n]

theorem rd_le {e : Env} {i : Nat} {c : UInt8} (h : e.rd i = some c) : i ≤ e.n := by
  unfold Env.rd at h
  unfold Env.n
  split at h
  · omega
  · split at h
    · omega
    · cases h

theorem rd_some_of_le (e : Env) {i : Nat} (h : i ≤ e.n) : ∃ c, e.rd i = some c := by
  unfold Env.rd Env.n at *
  by_cases h1 : i < e.s.size
  · exact ⟨e.s[i], by simp [h1]⟩
  · have : i = e.s.size := by omega
    exact ⟨0, by simp [this]⟩

theorem rd_lt {e : Env} {i : Nat} {c : UInt8} (h : e.rd i = some c) (hc : c.toNat ≠ 0) : i < e.n := by
  have h1 := rd_le h
  by_cases h2 : i = e.n
  · subst h2
    rw [rd_n] at h
    cases h
    simp at hc
  · omega

theorem stop_strict {e : Env} {l i : Nat} {c : UInt8} (hs : Stop e l) (h : e.rd i = some c) (hi : i ≤ l)
    (h0 : c.toNat ≠ 0) (h1 : c.toNat ≠ 46) (h2 : c.toNat ≠ 64) : i < l := by
  by_cases hil : i = l
  · subst hil
    rcases hs with hs | hs | hs
    · subst hs
      rw [rd_n] at h
      cases h
      simp at h0
    · rw [hs] at h
      cases h
      simp at h1
    · rw [hs] at h
      cases h
      simp at h2
  · omega

/-! ## triples -/

def Tri {α} (e : Env) (st : St) (m : M α) (Q : α → St → Prop) : Prop :=
  ∃ a st', m e st = .ok a st' ∧ Q a st'

theorem tri_pure {α} {e : Env} {st : St} {Q : α → St → Prop} {a : α} (h : Q a st) : Tri e st (pure a) Q :=
  ⟨a, st, rfl, h⟩

theorem tri_bind {α β} {e : Env} {st : St} {m : M α} {f : α → M β} {Q : β → St → Prop}
    (h : Tri e st m (fun a st' => Tri e st' (f a) Q)) : Tri e st (m >>= f) Q := by
  obtain ⟨a, st', hm, b, st'', hf, hq⟩ := h
  exact ⟨b, st'', by rw [bind_def, hm]; exact hf, hq⟩

theorem tri_mono {α} {e : Env} {st : St} {m : M α} {Q Q' : α → St → Prop}
    (h : Tri e st m Q) (hq : ∀ a st', Q a st' → Q' a st') : Tri e st m Q' := by
  obtain ⟨a, st', hm, h⟩ := h
  exact ⟨a, st', hm, hq _ _ h⟩

theorem tri_ite {α} {e : Env} {st : St} {c : Prop} [Decidable c] {A B : M α} {Q : α → St → Prop}
    (hT : c → Tri e st A Q) (hF : ¬c → Tri e st B Q) : Tri e st (if c then A else B) Q := by
  by_cases h : c
  · simpa [h] using hT h
  · simpa [h] using hF h

/-- `if (ret < 0)`: both branches in the form `omega` reads -/
theorem tri_if_neg {α} {e : Env} {st : St} {r : Int} {A B : M α} {Q : α → St → Prop} (hT : r < 0 → Tri e st A Q)
    (hF : 0 ≤ r → Tri e st B Q) : Tri e st (if r < 0 then A else B) Q :=
  tri_ite hT fun h => hF (Int.not_lt.1 h)

/-- `if (c == 'x')` -/
theorem tri_if_byte {α} {e : Env} {st : St} {c : UInt8} {n : Nat} {A B : M α} {Q : α → St → Prop}
    (hT : c = OfNat.ofNat n → Tri e st A Q) (hF : ¬c = OfNat.ofNat n → Tri e st B Q) :
    Tri e st (if (c == OfNat.ofNat n) = true then A else B) Q :=
  tri_ite (fun h => hT (eq_of_beq h)) fun h => hF fun hc => h (by rw [hc]; exact beq_self_eq_true _)

theorem tri_eof {e : Env} {st : St} {Q : Bool → St → Prop} (h : Q (decide (st.pos ≥ st.len)) st) : Tri e st eof Q :=
  ⟨_, st, rfl, h⟩

theorem tri_getSt {e : Env} {st : St} {Q : St → St → Prop} (h : Q st st) : Tri e st getSt Q := ⟨st, st, rfl, h⟩
theorem tri_getEnv {e : Env} {st : St} {Q : Env → St → Prop} (h : Q e st) : Tri e st getEnv Q := ⟨e, st, rfl, h⟩

theorem tri_modifySt {e : Env} {st : St} {f : St → St} {Q : Unit → St → Prop} (h : Q () (f st)) :
    Tri e st (modifySt f) Q := ⟨(), f st, rfl, h⟩

/-- `dd->old[i]` with `i ≤ strlen` -/
theorem tri_rdAt {e : Env} {st : St} {Q : UInt8 → St → Prop} (i : Nat) (hi : i ≤ e.n)
    (h : ∀ c, e.rd i = some c → Q c st) : Tri e st (rdAt i) Q := by
  obtain ⟨c, hc⟩ := rd_some_of_le e hi
  exact ⟨c, st, by simp [rdAt, hc], h c hc⟩

/-- `dd_peek(dd, k)` -/
theorem tri_peek {e : Env} {st : St} {Q : UInt8 → St → Prop} (k : Nat) (hl : st.len ≤ e.n) (hs : Stop e st.len)
    (h : ∀ c, (c.toNat = 0 ∨ (st.pos + k ≤ st.len ∧ (c.toNat = 46 ∨ c.toNat = 64)) ∨ st.pos + k < st.len) →
          (st.pos + k ≤ st.len → e.rd (st.pos + k) = some c) → Q c st) : Tri e st (peek k) Q := by
  unfold peek
  by_cases hk : st.pos + k > st.len
  · refine ⟨0, st, by simp [hk], h 0 (Or.inl rfl) (fun h => by omega)⟩
  · obtain ⟨c, hc⟩ := rd_some_of_le e (show st.pos + k ≤ e.n by omega)
    refine ⟨c, st, by simp [hk, hc], h c ?_ (fun _ => hc)⟩
    by_cases h0 : c.toNat = 0
    · exact Or.inl h0
    by_cases h1 : c.toNat = 46
    · exact Or.inr (Or.inl ⟨by omega, Or.inl h1⟩)
    by_cases h2 : c.toNat = 64
    · exact Or.inr (Or.inl ⟨by omega, Or.inr h2⟩)
    exact Or.inr (Or.inr (stop_strict hs hc (by omega) h0 h1 h2))

theorem tri_curr {e : Env} {st : St} {Q : UInt8 → St → Prop} (hl : st.len ≤ e.n) (hs : Stop e st.len)
    (h : ∀ c, (c.toNat = 0 ∨ c.toNat = 46 ∨ c.toNat = 64 ∨ st.pos < st.len) →
          (c.toNat ≠ 0 → e.rd st.pos = some c) → Q c st) : Tri e st curr Q :=
  tri_peek 0 hl hs fun c h1 h2 => h c (by omega) fun _ => h2 (by omega)

/-- `__dd_consume_n(dd, k)` -/
theorem tri_consumeN {e : Env} {st : St} {Q : UInt8 → St → Prop} (k : Nat) (hl : st.len ≤ e.n) (hs : Stop e st.len)
    (h : ∀ c st', st'.len = st.len → exN st' = exN st →
          ((st'.pos = st.pos ∧ st.pos + k > st.len ∧ c.toNat = 0) ∨
           (st'.pos = st.pos + k ∧ st.pos + k ≤ st.len ∧ e.rd st.pos = some c)) → Q c st') :
    Tri e st (consumeN k) Q := by
  unfold consumeN
  apply tri_bind
  apply tri_peek 0 hl hs
  intro c _ hc2
  apply tri_bind
  apply tri_getSt
  by_cases hk : st.pos + k > st.len
  · simp only [hk, ↓reduceIte]
    exact tri_pure (h 0 st rfl rfl (Or.inl ⟨rfl, hk, rfl⟩))
  · simp only [hk, ↓reduceIte]
    apply tri_bind
    apply tri_modifySt
    apply tri_pure
    exact h c _ rfl rfl (Or.inr ⟨rfl, by omega, hc2 (by omega)⟩)

theorem tri_consume {e : Env} {st : St} {Q : UInt8 → St → Prop} (hl : st.len ≤ e.n) (hs : Stop e st.len)
    (h : ∀ c st', st'.len = st.len → exN st' = exN st →
          ((st'.pos = st.pos ∧ st.pos + 1 > st.len ∧ c.toNat = 0) ∨
           (st'.pos = st.pos + 1 ∧ st.pos + 1 ≤ st.len ∧ e.rd st.pos = some c)) → Q c st') :
    Tri e st consume Q := tri_consumeN 1 hl hs h

/-- `dd->pos -= k` -/
theorem tri_posBack {e : Env} {st : St} {Q : Unit → St → Prop} (k : Nat) (hk : k ≤ st.pos)
    (h : Q () { st with pos := st.pos - k }) : Tri e st (posBack k) Q := by
  refine ⟨(), _, ?_, h⟩
  simp [posBack]
  omega

/-- `DD_DEBUG(dd, .., -k)` -/
theorem tri_ddDebug {e : Env} {st : St} {Q : Unit → St → Prop} (k : Nat) (hk : k ≤ st.pos)
    (h : ∀ st', st'.len = st.len → st'.pos = st.pos - k → exN st' = 1 → Q () st') : Tri e st (ddDebug k) Q := by
  unfold ddDebug
  apply tri_bind
  apply tri_posBack k hk
  apply tri_modifySt
  exact h _ rfl rfl (by simp [exN])

/-- `DD_DEBUG_CONSUME(dd, c)` -/
theorem tri_debugConsume {e : Env} {st : St} {Q : Bool → St → Prop} (c : UInt8) (hc : c.toNat ≠ 0)
    (hl : st.len ≤ e.n) (hs : Stop e st.len) (hp : 0 < st.pos ∨ st.pos < st.len ∨ exN st = 1)
    (h : ∀ b st', st'.len = st.len → exN st ≤ exN st' →
          (b = true → st'.pos = st.pos + 1 ∧ st.pos + 1 ≤ st.len ∧ exN st' = exN st ∧ e.rd st.pos = some c) →
          (b = false → exN st' = 1 ∧ st.pos ≤ st'.pos + (1 - exN st) ∧ st'.pos ≤ st.pos + 1 ∧
              (st'.pos = st.pos + 1 → st.pos + 1 ≤ st.len) ∧ (st.pos < st.len → st.pos ≤ st'.pos)) → Q b st') :
    Tri e st (debugConsume c) Q := by
  unfold debugConsume
  apply tri_bind
  apply tri_consume hl hs
  intro x st1 hl1 he1 hx
  split
  · -- matched
    rename_i hxc
    have hxc : x = c := by simpa using hxc
    subst hxc
    rcases hx with ⟨_, _, h0⟩ | ⟨hp1, hle, hrd⟩
    · exact absurd h0 hc
    · exact tri_pure (h true st1 hl1 (by omega) (fun _ => ⟨hp1, hle, he1, hrd⟩) (by simp))
  · apply tri_bind
    apply tri_getSt
    dsimp only
    by_cases hex : st1.expected = true
    · have h1 : exN st1 = 1 := by simp [exN, hex]
      simp only [hex, Bool.not_true, Bool.false_eq_true, ↓reduceIte]
      refine tri_pure (h false st1 hl1 (by omega) (by simp) (fun _ => ⟨h1, ?_, ?_, ?_, ?_⟩))
      · rcases hx with ⟨hp1, _, _⟩ | ⟨hp1, _, _⟩ <;> omega
      · rcases hx with ⟨hp1, _, _⟩ | ⟨hp1, _, _⟩ <;> omega
      · rcases hx with ⟨hp1, _, _⟩ | ⟨hp1, hh, _⟩ <;> omega
      · rcases hx with ⟨hp1, _, _⟩ | ⟨hp1, hh, _⟩ <;> omega
    · have hex' : st1.expected = false := by simpa using hex
      have h0 : exN st1 = 0 := by simp [exN, hex']
      simp only [hex', Bool.not_false, ↓reduceIte]
      apply tri_bind
      apply tri_posBack 1
      · rcases hx with ⟨hp1, hgt, _⟩ | ⟨hp1, _, _⟩
        · rcases hp with hp | hp | hp <;> omega
        · omega
      apply tri_bind
      apply tri_modifySt
      refine tri_pure (h false _ hl1 (by simp [exN]; exact exN_le _) (by simp) (fun _ => ⟨by simp [exN], ?_, ?_, ?_, ?_⟩))
      · simp only
        rcases hx with ⟨hp1, _, _⟩ | ⟨hp1, _, _⟩ <;> omega
      · simp only
        rcases hx with ⟨hp1, _, _⟩ | ⟨hp1, _, _⟩ <;> omega
      · simp only
        rcases hx with ⟨hp1, _, _⟩ | ⟨hp1, hh, _⟩ <;> omega
      · simp only
        rcases hx with ⟨hp1, _, _⟩ | ⟨hp1, hh, _⟩ <;> omega

/-! ## summary rules -/

/-- `st` seen through the three quantities the summaries speak of (`pos = p`, `len = l`, `expected != NULL` as `x`)
    together with the invariant: `len` and `pos` lie within the string and the byte at `len` is a stop byte.
    The rules below take one such fact for the state before and hand one for the state after to the continuation;
    a step that leaves a quantity alone keeps its variable, so what is known about it stays usable as it stands.
    `l0` and `x0` are bounds that no step breaks (`len` never grows, `expected` is never reset): a summary takes them to be
    the caller's entry values, and the arithmetic at the leaves never sees them. -/
structure At (e : Env) (l0 x0 : Nat) (st : St) (p l x : Nat) : Prop where
  pos : st.pos = p
  len : st.len = l
  ex : exN st = x
  len_le : l ≤ e.n
  pos_le : p ≤ e.n
  stop : Stop e l
  len_le0 : l ≤ l0
  ex_ge0 : x0 ≤ x

section rules
variable {e : Env} {st : St} {p l x l0 x0 : Nat}

theorem At.ex_le (h : At e l0 x0 st p l x) : x ≤ 1 := h.ex ▸ exN_le st

theorem At.len_le' (h : At e l0 x0 st p l x) : st.len ≤ e.n := h.len ▸ h.len_le

theorem At.pos_le' (h : At e l0 x0 st p l x) : st.pos ≤ e.n := h.pos ▸ h.pos_le

theorem At.stop' (h : At e l0 x0 st p l x) : Stop e st.len := h.len ▸ h.stop

def Keep (st st' : St) : Prop := st'.pos = st.pos ∧ st'.len = st.len ∧ st'.expected = st.expected

theorem Keep.refl (st : St) : Keep st st := ⟨rfl, rfl, rfl⟩

theorem Keep.trans {a b c : St} (h1 : Keep a b) (h2 : Keep b c) : Keep a c :=
  ⟨h2.1.trans h1.1, h2.2.1.trans h1.2.1, h2.2.2.trans h1.2.2⟩

theorem At.keep {st' : St} (h : At e l0 x0 st p l x) (hk : Keep st st') : At e l0 x0 st' p l x :=
  ⟨hk.1.trans h.pos, hk.2.1.trans h.len, (exN_eq_of hk.2.2).trans h.ex, h.len_le, h.pos_le, h.stop, h.len_le0, h.ex_ge0⟩

/-- what `dd_peek` tells about the byte `c` it returns for index `q`: it is 0 beyond `len`, a byte that is no stop byte
    lies before `len`, and up to `len` it is the byte of the string.  Kept folded in the hypotheses, since `omega` would
    split on it at every call; `arith` unfolds it for the few steps that need it. -/
def Cur (e : Env) (c : UInt8) (q l : Nat) : Prop :=
  (c.toNat = 0 ∨ (q ≤ l ∧ (c.toNat = 46 ∨ c.toNat = 64)) ∨ q < l) ∧ (q ≤ l → e.rd q = some c)

/-- a byte just compared with a literal that is no stop byte lies before `len`: the `consume` after such a test -/
theorem Cur.lt_of_byte {c d : UInt8} {q : Nat} (h : Cur e c q l) (hc : c = d)
    (hd : d.toNat ≠ 0 ∧ d.toNat ≠ 46 ∧ d.toNat ≠ 64) : q + 1 ≤ l := by
  have := h.1
  subst hc
  omega

theorem s_peek {Q : UInt8 → St → Prop} (k : Nat) (h : At e l0 x0 st p l x)
    (hk : ∀ c, Cur e c (p + k) l → Q c st) : Tri e st (peek k) Q := by
  obtain ⟨rfl, rfl, _, hl, _, hs⟩ := h
  exact tri_peek k hl hs fun c h1 h2 => hk c ⟨h1, h2⟩

theorem s_curr {Q : UInt8 → St → Prop} (h : At e l0 x0 st p l x)
    (hk : ∀ c, Cur e c p l → Q c st) : Tri e st curr Q :=
  s_peek 0 h hk

/-- `if (dd_eof(dd)) A; B` -/
theorem s_eof_if {β} {Q : β → St → Prop} {A B : M β} (h : At e l0 x0 st p l x) (hT : l ≤ p → Tri e st A Q)
    (hF : p < l → Tri e st B Q) : Tri e st (eof >>= fun b => if b = true then A else B) Q := by
  obtain ⟨rfl, rfl, _⟩ := h
  apply tri_bind
  apply tri_eof
  by_cases hle : st.pos ≥ st.len
  · simpa [hle] using hT hle
  · simpa [hle] using hF (by omega)

theorem s_consumeN {Q : UInt8 → St → Prop} (k : Nat) (h : At e l0 x0 st p l x)
    (hFail : l < p + k → ∀ c st', c.toNat = 0 → At e l0 x0 st' p l x → Q c st')
    (hOk : p + k ≤ l → ∀ c st', e.rd p = some c → At e l0 x0 st' (p + k) l x → Q c st') : Tri e st (consumeN k) Q := by
  obtain ⟨rfl, rfl, rfl, hl, hp, hs, hl0, hx0⟩ := h
  apply tri_consumeN k hl hs
  intro c st' h1 h2 h3
  rcases h3 with ⟨h3, h4, h5⟩ | ⟨h3, h4, h5⟩
  · exact hFail h4 c st' h5 ⟨h3, h1, h2, hl, hp, hs, hl0, hx0⟩
  · exact hOk h4 c st' h5 ⟨h3, h1, h2, hl, by omega, hs, hl0, hx0⟩

theorem s_consumeN_ok {Q : UInt8 → St → Prop} (k : Nat) (h : At e l0 x0 st p l x) (hle : p + k ≤ l)
    (hK : ∀ c st', e.rd p = some c → At e l0 x0 st' (p + k) l x → Q c st') : Tri e st (consumeN k) Q :=
  s_consumeN k h (fun hlt => by omega) fun _ => hK

theorem s_consume {Q : UInt8 → St → Prop} (h : At e l0 x0 st p l x)
    (hFail : l < p + 1 → ∀ c st', c.toNat = 0 → At e l0 x0 st' p l x → Q c st')
    (hOk : p + 1 ≤ l → ∀ c st', e.rd p = some c → At e l0 x0 st' (p + 1) l x → Q c st') : Tri e st consume Q :=
  s_consumeN 1 h hFail hOk

theorem s_consume_ok {Q : UInt8 → St → Prop} (h : At e l0 x0 st p l x) (hle : p + 1 ≤ l)
    (hK : ∀ c st', e.rd p = some c → At e l0 x0 st' (p + 1) l x → Q c st') : Tri e st consume Q :=
  s_consumeN_ok 1 h hle hK

theorem s_ddDebug {Q : Unit → St → Prop} (k : Nat) (h : At e l0 x0 st p l x) (hk : k ≤ p)
    (hK : ∀ st', At e l0 x0 st' (p - k) l 1 → Q () st') : Tri e st (ddDebug k) Q := by
  obtain ⟨rfl, rfl, rfl, hl, hp, hs, hl0, hx0⟩ := h
  apply tri_ddDebug k hk
  intro st' h1 h2 h3
  exact hK st' ⟨h2, h1, h3, hl, by omega, hs, hl0, Nat.le_trans hx0 (exN_le st)⟩

/-- `DD_DEBUG_CONSUME(dd, c); B` with the macro's `return -1` being `A` -/
theorem s_debugConsume_if {β} {Q : β → St → Prop} {A B : M β} (c : UInt8) (hc : c.toNat ≠ 0) (h : At e l0 x0 st p l x)
    (hpos : 0 < p ∨ p < l ∨ x = 1)
    (hT : p + 1 ≤ l → e.rd p = some c → ∀ st', At e l0 x0 st' (p + 1) l x → Tri e st' B Q)
    (hF : ∀ st' p', p ≤ p' + (1 - x) → p' ≤ p + 1 → (p < l → p ≤ p') → At e l0 x0 st' p' l 1 → Tri e st' A Q) :
    Tri e st (debugConsume c >>= fun b => if (!b) = true then A else B) Q := by
  obtain ⟨rfl, rfl, rfl, hl, hp, hs, hl0, hx0⟩ := h
  apply tri_bind
  apply tri_debugConsume c hc hl hs hpos
  intro b st' h1 h2 h3 h4
  cases b
  · obtain ⟨h5, h6, h7, h8, h9⟩ := h4 rfl
    simpa using hF st' _ h6 h7 h9 ⟨rfl, h1, h5, hl, by omega, hs, hl0, Nat.le_trans hx0 (exN_le st)⟩
  · obtain ⟨h5, h6, h7, h8⟩ := h3 rfl
    simpa using hT h6 h8 st' ⟨h5, h1, h7, hl, by omega, hs, hl0, hx0⟩

/-- actions that touch neither `pos` nor `len` nor `expected` -/
class Neutral (m : M Unit) : Prop where
  out : ∀ (e : Env) (st : St), ∃ st', m e st = .ok () st' ∧ Keep st st'

instance : Neutral incLevel := ⟨fun _ _ => ⟨_, rfl, rfl, rfl, rfl⟩⟩
instance : Neutral decLevel := ⟨fun _ _ => ⟨_, rfl, rfl, rfl, rfl⟩⟩
instance : Neutral incType := ⟨fun _ _ => ⟨_, rfl, rfl, rfl, rfl⟩⟩
instance : Neutral decType := ⟨fun _ _ => ⟨_, rfl, rfl, rfl, rfl⟩⟩
instance (bs : List UInt8) : Neutral (appendBytes bs) := ⟨fun _ _ => ⟨_, rfl, rfl, rfl, rfl⟩⟩
instance (bs : List UInt8) : Neutral (appendSeparator bs) := ⟨fun e st => by
  unfold appendSeparator
  by_cases h : st.firstName = true <;> simp [bind_def, getSt, h, modifySt, appendBytes, Keep]⟩

theorem t_neutral (m : M Unit) [hm : Neutral m] : Tri e st m (fun _ st' => Keep st st') := by
  obtain ⟨st', h1, h2⟩ := hm.out e st
  exact ⟨(), st', h1, h2⟩

theorem s_neutral {Q : Unit → St → Prop} (m : M Unit) [Neutral m] (h : At e l0 x0 st p l x)
    (hK : ∀ st', At e l0 x0 st' p l x → Q () st') : Tri e st m Q :=
  tri_mono (t_neutral m) fun _ st' hk => hK st' (h.keep hk)

theorem s_modifySt {Q : Unit → St → Prop} (f : St → St)
    (hf : ∀ st, (f st).pos = st.pos ∧ (f st).len = st.len ∧ (f st).expected = st.expected) (h : At e l0 x0 st p l x)
    (hK : ∀ st', At e l0 x0 st' p l x → Q () st') : Tri e st (modifySt f) Q :=
  tri_modifySt (hK _ (h.keep (hf st)))

theorem s_getFixes {Q : Fixes → St → Prop} (hfx : e.fx = Fixes.all) (h : Q Fixes.all st) : Tri e st getFixes Q :=
  ⟨e.fx, st, rfl, hfx ▸ h⟩

/-- What a call entered with `pos = p` guarantees on return: the invariant again (with it `len` not larger and `expected`
    not reset), `pos` at most `d` below `p` and below it only when an error was recorded, and `P` of the result and the
    new position. -/
def Summ {α} (e : Env) (d : Nat) (P : α → Nat → Prop) (l0 x0 p : Nat) (r : α) (st' : St) : Prop :=
  ∃ p' l' x', At e l0 x0 st' p' l' x' ∧ p ≤ p' + d * x' ∧ P r p'

theorem summ_intro {α} {d : Nat} {P : α → Nat → Prop} {r : α} {st' : St} {p' l' x' : Nat} (h : At e l0 x0 st' p' l' x')
    (ha : p ≤ p' + d * x' ∧ P r p') : Summ e d P l0 x0 p r st' :=
  ⟨p', l', x', h, ha⟩

theorem summ_intro_true {α} {d : Nat} {r : α} {st' : St} {p' l' x' : Nat} (h : At e l0 x0 st' p' l' x')
    (ha : p ≤ p' + d * x') : Summ e d (fun _ _ => True) l0 x0 p r st' :=
  ⟨p', l', x', h, ha, trivial⟩

theorem summ_use {α} {d : Nat} {P : α → Nat → Prop} {m : M α} {Q : α → St → Prop}
    (hm : Tri e st m (Summ e d P l0 x0 p))
    (hK : ∀ r st' p' l' x', x' ≤ 1 → p ≤ p' + d * x' → P r p' → At e l0 x0 st' p' l' x' → Q r st') :
    Tri e st m Q :=
  tri_mono hm fun r st' ⟨p', l', x', h', h3, h4⟩ => hK r st' p' l' x' h'.ex_le h3 h4 h'

theorem summ_of_fields {α} {P : α → Nat → Prop} {r : α} {st' : St} (h : At e l0 x0 st p l x) (h1 : st'.len = st.len)
    (h2 : st'.pos ≤ e.n) (h3 : exN st ≤ exN st') (h4 : st.pos ≤ st'.pos) (h5 : P r st'.pos) : Summ e 0 P l0 x0 p r st' :=
  ⟨_, _, _, ⟨rfl, h1.trans h.len, rfl, h.len_le, h2, h.stop, h.len_le0, Nat.le_trans (h.ex ▸ h.ex_ge0) h3⟩,
    by have := h.pos; omega, h5⟩

end rules
/-! ## C library helpers -/

theorem u8_le_iff (a b : UInt8) : a ≤ b ↔ a.toNat ≤ b.toNat := UInt8.le_iff_toNat_le

theorem isDigit_iff (c : UInt8) : isDigit c = true ↔ 48 ≤ c.toNat ∧ c.toNat ≤ 57 := by
  simp [isDigit, u8_le_iff]

theorem digitVal_range {c : UInt8} {d : Nat} (h : digitVal c = some d) :
    c.toNat ≠ 0 ∧ c.toNat ≠ 46 ∧ c.toNat ≠ 64 := by
  unfold digitVal at h
  split at h
  · rename_i h1
    rw [isDigit_iff] at h1
    omega
  · split at h
    · rename_i h1
      simp [u8_le_iff] at h1
      omega
    · split at h
      · rename_i h1
        simp [u8_le_iff] at h1
        omega
      · cases h

theorem scanDigits_spec (e : Env) (base : Nat) : ∀ (k i acc v j : Nat), scanDigits e base k i acc = (v, j) →
    i ≤ j ∧ ∀ t, i ≤ t → t < j → ∃ c d, e.rd t = some c ∧ digitVal c = some d := by
  intro k
  induction k with
  | zero =>
    intro i acc v j h
    simp [scanDigits] at h
    exact ⟨by omega, fun t h1 h2 => by omega⟩
  | succ k ih =>
    intro i acc v j h
    unfold scanDigits at h
    split at h
    · rename_i c hc
      split at h
      · rename_i d hd
        split at h
        · obtain ⟨h1, h2⟩ := ih _ _ _ _ h
          refine ⟨by omega, fun t ht1 ht2 => ?_⟩
          by_cases hti : t = i
          · subst hti
            exact ⟨c, d, hc, hd⟩
          · exact h2 t (by omega) ht2
        · simp at h
          exact ⟨by omega, fun t h1 h2 => by omega⟩
      · simp at h
        exact ⟨by omega, fun t h1 h2 => by omega⟩
    · simp at h
      exact ⟨by omega, fun t h1 h2 => by omega⟩

/-- a run of non-stop bytes starting at or before `l` ends at or before `l` -/
theorem run_le_len {e : Env} {l i j : Nat} (hs : Stop e l) (hi : i ≤ l)
    (h : ∀ t, i ≤ t → t < j → ∃ c d, e.rd t = some c ∧ digitVal c = some d) : j ≤ l := by
  by_cases hj : j ≤ l
  · exact hj
  · exfalso
    obtain ⟨c, d, hc, hd⟩ := h l hi (by omega)
    obtain ⟨h0, h1, h2⟩ := digitVal_range hd
    exact Nat.lt_irrefl _ (stop_strict hs hc (Nat.le_refl _) h0 h1 h2)



theorem getD_eq_some {e : Env} {i : Nat} {c : UInt8} (h : (e.rd i).getD 0 = c) (hc : c.toNat ≠ 0) : e.rd i = some c := by
  cases hr : e.rd i with
  | none => simp [hr] at h; subst h; simp at hc
  | some b => simp [hr] at h; subst h; rfl

theorem scanDigits_first {e : Env} {base k i acc : Nat} {c : UInt8} {d : Nat} (hc : e.rd i = some c)
    (hd : digitVal c = some d) (hb : d < base) :
    i < (scanDigits e base (k + 1) i acc).2 := by
  unfold scanDigits
  simp only [hc, hd, hb, ↓reduceIte]
  have := (scanDigits_spec e base k (i + 1) (acc * base + d) _ _ rfl).1
  omega

theorem strtoul0_spec {e : Env} {l i : Nat} {d : UInt8} (hs : Stop e l) (hl : l ≤ e.n) (hi : i < l)
    (hd : e.rd i = some d) (hdig : isDigit d = true) :
    i < (strtoul0 e i).2 ∧ (strtoul0 e i).2 ≤ l := by
  have hdr := (isDigit_iff d).1 hdig
  have hdv : digitVal d = some (d.toNat - 48) := by simp [digitVal, hdig]
  have hk : e.n + 1 - i = (e.n - i) + 1 := by omega
  unfold strtoul0
  simp only [hd, Option.getD_some]
  split
  · rename_i hc
    simp only [Bool.and_eq_true, Bool.or_eq_true, beq_iff_eq] at hc
    obtain ⟨hc0, hc1⟩ := hc
    have h1 : ∃ c1, e.rd (i + 1) = some c1 ∧ (c1.toNat = 120 ∨ c1.toNat = 88) := by
      rcases hc1 with hc1 | hc1
      · exact ⟨120, getD_eq_some hc1 (by decide), Or.inl rfl⟩
      · exact ⟨88, getD_eq_some hc1 (by decide), Or.inr rfl⟩
    obtain ⟨c1, hr1, hc1v⟩ := h1
    have hi1 : i + 1 < l := stop_strict hs hr1 (by omega) (by omega) (by omega) (by omega)
    split
    · obtain ⟨hij, hrun⟩ := scanDigits_spec e 16 (e.n + 1 - i) (i + 2) 0 _ _ rfl
      exact ⟨by omega, run_le_len hs (show i + 2 ≤ l by omega) hrun⟩
    · exact ⟨by simp, by simp; omega⟩
  · split
    · rename_i hc0
      have hc0 : d = 48 := by simpa using hc0
      rw [hk]
      have h1 := scanDigits_first (k := e.n - i) (acc := 0) (base := 8) hd hdv (by subst hc0; decide)
      obtain ⟨_, hrun⟩ := scanDigits_spec e 8 (e.n - i + 1) i 0 _ _ rfl
      exact ⟨h1, run_le_len hs (by omega) hrun⟩
    · rw [hk]
      have h1 := scanDigits_first (k := e.n - i) (acc := 0) (base := 10) hd hdv (by omega)
      obtain ⟨_, hrun⟩ := scanDigits_spec e 10 (e.n - i + 1) i 0 _ _ rfl
      exact ⟨h1, run_le_len hs (by omega) hrun⟩


theorem u8_eq_iff (a b : UInt8) : a = b ↔ a.toNat = b.toNat := UInt8.toNat_inj.symm

/-- normalise the test of an `if`, just introduced, so that `omega` can use it -/
macro "norm_last" : tactic => `(tactic|
  (rename_i hlast;
   try simp only [beq_iff_eq, bne_iff_ne, ne_eq, Bool.and_eq_true, Bool.or_eq_true, Bool.not_eq_true', Bool.not_eq_true,
    decide_eq_true_eq, decide_eq_false_iff_not, u8_eq_iff, UInt8.toNat_ofNat, not_and, not_or, Int.not_lt, Int.not_le,
    Uft.Gen.DemangleTables.dTypes, Uft.Gen.DemangleTables.tType, List.contains_cons, List.contains_nil, Bool.or_false] at hlast))

/-- for the hypothesis of an `else` branch: byte comparisons stay opaque (each `c ≠ k` would make `omega`
    split cases), only Bool/Int/Nat tests are normalised -/
macro "norm_neg" : tactic => `(tactic|
  (rename_i hlast;
   try simp only [beq_iff_eq, bne_iff_ne, ne_eq, Bool.and_eq_true, Bool.or_eq_true, Bool.not_eq_true', Bool.not_eq_true,
    decide_eq_true_eq, decide_eq_false_iff_not, not_and, not_or, Int.not_lt, Int.not_le, Decidable.not_not] at hlast))

/-- linear arithmetic, with what `dd_peek` told about the bytes if that is needed -/
macro "arith" : tactic => `(tactic| first | omega | (simp only [Cur] at *; omega))

/-! ## the `wp` tactic and the leaf grammar functions -/

attribute [local irreducible] Tri Summ ite M.bind M.pure peek curr consumeN consume posBack ddDebug debugConsume eof getSt getEnv getFixes modifySt incLevel decLevel incType decType appendBytes appendSeparator rdAt

/-- leaf grammar functions (repaired code): `pos` is not decreased, and is advanced by a successful call -/
class LeafFn (m : M Int) : Prop where
  summ : ∀ {e : Env} {st : St} {p l x l0 x0 : Nat}, e.fx = Fixes.all → At e l0 x0 st p l x →
    Tri e st m (Summ e 0 (fun r p' => 0 ≤ r → p < p') l0 x0 p)

macro "call_step " t:term : tactic => `(tactic| (apply summ_use $t; intros))

syntax "wp_call" : tactic
macro_rules | `(tactic| wp_call) => `(tactic| fail)

syntax "wp_piece" : tactic
macro_rules | `(tactic| wp_piece) => `(tactic| fail)

macro "summ_close" : tactic => `(tactic| first
  | (apply summ_intro_true (by assumption); arith)
  | (apply summ_intro (by assumption); arith))

/-- One step of symbolic execution of a goal `Tri e st m Q`, chosen by the head of `m` (the frequent ones first):
    `pure` ends a path, and if `Q` is a `Summ` the leaf is closed at once by `summ_close` (the `At` of the state reached is
    in the context, the inequalities of the summary go to `arith`); `>>=` is split by `tri_bind`, except that `eof >>= if ..`
    and `debugConsume c >>= if ..` have rules of their own that split into the two branches; an `if` on `ret < 0`, on a byte
    or on anything else is split by `tri_if_neg`, `tri_if_byte`, `tri_ite` (the test normalised by `norm_last`/`norm_neg`);
    a primitive (`curr`, `peek`, `consume`, a `Neutral` action, ..) takes its `s_` rule with the `At` found by `assumption`;
    a call of a leaf grammar function is a `summ_use` of its `LeafFn` instance; `wp_call` and `wp_piece` are the steps for
    the other calls and for the pieces into which the large bodies are cut, a `macro_rules` line being added where the
    summary of the callee is proved; what is left are `match`es and `let`s.  A rule that does not fit fails at once: `Tri`,
    `Summ`, `ite` and the primitives are irreducible from here on, so a failed `apply` never unfolds them. -/
syntax "wp1" : tactic
macro_rules | `(tactic| wp1) => `(tactic| first
  | (apply tri_pure; summ_close)
  | apply tri_pure
  | (apply s_eof_if (by assumption) <;> intro _ <;> try (exfalso; omega))
  | (apply s_debugConsume_if _ (by decide) (by assumption) (by first | exact Or.inr (Or.inl (by assumption)) | exact Or.inl (Nat.succ_pos _) | arith) <;> intros)
  | apply tri_bind
  | (apply tri_if_neg <;> intro _)
  | (apply tri_if_byte <;> intro _)
  | (apply tri_ite; (case' hT => (intro _; norm_last)); (case' hF => (intro _; norm_neg)))
  | (apply s_curr (by assumption); intros)
  | (apply s_peek _ (by assumption); intros)
  | (apply s_consumeN_ok _ (by assumption) (by first | exact Cur.lt_of_byte (by assumption) (by assumption) (by decide) | arith); intros)
  | (apply s_consumeN _ (by assumption) <;> intros)
  | (apply s_consume_ok (by assumption) (by first | assumption | exact Cur.lt_of_byte (by assumption) (by assumption) (by decide) | arith); intros)
  | (apply s_consume (by assumption) <;> intros)
  | (refine s_neutral _ (by assumption) ?_; intros)
  | (refine summ_use (LeafFn.summ (by assumption) (by assumption)) ?_; intros)
  | (apply s_ddDebug _ (by assumption) (by arith); intros)
  | apply tri_getSt
  | apply tri_getEnv
  | (apply s_getFixes (by assumption); try simp only [Fixes.all, Bool.not_true, Bool.and_false, Bool.false_eq_true, ↓reduceIte, Bool.true_and, Bool.and_true, Bool.and_self])
  | (apply s_modifySt _ (by intro st; exact ⟨rfl, rfl, rfl⟩) (by assumption); intros)
  | wp_call
  | wp_piece
  | (simp only [Bool.not_true, Bool.not_false, Bool.false_eq_true, ↓reduceIte])
  | split
  | (dsimp only)
  | summ_close)

macro "wp" : tactic => `(tactic| (repeat' wp1))

section leaf
variable {e : Env} {st : St} {p l x l0 x0 : Nat}

theorem s_qualifier (h : At e l0 x0 st p l x) : Tri e st qualifier (Summ e 0 (fun _ _ => True) l0 x0 p) := by
  unfold qualifier
  wp

theorem s_qualifier_prog {Q : Int → St → Prop} (c : UInt8) (h : At e l0 x0 st p l x) (hrd : Cur e c p l)
    (hq : strchrB Uft.Gen.DemangleTables.qualQualifier c = true) (hlt : p < l)
    (hK : ∀ r st', At e l0 x0 st' (p + 1) l x → Q r st') : Tri e st qualifier Q := by
  unfold qualifier
  apply tri_bind
  apply s_curr h
  intro c' hc2
  have hcc : c' = c := Option.some.inj ((hc2.2 (by omega)).symm.trans (hrd.2 (by omega)))
  subst hcc
  apply s_eof_if h
  · intro _; exfalso; omega
  · intro _
    rw [hq]
    simp only [↓reduceIte]
    apply tri_bind
    apply s_consume_ok h hlt
    intro b st' _ h'
    exact tri_pure (hK 0 st' h')

theorem qual_sub_cv {c : UInt8} (h : strchrB Uft.Gen.DemangleTables.cvQual c = true) :
    strchrB Uft.Gen.DemangleTables.qualQualifier c = true := by
  simp only [strchrB, Uft.Gen.DemangleTables.cvQual, Uft.Gen.DemangleTables.qualQualifier, Bool.or_eq_true,
    beq_iff_eq, List.contains_cons, List.contains_nil, Bool.or_false] at *
  rcases h with h | h | h | h <;> simp [h]

theorem qual_sub_nested {c : UInt8} (h : strchrB Uft.Gen.DemangleTables.qualNested c = true) :
    strchrB Uft.Gen.DemangleTables.qualQualifier c = true := h

def LeafPost (e : Env) (st : St) (r : Int) (st' : St) : Prop :=
  st'.len = st.len ∧ st'.pos ≤ e.n ∧ exN st ≤ exN st' ∧ st.pos ≤ st'.pos ∧ (0 ≤ r → st.pos < st'.pos)

theorem summ_of_leaf {m : M Int} (h : At e l0 x0 st p l x) (hm : Tri e st m (LeafPost e st)) :
    Tri e st m (Summ e 0 (fun r p' => 0 ≤ r → p < p') l0 x0 p) :=
  tri_mono hm fun _ _ ⟨h1, h2, h3, h4, h5⟩ => summ_of_fields h h1 h2 h3 h4 (h.pos ▸ h5)

theorem t_number (hl : st.len ≤ e.n) (hp : st.pos ≤ e.n) (hs : Stop e st.len) : Tri e st number (LeafPost e st) := by
  have hx := exN_le st
  unfold number
  apply tri_bind
  apply tri_eof
  split
  · exact tri_pure ⟨rfl, hp, Nat.le_refl _, Nat.le_refl _, fun h => by omega⟩
  rename_i hne
  have hlt : st.pos < st.len := by simpa using hne
  apply tri_bind
  apply tri_getSt
  dsimp only
  apply tri_bind
  apply tri_rdAt _ (by omega)
  intro c hc
  -- the continuation after the optional 'n'
  have key : ∀ (st1 : St) (i : Nat), st1.len = st.len → st1.pos = i → i ≤ st.len → st.pos ≤ i → exN st1 = exN st →
      Tri e st1 (do
        let d ← rdAt i
        if (!isDigit d) = true then do
            ddDebug 0
            pure (-1)
          else do
            let e ← getEnv
            match strtoul0 e i with
              | (num, j) => do
                modifySt fun st => { st with pos := st.pos + (j - i) }
                pure num) (LeafPost e st) := by
    intro st1 i h1 h2 h3 h4 h5
    apply tri_bind
    apply tri_rdAt _ (by omega)
    intro d hd
    split
    · apply tri_bind
      apply tri_ddDebug 0 (Nat.zero_le _)
      intro st2 g1 g2 g3
      exact tri_pure ⟨g1.trans h1, by omega, by omega, by omega, fun h => by omega⟩
    · rename_i hdig
      have hdig : isDigit d = true := by simpa using hdig
      have hdr := (isDigit_iff d).1 hdig
      have hil : i < st.len := stop_strict hs hd h3 (by omega) (by omega) (by omega)
      obtain ⟨hj1, hj2⟩ := strtoul0_spec hs hl hil hd hdig
      apply tri_bind
      apply tri_getEnv
      split
      rename_i num j heq
      rw [heq] at hj1 hj2
      simp only at hj1 hj2
      apply tri_bind
      apply tri_modifySt
      apply tri_pure
      refine ⟨h1, ?_, ?_, ?_, fun _ => ?_⟩
      · simp only; omega
      · simp only [exN] at *; omega
      · simp only; omega
      · simp only; omega
  split
  · apply tri_bind
    apply tri_modifySt
    exact key _ _ rfl rfl (by show st.pos + 1 ≤ st.len; omega) (by show st.pos ≤ st.pos + 1; omega) rfl
  · exact key _ _ rfl rfl (by omega) (by omega) rfl

instance : LeafFn number := ⟨fun _ h => summ_of_leaf h (t_number h.len_le' h.pos_le' h.stop')⟩

macro_rules | `(tactic| wp_call) => `(tactic| call_step (s_qualifier (by assumption)))
macro "qual_prog" : tactic => `(tactic|
  (refine s_qualifier_prog ?c (by assumption) ?hrd ?hq ?hlt ?k
   case hrd => assumption
   case hq => first | assumption | (apply qual_sub_cv; assumption) | (apply qual_sub_nested; assumption)
   case hlt => arith
   case' k => intros))
macro_rules | `(tactic| wp_call) => `(tactic| first | qual_prog | fail)
attribute [local irreducible] number qualifier

instance : LeafFn templateParam := ⟨fun hfx h => by
  unfold templateParam
  wp⟩

instance : LeafFn functionParam := ⟨fun hfx h => by
  unfold functionParam
  wp⟩

instance : LeafFn callOffset := ⟨fun hfx h => by
  unfold callOffset
  wp⟩


end leaf
section leaf2
attribute [local irreducible] number qualifier templateParam functionParam callOffset
variable {e : Env}

theorem isUpper_iff (c : UInt8) : isUpper c = true ↔ 65 ≤ c.toNat ∧ c.toNat ≤ 90 := by
  simp [isUpper, u8_le_iff]

theorem t_seqScan : ∀ (k : Nat) (c : UInt8) (st : St), st.len ≤ e.n → st.pos ≤ e.n → Stop e st.len →
    ((isDigit c || isUpper c) = true → e.rd st.pos = some c ∧ st.pos ≤ st.len) →
    Tri e st (seqScan k c) (fun _ st' => st'.len = st.len ∧ st'.pos ≤ e.n ∧ exN st' = exN st ∧ st.pos ≤ st'.pos) := by
  intro k
  induction k with
  | zero => intro c st hl hp hs hc; exact tri_pure ⟨rfl, hp, rfl, Nat.le_refl _⟩
  | succ k ih =>
    intro c st hl hp hs hc
    unfold seqScan
    apply tri_ite
    · intro hal
      obtain ⟨hrd, hle⟩ := hc hal
      have hr : (48 ≤ c.toNat ∧ c.toNat ≤ 57) ∨ (65 ≤ c.toNat ∧ c.toNat ≤ 90) := by
        simp only [Bool.or_eq_true, isDigit_iff, isUpper_iff] at hal
        exact hal
      have hlt : st.pos < st.len := stop_strict hs hrd hle (by omega) (by omega) (by omega)
      apply tri_bind
      apply tri_modifySt
      apply tri_bind
      apply tri_getSt
      apply tri_bind
      apply tri_rdAt _ (by show st.pos + 1 ≤ e.n; omega)
      intro c' hc'
      refine tri_mono (ih c' _ (by exact hl) (by show st.pos + 1 ≤ e.n; omega) hs (fun _ => ⟨hc', by show st.pos + 1 ≤ st.len; omega⟩)) ?_
      intro _ st' ⟨h1, h2, h3, h4⟩
      exact ⟨h1, h2, h3, by have : st.pos + 1 ≤ st'.pos := h4; omega⟩
    · intro _
      exact tri_pure ⟨rfl, hp, rfl, Nat.le_refl _⟩

theorem s_seqId {st : St} {p l x l0 x0 : Nat} (h : At e l0 x0 st p l x) : Tri e st seqId (Summ e 0 (fun _ _ => True) l0 x0 p) := by
  have h' := h
  obtain ⟨rfl, rfl, rfl, hl, hp, hs⟩ := h'
  unfold seqId
  apply tri_bind
  apply s_curr h
  intro c hc
  apply s_eof_if h
  · intro _
    exact tri_pure (summ_of_fields h rfl hp (Nat.le_refl _) (Nat.le_refl _) trivial)
  · intro hlt
    apply tri_bind
    apply tri_getEnv
    apply tri_bind
    refine tri_mono (t_seqScan _ c st hl hp hs ?_) ?_
    · intro hal
      have hr : (48 ≤ c.toNat ∧ c.toNat ≤ 57) ∨ (65 ≤ c.toNat ∧ c.toNat ≤ 90) := by
        simp only [Bool.or_eq_true, isDigit_iff, isUpper_iff] at hal
        exact hal
      exact ⟨hc.2 (by omega), by omega⟩
    · intro _ st' ⟨h1, h2, h3, h4⟩
      exact tri_pure (summ_of_fields h h1 h2 (by omega) h4 trivial)

/-! ### helpers of dd_source_name -/

theorem t_readRange {st : St} : ∀ (k i : Nat), i + k ≤ e.n + 1 → Tri e st (readRange i k) (fun _ st' => st' = st) := by
  intro k
  induction k with
  | zero => intro i _; exact tri_pure rfl
  | succ k ih =>
    intro i hi
    unfold readRange
    apply tri_bind
    apply tri_rdAt _ (by omega)
    intro b _
    apply tri_bind
    refine tri_mono (ih (i + 1) (by omega)) ?_
    intro r st' h
    subst h
    exact tri_pure rfl

theorem t_appendFrom {st : St} (i k : Nat) (h : i + k ≤ e.n + 1) :
    Tri e st (appendFrom i k) (fun _ st' => Keep st st') := by
  unfold appendFrom
  apply tri_bind
  refine tri_mono (t_readRange k i h) ?_
  intro bs st' h
  subst h
  exact t_neutral _

theorem t_findByte {st : St} (c : UInt8) : ∀ (k i : Nat), i ≤ e.n →
    Tri e st (findByte c k i) (fun r st' => st' = st ∧ ∀ d, r = some d → i ≤ d ∧ d ≤ e.n ∧ e.rd d = some c) := by
  intro k
  induction k with
  | zero => intro i _; exact tri_pure ⟨rfl, by simp⟩
  | succ k ih =>
    intro i hi
    unfold findByte
    apply tri_bind
    apply tri_rdAt _ hi
    intro b hb
    apply tri_ite
    · intro hbc
      have : b = c := by simpa using hbc
      subst this
      refine tri_pure ⟨rfl, ?_⟩
      intro d hd
      cases hd
      exact ⟨Nat.le_refl _, hi, hb⟩
    · intro _
      apply tri_ite
      · intro _
        exact tri_pure ⟨rfl, by simp⟩
      · intro hb0
        have hb0 : b.toNat ≠ 0 := by
          intro h; apply hb0; simp [u8_eq_iff, h]
        have := rd_lt hb hb0
        refine tri_mono (ih (i + 1) (by omega)) ?_
        intro r st' ⟨h1, h2⟩
        refine ⟨h1, fun d hd => ?_⟩
        obtain ⟨h3, h4, h5⟩ := h2 d hd
        exact ⟨by omega, h4, h5⟩

theorem t_findDotDot {st : St} : ∀ (k i : Nat), i ≤ e.n →
    Tri e st (findDotDot k i) (fun r st' => st' = st ∧
      ∀ u, r = some u → i ≤ u ∧ e.rd u = some 46 ∧ e.rd (u + 1) = some 46) := by
  intro k
  induction k with
  | zero => intro i _; exact tri_pure ⟨rfl, by simp⟩
  | succ k ih =>
    intro i hi
    unfold findDotDot
    apply tri_bind
    apply tri_rdAt _ hi
    intro b hb
    apply tri_ite
    · intro _
      exact tri_pure ⟨rfl, by simp⟩
    · intro hb0
      have hb0 : b.toNat ≠ 0 := by
        intro h; apply hb0; simp [u8_eq_iff, h]
      have hlt := rd_lt hb hb0
      have rest : Tri e st (findDotDot k (i + 1)) (fun r st' => st' = st ∧
          ∀ u, r = some u → i ≤ u ∧ e.rd u = some 46 ∧ e.rd (u + 1) = some 46) := by
        refine tri_mono (ih (i + 1) (by omega)) ?_
        intro r st' ⟨h1, h2⟩
        refine ⟨h1, fun u hu => ?_⟩
        obtain ⟨h3, h4, h5⟩ := h2 u hu
        exact ⟨by omega, h4, h5⟩
      dsimp only
      apply tri_ite
      · intro hdot
        have hdot : b = 46 := by simpa using hdot
        subst hdot
        apply tri_bind
        apply tri_rdAt _ (by omega)
        intro b1 hb1
        apply tri_ite
        · intro h1
          have h1 : b1 = 46 := by simpa using h1
          subst h1
          refine tri_pure ⟨rfl, ?_⟩
          intro u hu
          cases hu
          exact ⟨Nat.le_refl _, hb, hb1⟩
        · intro _
          exact rest
      · intro _
        exact rest

theorem t_matchAt {st : St} : ∀ (cs : List UInt8) (i : Nat), i + cs.length ≤ e.n + 1 →
    Tri e st (matchAt cs i) (fun _ st' => st' = st) := by
  intro cs
  induction cs with
  | nil => intro i _; exact tri_pure rfl
  | cons c cs ih =>
    intro i hi
    simp only [List.length_cons] at hi
    unfold matchAt
    apply tri_bind
    apply tri_rdAt _ (by omega)
    intro b _
    apply tri_ite
    · intro _; exact tri_pure rfl
    · intro _; exact ih (i + 1) (by omega)

/-- the bytes of `u` are at index `i` -/
def MatchAt (e : Env) (u : List UInt8) (i : Nat) : Prop := ∀ j (h : j < u.length), e.rd (i + j) = some u[j]

theorem t_matchAt_spec {e : Env} {st : St} : ∀ (cs : List UInt8) (i : Nat), (∀ c ∈ cs, c.toNat ≠ 0) → i ≤ e.n →
    Tri e st (matchAt cs i) (fun b st' => st' = st ∧ (b = true → MatchAt e cs i)) := by
  intro cs
  induction cs with
  | nil => intro i _ _; exact tri_pure ⟨rfl, fun _ j h => by simp at h⟩
  | cons c cs ih =>
    intro i hnz hi
    unfold matchAt
    apply tri_bind
    apply tri_rdAt _ hi
    intro b hb
    apply tri_ite
    · intro _; exact tri_pure ⟨rfl, by simp⟩
    · intro hbc
      have hbc : b = c := by simpa using hbc
      subst hbc
      have := rd_lt hb (hnz b (List.mem_cons_self))
      refine tri_mono (ih (i + 1) (fun c hc => hnz c (List.mem_cons_of_mem _ hc)) (by arith)) ?_
      intro r st' ⟨h1, h2⟩
      refine ⟨h1, fun hr j hj => ?_⟩
      cases j with
      | zero => simpa using hb
      | succ j =>
        have := h2 hr j (by simpa using hj)
        simpa [Nat.add_assoc, Nat.add_comm 1 j] using this

theorem t_dotLoop (dollar : Nat) (hd : dollar ≤ e.n) (hrd : e.rd dollar = some 36) :
    ∀ (k sep : Nat) (st : St), sep ≤ dollar →
    Tri e st (dotLoop dollar k sep) (fun sep' st' => Keep st st' ∧ sep ≤ sep' ∧ sep' ≤ dollar) := by
  intro k
  induction k with
  | zero => intro sep st h; exact tri_pure ⟨Keep.refl _, Nat.le_refl _, h⟩
  | succ k ih =>
    intro sep st hsep
    unfold dotLoop
    apply tri_bind
    apply tri_getEnv
    apply tri_bind
    refine tri_mono (t_findDotDot _ sep (by omega)) ?_
    intro r st1 ⟨h1, h2⟩
    subst h1
    split
    · exact tri_pure ⟨Keep.refl _, Nat.le_refl _, hsep⟩
    · rename_i upd
      obtain ⟨h3, h4, h5⟩ := h2 upd rfl
      apply tri_ite
      · intro _
        exact tri_pure ⟨Keep.refl _, Nat.le_refl _, hsep⟩
      · intro hle
        have hne1 : upd ≠ dollar := by
          intro h; subst h; rw [hrd] at h4; cases h4
        have hne2 : upd + 1 ≠ dollar := by
          intro h; rw [h] at h5; rw [hrd] at h5; cases h5
        apply tri_bind
        refine tri_mono (t_appendFrom sep (upd - sep) (by omega)) ?_
        intro _ st2 hk2
        apply tri_bind
        refine tri_mono (t_neutral (appendSeparator colon2)) ?_
        intro _ st3 hk3
        refine tri_mono (ih (upd + 2) st3 (by omega)) ?_
        intro sep' st4 ⟨hk4, h6, h7⟩
        exact ⟨(hk2.trans hk3).trans hk4, by omega, h7⟩

theorem t_findMapping {st : St} (dollar endp : Nat) (he : endp ≤ e.n) :
    ∀ (l : List (List UInt8 × List UInt8)),
    Tri e st (findMapping true dollar endp l) (fun r st' => st' = st ∧
      ∀ code punc, r = some (code, punc) → dollar + code.length + 2 ≤ endp) := by
  intro l
  induction l with
  | nil => exact tri_pure ⟨rfl, by simp⟩
  | cons m l ih =>
    obtain ⟨code, punc⟩ := m
    unfold findMapping
    apply tri_ite
    · intro _; exact ih
    · intro hfit
      have hfit : dollar + code.length + 2 ≤ endp := by simpa using hfit
      apply tri_bind
      refine tri_mono (t_matchAt code (dollar + 1) (by omega)) ?_
      intro b st' h1
      subst h1
      apply tri_ite
      · intro _
        refine tri_pure ⟨rfl, ?_⟩
        intro c p h
        cases h
        exact hfit
      · intro _; exact ih

theorem asTrait_nz : ∀ c ∈ asTrait, c.toNat ≠ 0 := by decide

theorem t_dollarLoop (endp : Nat) (hfx : e.fx.rustSpan = true) :
    ∀ (k p : Nat) (d? : Option Nat) (st : St), st.len ≤ e.n → Stop e st.len → st.pos = p → p ≤ endp → endp ≤ st.len →
    (∀ d, d? = some d → p ≤ d ∧ d ≤ e.n ∧ e.rd d = some 36) →
    Tri e st (dollarLoop endp k p d?) (fun p' st' => st'.len = st.len ∧ exN st' = exN st ∧ st'.pos = p' ∧
      p ≤ p' ∧ p' ≤ endp) := by
  intro k
  induction k with
  | zero => intro p d? st _ _ hp hpe _ _; exact tri_pure ⟨rfl, rfl, hp, Nat.le_refl _, hpe⟩
  | succ k ih =>
    intro p d? st hl hs hp hpe hel hd
    have done : Tri e st (pure p : M Nat) (fun p' st' => st'.len = st.len ∧ exN st' = exN st ∧ st'.pos = p' ∧
        p ≤ p' ∧ p' ≤ endp) := tri_pure ⟨rfl, rfl, hp, Nat.le_refl _, hpe⟩
    unfold dollarLoop
    split
    · exact done
    · rename_i dollar
      obtain ⟨hd1, hd2, hd3⟩ := hd dollar rfl
      apply tri_ite
      · intro _; exact done
      · intro hlt
        have hlt : dollar < endp := by simpa using hlt
        apply tri_bind
        apply tri_getEnv
        apply tri_bind
        refine tri_mono (t_dotLoop dollar hd2 hd3 _ p st hd1) ?_
        intro sep st1 ⟨hk1, hs1, hs2⟩
        apply tri_bind
        refine tri_mono (t_appendFrom sep (dollar - sep) (by omega)) ?_
        intro _ st2 hk2
        apply tri_bind
        rw [hfx]
        refine tri_mono (t_findMapping dollar endp (by omega) _) ?_
        intro r st3 ⟨h3, hmap⟩
        subst h3
        have hk := hk1.trans hk2
        split
        · exact tri_pure ⟨hk.2.1, exN_eq_of hk.2.2, by rw [hk.1]; exact hp, Nat.le_refl _, hpe⟩
        · rename_i code punc
          have hfit := hmap code punc rfl
          -- after the (optional) "as TRAIT" test: a number `num` with p + num ≤ endp and a state that keeps pos/len
          have cont : ∀ (num : Nat) (st4 : St), Keep st st4 → p + num ≤ endp → dollar < p + num →
              Tri e st4 (do
                let _ ← consumeN num
                let p' := p + num
                let d ← findByte 36 (e.n + 1) p'
                dollarLoop endp k p' d) (fun p' st' => st'.len = st.len ∧ exN st' = exN st ∧ st'.pos = p' ∧
                  p ≤ p' ∧ p' ≤ endp) := by
            intro num st4 hk4 hn1 hn2
            have hl4 : st4.len ≤ e.n := by rw [hk4.2.1]; exact hl
            have hs4 : Stop e st4.len := by rw [hk4.2.1]; exact hs
            apply tri_bind
            apply tri_consumeN num hl4 hs4
            intro c st5 h51 h55 h5
            rcases h5 with ⟨_, hfail, _⟩ | ⟨h56, _, _⟩
            · exfalso
              rw [hk4.1, hk4.2.1, hp] at hfail
              omega
            · have h52 : st5.len ≤ e.n := h51 ▸ hl4
              have h54 : Stop e st5.len := h51 ▸ hs4
              dsimp only
              apply tri_bind
              refine tri_mono (t_findByte 36 _ (p + num) (by omega)) ?_
              intro d st6 ⟨h6, hd6⟩
              rw [h6]
              refine tri_mono (ih (p + num) d st5 h52 h54 (by rw [h56, hk4.1, hp]) hn1
                (by rw [h51, hk4.2.1]; exact hel) hd6) ?_
              intro p' st7 ⟨h71, h72, h73, h74, h75⟩
              exact ⟨by rw [h71, h51, hk4.2.1], by rw [h72, h55]; exact exN_eq_of hk4.2.2, h73, by omega, h75⟩
          apply tri_bind
          apply tri_bind
          refine tri_mono (t_matchAt_spec asTrait dollar asTrait_nz hd2) ?_
          intro b st4 ⟨h4, _⟩
          subst h4
          apply tri_ite
          · intro _
            apply tri_bind
            refine tri_mono (t_neutral (appendBytes [62])) ?_
            intro _ st5 hk5
            apply tri_pure
            exact cont (dollar - p + (endp - dollar)) st5 (hk.trans hk5) (by omega) (by omega)
          · intro _
            apply tri_bind
            refine tri_mono (t_neutral (appendBytes punc)) ?_
            intro _ st5 hk5
            apply tri_pure
            exact cont (dollar - p + code.length + 2) st5 (hk.trans hk5) (by omega) (by omega)

theorem t_plain {st st0 : St} (n : Nat) (hl : st.len ≤ e.n) (hp : st.pos ≤ e.n) (hs : Stop e st.len)
    (hn : st.pos + n ≤ st.len) (h0 : st0.pos < st.pos) (h0l : st.len = st0.len) (h0e : exN st0 ≤ exN st) :
    Tri e st (do let _ ← consumeN n; pure (0 : Int)) (LeafPost e st0) := by
  apply tri_bind
  apply tri_consumeN n hl hs
  intro c st' h1 h5 h6
  exact tri_pure ⟨by omega, by omega, by omega, by omega, fun _ => by omega⟩

theorem t_sourceName {st : St} (hfx : e.fx = Fixes.all) (hl : st.len ≤ e.n) (hp : st.pos ≤ e.n) (hs : Stop e st.len) :
    Tri e st sourceName (LeafPost e st) := by
  have hx := exN_le st
  unfold sourceName
  apply tri_bind
  refine tri_mono (t_number hl hp hs) ?_
  intro num st1 ⟨h11, h13, h15, h16, h17⟩
  have h12 : st1.len ≤ e.n := h11 ▸ hl
  have h14 : Stop e st1.len := h11 ▸ hs
  apply tri_ite
  · intro _
    exact tri_pure ⟨h11, h13, h15, h16, fun h => by omega⟩
  intro hnum
  have hprog : st.pos < st1.pos := h17 (by omega)
  apply tri_bind
  apply tri_getEnv
  apply tri_bind
  apply tri_getSt
  apply s_eof_if (⟨rfl, rfl, rfl, h12, h13, h14, Nat.le_refl _, Nat.le_refl _⟩ : At e st1.len (exN st1) st1 st1.pos st1.len (exN st1))
  · intro _
    apply tri_bind
    apply tri_ddDebug 0 (Nat.zero_le _)
    intro st2 h21 h25 h26
    exact tri_pure ⟨by omega, by omega, by omega, by omega, fun _ => by omega⟩
  intro hlt
  dsimp only
  have hov : (!e.fx.intOvf && decide (st1.pos + num.toNat > 2147483647)) = false := by
    simp [hfx, Fixes.all]
  rw [hov]
  simp only [Bool.false_eq_true, ↓reduceIte]
  apply tri_ite
  · intro _
    apply tri_bind
    apply tri_ddDebug 0 (Nat.zero_le _)
    intro st2 h21 h25 h26
    exact tri_pure ⟨by omega, by omega, by omega, by omega, fun _ => by omega⟩
  intro hfit
  have hfit : st1.pos + num.toNat ≤ st1.len := by omega
  have plain := t_plain (st0 := st) num.toNat h12 h13 h14 hfit hprog h11 h15
  apply tri_ite
  · intro _; exact plain
  intro _
  apply tri_ite
  · intro _; exact plain
  intro _
  apply tri_bind
  apply tri_bind
  apply tri_rdAt _ h13
  intro x _
  have hashPart : Tri e st1 (if (num.toNat == 17 && x == 104) = true then do
        let bs ← readRange (st1.pos + 1) 16
        pure (bs.all isXDigit)
      else pure false) (fun _ st' => st' = st1) := by
    apply tri_ite
    · intro h17
      have h17 : num.toNat = 17 := by
        simp only [Bool.and_eq_true, beq_iff_eq] at h17
        exact h17.1
      apply tri_bind
      refine tri_mono (t_readRange 16 (st1.pos + 1) (by omega)) ?_
      intro bs st' h
      subst h
      exact tri_pure rfl
    · intro _
      exact tri_pure rfl
  refine tri_mono hashPart ?_
  intro isHash st' hst'
  rw [hst']
  apply tri_ite
  · intro _; exact plain
  intro _
  apply tri_bind
  refine tri_mono (t_neutral (appendSeparator colon2)) ?_
  intro _ st2 hk2
  have hl2 : st2.len ≤ e.n := by rw [hk2.2.1]; exact h12
  have hs2 : Stop e st2.len := by rw [hk2.2.1]; exact h14
  have hp2 : st2.pos ≤ e.n := by rw [hk2.1]; exact h13
  have he2 : exN st2 = exN st1 := exN_eq_of hk2.2.2
  -- the common tail `appendFrom p n; consumeN n; return 0`
  have tail : Tri e st2 (do
      appendFrom st1.pos num.toNat
      let _ ← consumeN num.toNat
      pure (0 : Int)) (LeafPost e st) := by
    apply tri_bind
    refine tri_mono (t_appendFrom st1.pos num.toNat (by omega)) ?_
    intro _ st3 hk3
    have hk := hk2.trans hk3
    exact t_plain (st0 := st) num.toNat (by rw [hk.2.1]; exact h12) (by rw [hk.1]; exact h13)
      (by rw [hk.2.1]; exact h14) (by rw [hk.1, hk.2.1]; exact hfit) (by rw [hk.1]; exact hprog)
      (by rw [hk.2.1]; exact h11) (by rw [exN_eq_of hk.2.2]; exact h15)
  try dsimp only
  apply tri_bind
  refine tri_mono (t_findByte 36 _ st1.pos h13) ?_
  intro r st3 ⟨h3, hd⟩
  rw [h3]
  split
  · exact tail
  · rename_i dollar
    apply tri_ite
    · intro _; exact tail
    intro hde
    apply tri_bind
    refine tri_mono (t_dollarLoop (st1.pos + num.toNat) (by simp [hfx, Fixes.all]) _ st1.pos (some dollar) st2 hl2 hs2
      hk2.1 (by omega) (by rw [hk2.2.1]; exact hfit) (fun d hd' => hd d hd')) ?_
    intro p' st4 ⟨h41, h42, h43, h44, h45⟩
    try dsimp only
    have hnum' : ((st1.pos + num.toNat : Nat) : Int) - (p' : Int) = ((st1.pos + num.toNat - p' : Nat) : Int) := by omega
    rw [hnum']
    unfold appendFromInt consumeInt
    simp only [Int.natCast_nonneg, ge_iff_le, ↓reduceIte, Int.toNat_natCast]
    apply tri_bind
    refine tri_mono (t_appendFrom p' (st1.pos + num.toNat - p') (by omega)) ?_
    intro _ st5 hk5
    apply tri_bind
    apply tri_bind
    apply tri_consumeN _ (by rw [hk5.2.1, h41]; exact hl2) (by rw [hk5.2.1, h41]; exact hs2)
    intro c st6 h61 h65 h6
    rcases h6 with ⟨_, hfail, _⟩ | ⟨h66, _, _⟩
    · exfalso
      rw [hk5.1, hk5.2.1, h43, h41, hk2.2.1] at hfail
      omega
    · apply tri_pure
      apply tri_pure
      refine ⟨by rw [h61, hk5.2.1, h41, hk2.2.1, h11], by rw [h66, hk5.1, h43]; omega, ?_, ?_, fun _ => ?_⟩
      · rw [h65, exN_eq_of hk5.2.2, h42, he2]; exact h15
      · rw [h66, hk5.1, h43]; omega
      · rw [h66, hk5.1, h43]; omega


instance : LeafFn sourceName := ⟨fun hfx h => summ_of_leaf h (t_sourceName hfx h.len_le' h.pos_le' h.stop')⟩

macro_rules | `(tactic| wp_call) => `(tactic| call_step (s_seqId (by assumption)))

instance : LeafFn discriminator := ⟨fun hfx h => by
  unfold discriminator
  wp⟩


theorem isLowHex_facts (c : UInt8) (h : isLowHex c = true) : c.toNat ≠ 0 ∧ c.toNat ≠ 46 ∧ c.toNat ≠ 64 ∧ c.toNat ≠ 69 ∧ c.toNat ≠ 95 := by
  simp only [isLowHex, isXDigit, isDigit, isUpper, Bool.and_eq_true, Bool.or_eq_true, Bool.not_eq_true', decide_eq_true_eq,
    decide_eq_false_iff_not, u8_le_iff, Bool.and_eq_false_iff, UInt8.toNat_ofNat] at h
  omega

/-- the F10k loop terminates: a lowercase hex digit is never the byte at `len` -/
theorem t_hexSkip : ∀ (k : Nat) (st : St), st.len ≤ e.n → st.pos ≤ e.n → Stop e st.len → e.n + 1 ≤ k + st.pos →
    Tri e st (hexSkip k) (fun _ st' => st'.len = st.len ∧ st'.pos ≤ e.n ∧ exN st' = exN st ∧ st.pos ≤ st'.pos) := by
  intro k
  induction k with
  | zero => intro st hl hp hs hk; omega
  | succ k ih =>
    intro st hl hp hs hk
    unfold hexSkip
    apply tri_bind
    apply tri_curr hl hs
    intro c hc _
    apply tri_ite
    · intro hal
      have h3 := isLowHex_facts c hal
      apply tri_bind
      apply tri_consume hl hs
      intro c' st' h1 h5 h6
      refine tri_mono (ih st' (h1 ▸ hl) (by omega) (h1 ▸ hs) (by omega)) ?_
      intro _ st'' ⟨a, b, c, d⟩
      exact ⟨by omega, b, by omega, by omega⟩
    · intro _
      exact tri_pure ⟨rfl, hp, rfl, Nat.le_refl _⟩

theorem s_hexSkip {st : St} {p l x l0 x0 : Nat} (h : At e l0 x0 st p l x) :
    Tri e st (hexSkip (e.n + 1)) (Summ e 0 (fun _ _ => True) l0 x0 p) :=
  tri_mono (t_hexSkip _ st h.len_le' h.pos_le' h.stop' (by omega)) fun _ _ ⟨h1, h2, h3, h4⟩ =>
    summ_of_fields h h1 h2 (by omega) h4 trivial

macro_rules | `(tactic| wp_call) => `(tactic| call_step (s_hexSkip (by assumption)))
attribute [local irreducible] seqId sourceName discriminator hexSkip

instance : LeafFn abiTag := ⟨fun hfx h => by
  unfold abiTag
  wp⟩

attribute [local irreducible] abiTag

instance : LeafFn substitution := ⟨fun hfx h => by
  unfold substitution
  wp⟩


end leaf2

end Uft.Demangle

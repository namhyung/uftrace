import Uft.Model.DlRecord
import Uft.Lemmas.Symtab
import Uft.Lemmas.Session
/- Helper lemmas for C10: the record-time dlopen model (clock, windows, report loop, invariant). -/
namespace Uft.DlRecord
open Uft.Symtab Uft.SymFile

/-! ### the clock never goes back; records and objects carry the time of their creation -/

theorem step_now_le (cfg : Cfg) (st : St) (ev : Ev) : st.now ≤ (step cfg st ev).now := by
  cases ev <;> simp only [step] <;> try omega
  all_goals (split <;> simp)

theorem run_now_le (cfg : Cfg) (st : St) (evs : List Ev) : st.now ≤ (run cfg st evs).now := by
  induction evs generalizing st with
  | nil => exact Nat.le_refl _
  | cons e r ih => exact Nat.le_trans (step_now_le cfg st e) (ih _)

theorem step_recs (cfg : Cfg) (st : St) (ev : Ev) :
    ∃ new, (step cfg st ev).recs = st.recs ++ new ∧ ∀ r ∈ new, r.time = st.now := by
  cases ev with
  | call a => exact ⟨[_], rfl, by simp⟩
  | leave w h => refine ⟨[], ?_, by simp⟩; simp only [step]; split <;> simp
  | _ => exact ⟨[], by simp [step], by simp⟩

theorem run_recs (cfg : Cfg) (st : St) (evs : List Ev) :
    ∃ new, (run cfg st evs).recs = st.recs ++ new ∧ ∀ r ∈ new, st.now ≤ r.time := by
  induction evs generalizing st with
  | nil => exact ⟨[], by simp [run], by simp⟩
  | cons e r ih =>
    obtain ⟨n1, h1, t1⟩ := step_recs cfg st e
    obtain ⟨n2, h2, t2⟩ := ih (step cfg st e)
    refine ⟨n1 ++ n2, ?_, ?_⟩
    · show (run cfg (step cfg st e) r).recs = _
      rw [h2, h1, List.append_assoc]
    · intro x hx
      rcases List.mem_append.mp hx with h | h
      · rw [t1 x h]; exact Nat.le_refl _
      · exact Nat.le_trans (step_now_le cfg st e) (t2 x h)

theorem step_loaded (cfg : Cfg) (st : St) (ev : Ev) :
    ∀ o ∈ (step cfg st ev).loaded, o ∈ st.loaded ∨ o.born = st.now := by
  intro o ho
  cases ev with
  | load n r b s e t =>
    simp only [step, List.mem_append, List.mem_singleton] at ho
    rcases ho with h | h
    · exact Or.inl h
    · right; rw [h]
  | close h gone =>
    simp only [step] at ho
    exact Or.inl (List.mem_filter.mp ho).1
  | leave w h =>
    simp only [step] at ho
    split at ho <;> exact Or.inl ho
  | _ => exact Or.inl (by simpa [step] using ho)

theorem run_loaded (cfg : Cfg) (st : St) (evs : List Ev) :
    ∀ o ∈ (run cfg st evs).loaded, o ∈ st.loaded ∨ st.now ≤ o.born := by
  induction evs generalizing st with
  | nil => intro o ho; exact Or.inl ho
  | cons e r ih =>
    intro o ho
    rcases ih (step cfg st e) o ho with h | h
    · rcases step_loaded cfg st e o h with h' | h'
      · exact Or.inl h'
      · right; omega
    · right; exact Nat.le_trans (step_now_le cfg st e) h

/-! ### a window stays as it is until its own `leave` -/

/-- events of the dlopen() call with number `w` -/
def touches (w : Nat) : Ev → Bool
  | .enter w' _ => w' == w
  | .leave w' _ => w' == w
  | _ => false

theorem find?_filter_keep {α : Type} (p q : α → Bool) (l : List α) (h : ∀ x, p x = true → q x = true) :
    (l.filter q).find? p = l.find? p := by
  rw [List.find?_filter]
  congr 1
  funext x
  cases hp : p x
  · simp
  · simp [h x hp]

theorem step_findWin (cfg : Cfg) (st : St) (ev : Ev) (w : Nat) (h : touches w ev = false) :
    findWin (step cfg st ev).wins w = findWin st.wins w := by
  cases ev with
  | enter w' f =>
    simp only [touches] at h
    simp only [step, findWin, List.find?_cons, h]
  | leave w' hd =>
    simp only [touches] at h
    simp only [step]
    split
    · rfl
    · simp only [findWin]
      apply find?_filter_keep
      intro x hx
      have : x.id = w := by simpa using hx
      simp only [bne_iff_ne, ne_eq]
      intro hc
      rw [this] at hc
      simp [hc] at h
  | _ => rfl

theorem run_findWin (cfg : Cfg) (st : St) (evs : List Ev) (w : Nat)
    (h : ∀ ev ∈ evs, touches w ev = false) :
    findWin (run cfg st evs).wins w = findWin st.wins w := by
  induction evs generalizing st with
  | nil => rfl
  | cons e r ih =>
    show findWin (run cfg (step cfg st e) r).wins w = _
    rw [ih _ (fun ev hev => h ev (by simp [hev])), step_findWin cfg st e w (h e (by simp))]

/-! ### the report loop -/

/-- (fix) the objects counted before the real dlopen are passed over -/
theorem reportLoop_drop (cfg : Cfg) (hf : cfg.fixed = true) (win : Win) (h now subs : Nat)
    (hsubs : subs = win.subsBefore) (maps : List MMap) (msgs : List Msg) (k : Nat) :
    ∀ (idx : Nat) (objs : List Obj), idx + k ≤ win.nrBefore → k ≤ objs.length →
      reportLoop cfg win h now subs idx objs maps msgs =
        reportLoop cfg win h now subs (idx + k) (objs.drop k) maps msgs := by
  induction k with
  | zero => intro idx objs _ _; rfl
  | succ k ih =>
    intro idx objs hle hlen
    cases objs with
    | nil => simp at hlen
    | cons o r =>
      have : reports cfg win subs maps idx o = false := by
        unfold reports
        split
        · rfl
        · have hlt : idx + (subs - win.subsBefore) < win.nrBefore := by omega
          simp [hlt]
      simp only [reportLoop, this, Bool.false_eq_true, if_false]
      rw [ih (idx + 1) r (by omega) (by simpa using hlen), List.drop_succ_cons,
        Nat.add_right_comm idx 1 k]
      rfl

/-! ### the invariant of the repaired wrapper -/

/-- covered by one of the session maps read at start-up -/
def initCovered (maps : List MMap) (a : Nat) : Bool :=
  maps.any (fun m => m.handle.isNone && decide (m.start ≤ a) && decide (a < m.stop))

/-- an object that needs a DLOPEN message: named, not the vdso, not in the session maps -/
def Dyn (im : List MMap) (o : Obj) : Prop :=
  o.name ≠ [] ∧ o.name ≠ vdsoName ∧ initCovered im o.start = false

/-- the address lies in the object's text (`map->start <= addr < map->end`) -/
def covers (o : Obj) (a : Nat) : Prop := o.start ≤ a ∧ a < o.stop

def Overlap (x y : Obj) : Prop := x.start < y.stop ∧ y.start < x.stop

/-- load bias below the first segment, non-empty text, inside the 64-bit address space; the
    symbols of the table lie inside the text -/
def Shape (o : Obj) : Prop :=
  o.bias ≤ o.start ∧ o.start < o.stop ∧ o.stop < U64 ∧
    ∀ x ∈ o.syms, o.start ≤ o.bias + x.addr ∧ o.bias + x.addr + x.size ≤ o.stop

/-- a message sent for this very object, stamped no later than its mapping -/
def Reported (msgs : List Msg) (o : Obj) : Prop :=
  ∃ m ∈ msgs, m.obj = o ∧ m.time ≤ o.born

theorem Reported.mono {msgs msgs' : List Msg} {o : Obj} (h : Reported msgs o)
    (hs : ∀ m ∈ msgs, m ∈ msgs') : Reported msgs' o := by
  obtain ⟨m, hm, h'⟩ := h
  exact ⟨m, hs m hm, h'⟩

theorem forall_mem_snoc {α : Type} {p : α → Prop} {l : List α} {a : α} :
    (∀ x ∈ l ++ [a], p x) ↔ (∀ x ∈ l, p x) ∧ p a := by
  rw [List.forall_mem_append, List.forall_mem_singleton]

theorem covers_overlap {x y : Obj} {a : Nat} (hx : covers x a) (hy : covers y a) : Overlap x y := by
  unfold covers at hx hy; unfold Overlap; omega

/-- what the loader, the clock and the program may do (hypotheses on a trace, evaluated along
    the run):
    * dlopen() calls in progress have distinct numbers, and the clock value a dlopen() reads is
      larger than every value read before (by `mcount_entry` or by another dlopen());
    * objects are mapped only inside a real dlopen, with a non-empty text inside the 64-bit
      address space that no loaded object's text overlaps, and the symbols of their tables lie
      inside the text;
    * nothing is unloaded while a dlopen() is in progress. -/
def EvOk (st : St) : Ev → Prop
  | .enter w _ => (∀ x ∈ st.wins, x.id ≠ w) ∧ st.lastRead < st.now
  | .load _ _ b s e t =>
    st.wins ≠ [] ∧ b ≤ s ∧ s < e ∧ e < U64 ∧ (∀ x ∈ t, s ≤ b + x.addr ∧ b + x.addr + x.size ≤ e) ∧
      ∀ o ∈ st.loaded, ¬ (o.start ≤ s ∧ s < o.stop) ∧ ¬ (s ≤ o.start ∧ o.start < e)
  | .close _ _ => st.wins = []
  | _ => True

def Valid (cfg : Cfg) : St → List Ev → Prop
  | _, [] => True
  | st, ev :: r => EvOk st ev ∧ Valid cfg (step cfg st ev) r

structure Inv (im : List MMap) (st : St) : Prop where
  initc : ∀ a, initCovered st.maps a = initCovered im a
  bornle : ∀ o ∈ st.loaded, o.born ≤ st.now
  win : ∀ w ∈ st.wins, w.ts ≤ st.now ∧ w.nrBefore ≤ st.loaded.length ∧ w.subsBefore = st.subs ∧
          ∀ o ∈ st.loaded.drop w.nrBefore, w.ts ≤ o.born
  obj : ∀ o ∈ st.loaded, Dyn im o →
          Reported st.msgs o ∨ ∃ w ∈ st.wins, o ∈ st.loaded.drop w.nrBefore
  live : ∀ m ∈ st.maps, m.handle ≠ none → m.live = true →
          ∃ o ∈ st.loaded, o.start = m.start ∧ o.stop = m.stop ∧ Reported st.msgs o
  phys : ∀ o ∈ st.loaded, ∀ o' ∈ st.loaded, o.start ≤ o'.start → o'.start < o.stop → o = o'
  shape : ∀ o ∈ st.loaded, Shape o
  shapem : ∀ m ∈ st.msgs, Shape m.obj
  recs : ∀ r ∈ st.recs, (∀ o ∈ r.objs, o.born ≤ r.time) ∧
          ∀ o ∈ r.objs, Dyn im o → Reported st.msgs o ∨ o ∈ st.loaded
  uniq : st.wins.Pairwise (fun a b => a.id ≠ b.id)
  idl : ∀ o ∈ st.loaded, o.id < st.nloads
  idm : ∀ m ∈ st.msgs, m.obj.id < st.nloads
  clock : st.lastRead ≤ st.now
  clockr : ∀ r ∈ st.recs, r.time ≤ st.lastRead
  clockm : ∀ m ∈ st.msgs, m.time ≤ st.lastRead
  clockw : ∀ w ∈ st.wins, w.ts ≤ st.lastRead
  msgok : ∀ m ∈ st.msgs, m.time ≤ m.obj.born ∧ m.name = m.obj.name ∧ m.bias = m.obj.bias
  -- a message or a record that saw an object since unloaded is older than every dlopen() in progress
  dead : ∀ m ∈ st.msgs, m.obj ∉ st.loaded → ∀ w ∈ st.wins, m.time < w.ts
  deadr : ∀ r ∈ st.recs, ∀ o ∈ r.objs, o ∉ st.loaded → ∀ w ∈ st.wins, r.time < w.ts
  -- a message for an object that overlaps a loaded `o` is older than every message for `o` and than
  -- every dlopen() in progress that brought `o` in
  order : ∀ m ∈ st.msgs, ∀ o ∈ st.loaded, Overlap m.obj o → m.obj = o ∨
          ((∀ m' ∈ st.msgs, m'.obj = o → m.time < m'.time) ∧
           ∀ w ∈ st.wins, o ∈ st.loaded.drop w.nrBefore → m.time < w.ts)
  -- between the message for the object a record was made in and the record itself there is no
  -- message for another object at that address (what `c10_dlopen_record_resolves` rests on)
  key : ∀ r ∈ st.recs, ∀ o ∈ r.objs, ∀ m ∈ st.msgs, ∀ mo ∈ st.msgs,
          covers o r.addr → covers m.obj r.addr → mo.obj = o → mo.time ≤ m.time →
          m.time ≤ r.time → m.obj = o

theorem phys_overlap {l : List Obj}
    (hp : ∀ o ∈ l, ∀ o' ∈ l, o.start ≤ o'.start → o'.start < o.stop → o = o')
    {x y : Obj} (hx : x ∈ l) (hy : y ∈ l) (ho : Overlap x y) : x = y := by
  unfold Overlap at ho
  by_cases h : x.start ≤ y.start
  · exact hp x hx y hy h ho.2
  · exact (hp y hy x hx (by omega) ho.1).symm

theorem initCovered_cons_dyn (m : MMap) (maps : List MMap) (a : Nat) (h : m.handle ≠ none) :
    initCovered (m :: maps) a = initCovered maps a := by
  unfold initCovered
  cases hh : m.handle with
  | none => exact absurd hh h
  | some x => simp [hh]

theorem initCovered_markGone (l : List Obj) (maps : List MMap) (a : Nat) :
    initCovered (markGone l maps) a = initCovered maps a := by
  induction maps with
  | nil => rfl
  | cons m r ih =>
    unfold initCovered at ih ⊢
    simp only [markGone, List.map_cons, List.any_cons] at ih ⊢
    rw [ih]
    congr 1
    split
    · rename_i hc
      simp only [Bool.and_eq_true] at hc
      have : m.handle.isNone = false := by
        cases hh : m.handle with
        | none => simp [hh] at hc
        | some _ => rfl
      simp [this]
    · rfl

theorem mem_markGone (l : List Obj) (maps : List MMap) (m : MMap)
    (hm : m ∈ markGone l maps) (hl : m.live = true) (hh : m.handle ≠ none) :
    m ∈ maps ∧ ∃ o ∈ l, o.start = m.start := by
  unfold markGone at hm
  obtain ⟨x, hx, hxm⟩ := List.mem_map.mp hm
  split at hxm
  · subst hxm; simp at hl
  · rename_i hc
    subst hxm
    refine ⟨hx, ?_⟩
    have hs : x.handle.isSome = true := by
      cases hx' : x.handle with
      | none => exact absurd hx' hh
      | some _ => rfl
    simp only [hl, hs, Bool.true_and, Bool.not_eq_true', Bool.not_eq_false] at hc
    have hc' : (l.any fun o => o.start == x.start) = true := by
      cases h : (l.any fun o => o.start == x.start) with
      | true => rfl
      | false => simp [h] at hc
    obtain ⟨o, ho, he⟩ := List.any_eq_true.mp hc'
    exact ⟨o, ho, by simpa using he⟩

/-- the loop over the objects appended since the timestamp was taken -/
theorem reportLoop_post (cfg : Cfg) (hf : cfg.fixed = true) (hs : cfg.stampAtSend = false)
    (im : List MMap) (win : Win) (h now subs : Nat) (L : List Obj)
    (hphys : ∀ o ∈ L, ∀ o' ∈ L, o.start ≤ o'.start → o'.start < o.stop → o = o')
    (objs : List Obj) (idx : Nat) (maps : List MMap) (msgs : List Msg)
    (hidx : win.nrBefore ≤ idx)
    (hsub : ∀ o ∈ objs, o ∈ L) (hborn : ∀ o ∈ objs, win.ts ≤ o.born)
    (hinit : ∀ a, initCovered maps a = initCovered im a)
    (hlive : ∀ m ∈ maps, m.handle ≠ none → m.live = true →
        ∃ o ∈ L, o.start = m.start ∧ o.stop = m.stop ∧ Reported msgs o) :
    let res := reportLoop cfg win h now subs idx objs maps msgs
    (∀ a, initCovered res.1 a = initCovered im a) ∧
    (∀ m ∈ res.1, m.handle ≠ none → m.live = true →
        ∃ o ∈ L, o.start = m.start ∧ o.stop = m.stop ∧ Reported res.2 o) ∧
    (∃ new, res.2 = msgs ++ new ∧ ∀ m ∈ new, m.obj ∈ objs ∧ m.time = win.ts ∧
        m.name = m.obj.name ∧ m.bias = m.obj.bias) ∧
    (∀ o ∈ objs, Dyn im o → Reported res.2 o) := by
  induction objs generalizing idx maps msgs with
  | nil => exact ⟨hinit, hlive, ⟨[], (List.append_nil _).symm, fun _ hm => nomatch hm⟩, by simp⟩
  | cons o r ih =>
    have hoL : o ∈ L := hsub o (by simp)
    simp only [reportLoop]
    split
    · -- reported
      rename_i hrep
      have hrepo : Reported (msgs ++ [mkMsg cfg win now o]) o :=
        ⟨mkMsg cfg win now o, by simp, rfl, by simp [mkMsg, hs, hborn o (by simp)]⟩
      have := ih (idx + 1) (mkMap h o :: maps) (msgs ++ [mkMsg cfg win now o]) (by omega)
        (fun x hx => hsub x (by simp [hx])) (fun x hx => hborn x (by simp [hx]))
        (fun a => by rw [initCovered_cons_dyn _ _ _ (by simp [mkMap])]; exact hinit a)
        (by
          intro m hm hh hl
          rcases List.mem_cons.mp hm with e | e
          · subst e; exact ⟨o, hoL, rfl, rfl, hrepo⟩
          · obtain ⟨o', ho', h1, h2, h3⟩ := hlive m e hh hl
            exact ⟨o', ho', h1, h2, h3.mono (fun x hx => by simp [hx])⟩)
      obtain ⟨r1, r2, ⟨new, e, hn⟩, r4⟩ := this
      rw [e] at r2 r4 ⊢
      have r3 : ∀ m ∈ msgs ++ [mkMsg cfg win now o], m ∈ msgs ++ [mkMsg cfg win now o] ++ new :=
        fun m hm => List.mem_append_left _ hm
      refine ⟨r1, r2, ⟨mkMsg cfg win now o :: new, by rw [List.append_assoc]; rfl, ?_⟩,
        List.forall_mem_cons.mpr ⟨fun _ => hrepo.mono r3, r4⟩⟩
      refine List.forall_mem_cons.mpr ⟨⟨List.mem_cons_self, by simp [mkMsg, hs], rfl, rfl⟩, ?_⟩
      exact fun m hm => ⟨List.mem_cons_of_mem _ (hn m hm).1, (hn m hm).2⟩
    · -- not reported
      rename_i hrep
      have := ih (idx + 1) maps msgs (by omega)
        (fun x hx => hsub x (by simp [hx])) (fun x hx => hborn x (by simp [hx])) hinit hlive
      obtain ⟨r1, r2, ⟨new, e, hn⟩, r4⟩ := this
      rw [e] at r2 r4 ⊢
      have r3 : ∀ m ∈ msgs, m ∈ msgs ++ new := fun m hm => List.mem_append_left _ hm
      refine ⟨r1, r2, ⟨new, rfl, fun m hm => ⟨List.mem_cons_of_mem _ (hn m hm).1, (hn m hm).2⟩⟩,
        List.forall_mem_cons.mpr ⟨fun hd => ?_, r4⟩⟩
      -- a named object past the counted ones is skipped only when its address is known
      have hk : addrKnown maps o.start = true := by
        unfold reports at hrep
        have h1 : (o.name.isEmpty || o.name == vdsoName) = false := by
          have a1 : o.name.isEmpty = false := by simpa using hd.1
          have a2 : (o.name == vdsoName) = false := by simpa using hd.2.1
          simp [a1, a2]
        simp only [h1, hf, if_true, Bool.false_eq_true, if_false] at hrep
        have h2 : ¬ (idx + (subs - win.subsBefore) < win.nrBefore) := by omega
        simpa [h2] using hrep
      unfold addrKnown at hk
      obtain ⟨m, hm, hc⟩ := List.any_eq_true.mp hk
      simp only [Bool.and_eq_true, Bool.or_eq_true, decide_eq_true_eq] at hc
      obtain ⟨⟨hhl, hlo⟩, hhi⟩ := hc
      by_cases hnone : m.handle = none
      · -- a session map: the object is not dynamic
        exfalso
        have : initCovered maps o.start = true := by
          unfold initCovered
          exact List.any_eq_true.mpr ⟨m, hm, by simp [hnone, hlo, hhi]⟩
        rw [hinit, hd.2.2] at this
        exact Bool.false_ne_true this
      · have hl : m.live = true := by
          rcases hhl with e | e
          · simp [Option.isNone_iff_eq_none] at e; exact absurd e hnone
          · exact e
        obtain ⟨o', ho', h1, h2, h3⟩ := hlive m hm hnone hl
        have : o' = o := hphys o' ho' o hoL (by omega) (by omega)
        subst this
        exact h3.mono r3

theorem win_eq_of_id {wins : List Win} (hu : wins.Pairwise (fun a b => a.id ≠ b.id))
    {x y : Win} (hx : x ∈ wins) (hy : y ∈ wins) (he : x.id = y.id) : x = y := by
  rcases pairwise_pair hu hx hy with e | e | e
  · exact e
  · exact absurd he e
  · exact absurd he.symm e

theorem inv_step (im : List MMap) (cfg : Cfg) (hf : cfg.fixed = true) (hs : cfg.stampAtSend = false)
    (st : St) (ev : Ev) (hinv : Inv im st) (hok : EvOk st ev) : Inv im (step cfg st ev) := by
  cases ev with
  | tick dt =>
    exact { hinv with
      bornle := fun o ho => Nat.le_trans (hinv.bornle o ho) (Nat.le_add_right _ _)
      win := fun w hw => ⟨Nat.le_trans (hinv.win w hw).1 (Nat.le_add_right _ _), (hinv.win w hw).2⟩
      clock := Nat.le_trans hinv.clock (Nat.le_add_right _ _) }
  | call a =>
    refine { hinv with
      key := ?_
      recs := forall_mem_snoc.mpr ⟨hinv.recs, hinv.bornle, fun o ho _ => Or.inr ho⟩
      clock := Nat.le_refl _
      clockr := forall_mem_snoc.mpr
        ⟨fun r h => Nat.le_trans (hinv.clockr r h) hinv.clock, Nat.le_refl _⟩
      clockm := fun m hm => Nat.le_trans (hinv.clockm m hm) hinv.clock
      clockw := fun w hw => Nat.le_trans (hinv.clockw w hw) hinv.clock
      deadr := forall_mem_snoc.mpr ⟨hinv.deadr, fun o ho hno => absurd ho hno⟩ }
    refine forall_mem_snoc.mpr ⟨hinv.key, ?_⟩
    intro o ho m hm mo hmo hco hcm hmo' hle hlt
    rcases hinv.order m hm o ho (covers_overlap hcm hco) with e | ⟨e, _⟩
    · exact e
    · have := e mo hmo hmo'
      omega
  | enter w f =>
    simp only [EvOk] at hok
    obtain ⟨hok, hclk⟩ := hok
    refine { hinv with
      obj := ?_
      order := ?_
      win := List.forall_mem_cons.mpr ⟨⟨Nat.le_refl _, Nat.le_refl _, rfl, by simp [step]⟩, hinv.win⟩
      uniq := List.pairwise_cons.mpr ⟨fun x hx e => hok x hx e.symm, hinv.uniq⟩
      clock := Nat.le_refl _
      clockr := fun r hr => Nat.le_trans (hinv.clockr r hr) hinv.clock
      clockm := fun m hm => Nat.le_trans (hinv.clockm m hm) hinv.clock
      clockw := List.forall_mem_cons.mpr
        ⟨Nat.le_refl _, fun x hx => Nat.le_trans (hinv.clockw x hx) hinv.clock⟩
      dead := fun m hm hno => List.forall_mem_cons.mpr
        ⟨Nat.lt_of_le_of_lt (hinv.clockm m hm) hclk, hinv.dead m hm hno⟩
      deadr := fun r hr o ho hno => List.forall_mem_cons.mpr
        ⟨Nat.lt_of_le_of_lt (hinv.clockr r hr) hclk, hinv.deadr r hr o ho hno⟩ }
    · intro o ho hd
      rcases hinv.obj o ho hd with h | ⟨x, hx, hx'⟩
      · exact Or.inl h
      · exact Or.inr ⟨x, List.mem_cons_of_mem _ hx, hx'⟩
    · intro m hm o ho hov
      rcases hinv.order m hm o ho hov with e | ⟨e1, e2⟩
      · exact Or.inl e
      · refine Or.inr ⟨e1, List.forall_mem_cons.mpr ⟨?_, e2⟩⟩
        intro hxo
        simp [step] at hxo
  | load n r b s e t =>
    simp only [EvOk] at hok
    obtain ⟨hne, hbs, hse, heu, hsy, hdis⟩ := hok
    have hold : ∀ o ∈ st.loaded, o ∈ (step cfg st (.load n r b s e t)).loaded :=
      fun o ho => List.mem_append_left _ ho
    have hdrop : ∀ w ∈ st.wins, (step cfg st (.load n r b s e t)).loaded.drop w.nrBefore =
        st.loaded.drop w.nrBefore ++ [⟨n, r, b, s, e, t, st.now, st.nloads⟩] :=
      fun w hw => List.drop_append_of_le_length (hinv.win w hw).2.1
    -- the new object
    have hfresh : ∀ o ∈ st.loaded, o ≠ (⟨n, r, b, s, e, t, st.now, st.nloads⟩ : Obj) :=
      fun o ho he => Nat.ne_of_lt (hinv.idl o ho) (congrArg Obj.id he)
    have hfreshm : ∀ m ∈ st.msgs, m.obj ≠ (⟨n, r, b, s, e, t, st.now, st.nloads⟩ : Obj) :=
      fun m hm he => Nat.ne_of_lt (hinv.idm m hm) (congrArg Obj.id he)
    refine { hinv with
      win := ?_
      obj := ?_
      phys := ?_
      order := ?_
      bornle := forall_mem_snoc.mpr ⟨hinv.bornle, Nat.le_refl _⟩
      live := fun m hm hh hl => (hinv.live m hm hh hl).imp fun o h' => ⟨hold o h'.1, h'.2⟩
      shape := forall_mem_snoc.mpr ⟨hinv.shape, hbs, hse, heu, hsy⟩
      recs := fun r' hr' => ⟨(hinv.recs r' hr').1, fun o ho hd =>
        ((hinv.recs r' hr').2 o ho hd).imp id (hold o)⟩
      idl := forall_mem_snoc.mpr ⟨fun o h => Nat.lt_succ_of_lt (hinv.idl o h), Nat.lt_succ_self _⟩
      idm := fun m hm => Nat.lt_succ_of_lt (hinv.idm m hm)
      dead := fun m hm hno => hinv.dead m hm (fun hin => hno (hold _ hin))
      deadr := fun r' hr' o ho hno => hinv.deadr r' hr' o ho (fun hin => hno (hold o hin)) }
    · intro w hw
      obtain ⟨h1, h2, h3, h4⟩ := hinv.win w hw
      refine ⟨h1, by simp only [step, List.length_append]; omega, h3, ?_⟩
      rw [hdrop w hw]
      exact forall_mem_snoc.mpr ⟨h4, h1⟩
    · refine forall_mem_snoc.mpr ⟨fun o h hd => ?_, fun _ => ?_⟩
      · rcases hinv.obj o h hd with h' | ⟨x, hx, hx'⟩
        · exact Or.inl h'
        · exact Or.inr ⟨x, hx, by rw [hdrop x hx]; exact List.mem_append_left _ hx'⟩
      · obtain ⟨x, hx⟩ := List.exists_mem_of_ne_nil _ hne
        exact Or.inr ⟨x, hx, by rw [hdrop x hx]; simp⟩
    · intro o ho o' ho' h1 h2
      simp only [step, List.mem_append, List.mem_singleton] at ho ho'
      rcases ho with a | a <;> rcases ho' with c | c
      · exact hinv.phys o a o' c h1 h2
      · subst c
        exact absurd ⟨h1, h2⟩ (hdis o a).1
      · subst a
        exact absurd ⟨h1, h2⟩ (hdis o' c).2
      · rw [a, c]
    · intro m hm
      refine forall_mem_snoc.mpr ⟨fun o h hov => ?_, fun hov => Or.inr ?_⟩
      · rcases hinv.order m hm o h hov with e' | ⟨e1, e2⟩
        · exact Or.inl e'
        · refine Or.inr ⟨e1, fun x hx hxo => ?_⟩
          rw [hdrop x hx] at hxo
          rcases List.mem_append.mp hxo with h' | h'
          · exact e2 x hx h'
          · exact absurd (List.mem_singleton.mp h') (hfresh o h)
      · -- the object of `m` overlaps the new one, so it is not loaded any more
        have hgone : m.obj ∉ st.loaded := by
          intro hin
          obtain ⟨d1, d2⟩ := hdis m.obj hin
          unfold Overlap at hov
          simp only at hov
          by_cases hc : m.obj.start ≤ s
          · exact d1 ⟨hc, hov.2⟩
          · exact d2 ⟨by omega, hov.1⟩
        exact ⟨fun m' hm' he' => absurd he' (hfreshm m' hm'),
          fun x hx _ => hinv.dead m hm hgone x hx⟩
  | close h gone =>
    simp only [EvOk] at hok
    have hrep : ∀ o ∈ st.loaded, Dyn im o → Reported st.msgs o := by
      intro o ho hd
      rcases hinv.obj o ho hd with h' | ⟨x, hx, _⟩
      · exact h'
      · rw [hok] at hx
        cases hx
    have hsub : ∀ o, o ∈ (step cfg st (.close h gone)).loaded → o ∈ st.loaded :=
      fun o ho => (List.mem_filter.mp ho).1
    have hnow : ∀ x, x ∉ (step cfg st (.close h gone)).wins := by
      intro x hx
      rw [show (step cfg st (.close h gone)).wins = [] from hok] at hx
      cases hx
    refine { hinv with
      initc := ?_
      live := ?_
      bornle := fun o ho => hinv.bornle o (hsub o ho)
      win := fun w hw => absurd hw (hnow w)
      obj := fun o ho hd => Or.inl (hrep o (hsub o ho) hd)
      phys := fun o ho o' ho' => hinv.phys o (hsub o ho) o' (hsub o' ho')
      shape := fun o ho => hinv.shape o (hsub o ho)
      recs := fun r hr => ⟨(hinv.recs r hr).1, fun o ho hd =>
        Or.inl (((hinv.recs r hr).2 o ho hd).elim id (fun h' => hrep o h' hd))⟩
      idl := fun o ho => hinv.idl o (hsub o ho)
      dead := fun m _ _ x hx => absurd hx (hnow x)
      deadr := fun r _ o _ _ x hx => absurd hx (hnow x)
      order := fun m hm o ho hov => (hinv.order m hm o (hsub o ho) hov).imp id
        (fun e => ⟨e.1, fun x hx => absurd hx (hnow x)⟩) }
    · intro a
      simp only [step, hf, if_true]
      rw [initCovered_markGone]
      exact hinv.initc a
    · intro m hm hh hl
      simp only [step, hf, if_true] at hm
      obtain ⟨hm', o', ho', hs'⟩ := mem_markGone _ st.maps m hm hl hh
      obtain ⟨o, ho, h1, h2, h3⟩ := hinv.live m hm' hh hl
      have ho'l : o' ∈ st.loaded := (List.mem_filter.mp ho').1
      have : o = o' := hinv.phys o ho o' ho'l (by omega) (by have := (hinv.shape o ho).2.1; omega)
      subst this
      exact ⟨o, ho', h1, h2, h3⟩
  | leave w h =>
    simp only [step]
    cases hfw : findWin st.wins w with
    | none => exact hinv
    | some win =>
      simp only
      have hwin : win ∈ st.wins := List.mem_of_find?_eq_some hfw
      have hid : win.id = w := by
        have := List.find?_some hfw
        simpa using this
      obtain ⟨wts, wlen, wsubs, wborn⟩ := hinv.win win hwin
      rw [reportLoop_drop cfg hf win h st.now st.subs wsubs.symm st.maps st.msgs win.nrBefore 0
        st.loaded (by omega) wlen, Nat.zero_add]
      have post := reportLoop_post cfg hf hs im win h st.now st.subs st.loaded hinv.phys
        (st.loaded.drop win.nrBefore) win.nrBefore st.maps st.msgs (Nat.le_refl _)
        (fun o ho => List.mem_of_mem_drop ho) wborn hinv.initc hinv.live
      obtain ⟨p1, p2, ⟨new, hnew, hN⟩, p4⟩ := post
      have p3 : ∀ m ∈ st.msgs, m ∈ st.msgs ++ new := fun m hm => List.mem_append_left _ hm
      have hNl : ∀ m ∈ new, m.obj ∈ st.loaded := fun m hm => List.mem_of_mem_drop (hN m hm).1
      rw [hnew] at p2 p4 ⊢
      have hwsub : ∀ x, x ∈ st.wins.filter (fun x => x.id != w) → x ∈ st.wins :=
        fun x hx => (List.mem_filter.mp hx).1
      refine { hinv with
        obj := ?_
        clockm := ?_
        msgok := ?_
        order := ?_
        key := ?_
        initc := p1
        live := p2
        win := fun x hx => hinv.win x (hwsub x hx)
        uniq := List.Pairwise.sublist List.filter_sublist hinv.uniq
        clockw := fun x hx => hinv.clockw x (hwsub x hx)
        deadr := fun r hr o ho hno x hx => hinv.deadr r hr o ho hno x (hwsub x hx)
        shapem := List.forall_mem_append.mpr ⟨hinv.shapem, fun m e => hinv.shape _ (hNl m e)⟩
        idm := List.forall_mem_append.mpr ⟨hinv.idm, fun m e => hinv.idl _ (hNl m e)⟩
        dead := List.forall_mem_append.mpr
          ⟨fun m e hno x hx => hinv.dead m e hno x (hwsub x hx), fun m e hno => absurd (hNl m e) hno⟩
        recs := fun r hr => ⟨(hinv.recs r hr).1, fun o ho hd =>
          ((hinv.recs r hr).2 o ho hd).imp (fun h' => h'.mono p3) id⟩ }
      · intro o ho hd
        rcases hinv.obj o ho hd with h' | ⟨x, hx, hx'⟩
        · exact Or.inl (h'.mono p3)
        · by_cases hxe : x.id = w
          · -- the window that is closing: the object was in its part of the list
            have : x = win := win_eq_of_id hinv.uniq hx hwin (by rw [hxe, hid])
            subst this
            exact Or.inl (p4 o hx' hd)
          · exact Or.inr ⟨x, List.mem_filter.mpr ⟨hx, by simpa using hxe⟩, hx'⟩
      · refine List.forall_mem_append.mpr ⟨hinv.clockm, fun m e => ?_⟩
        rw [(hN m e).2.1]
        exact hinv.clockw win hwin
      · refine List.forall_mem_append.mpr ⟨hinv.msgok, fun m e => ?_⟩
        obtain ⟨n1, n2, n3, n4⟩ := hN m e
        exact ⟨by rw [n2]; exact wborn _ n1, n3, n4⟩
      · refine List.forall_mem_append.mpr
          ⟨fun m e o ho hov => ?_, fun m e o ho hov => Or.inl (phys_overlap hinv.phys (hNl m e) ho hov)⟩
        rcases hinv.order m e o ho hov with e' | ⟨e1, e2⟩
        · exact Or.inl e'
        · refine Or.inr ⟨List.forall_mem_append.mpr ⟨e1, fun m' f hm'o => ?_⟩,
            fun x hx hxo => e2 x (hwsub x hx) hxo⟩
          obtain ⟨n1, n2, _, _⟩ := hN m' f
          rw [n2]
          rw [hm'o] at n1
          exact e2 win hwin n1
      · intro r hr o ho m hm mo hmo hco hcm hmo' hle hlt
        rcases List.mem_append.mp hm with e | e
        · rcases List.mem_append.mp hmo with f | f
          · exact hinv.key r hr o ho m e mo f hco hcm hmo' hle hlt
          · -- the message for `o` is new: `o` is loaded, in the part of the closing window
            obtain ⟨n1, n2, _, _⟩ := hN mo f
            rw [hmo'] at n1
            have hol : o ∈ st.loaded := List.mem_of_mem_drop n1
            rcases hinv.order m e o hol (covers_overlap hcm hco) with e' | ⟨_, e2⟩
            · exact e'
            · have := e2 win hwin n1
              omega
        · -- `m` is new
          obtain ⟨n1, n2, _, _⟩ := hN m e
          by_cases hol : o ∈ st.loaded
          · exact phys_overlap hinv.phys (hNl m e) hol (covers_overlap hcm hco)
          · have := hinv.deadr r hr o ho hol win hwin
            omega

theorem inv_run (im : List MMap) (cfg : Cfg) (hf : cfg.fixed = true) (hs : cfg.stampAtSend = false)
    (st : St) (evs : List Ev) (hinv : Inv im st) (hv : Valid cfg st evs) :
    Inv im (run cfg st evs) := by
  induction evs generalizing st with
  | nil => exact hinv
  | cons e r ih => exact ih _ (inv_step im cfg hf hs st e hinv hv.1) hv.2

/-- a state right after libmcount's start-up: the maps are the session maps, every loaded
    object is covered by them (or is the main program / the vdso) -/
structure Init (st : St) : Prop where
  maps : ∀ m ∈ st.maps, m.handle = none
  wins : st.wins = []
  recs : st.recs = []
  msgs : st.msgs = []
  objs : ∀ o ∈ st.loaded, ¬ Dyn st.maps o
  born : ∀ o ∈ st.loaded, o.born ≤ st.now
  phys : ∀ o ∈ st.loaded, ∀ o' ∈ st.loaded, o.start ≤ o'.start → o'.start < o.stop → o = o'
  shape : ∀ o ∈ st.loaded, Shape o
  ids : ∀ o ∈ st.loaded, o.id < st.nloads
  clock : st.lastRead ≤ st.now

theorem inv_init (st : St) (h : Init st) : Inv st.maps st := by
  obtain ⟨now, loaded, subs, maps, wins, msgs, recs, nloads, lastRead⟩ := st
  obtain ⟨hmaps, rfl, rfl, rfl, hobjs, hborn, hphys, hshape, hids, hclock⟩ := h
  -- no window, message or record yet: the clauses about them quantify over empty lists
  exact {
    initc := fun _ => rfl
    bornle := hborn
    win := fun _ h => nomatch h
    obj := fun o ho hd => absurd hd (hobjs o ho)
    live := fun m hm hh _ => absurd (hmaps m hm) hh
    phys := hphys
    shape := hshape
    shapem := fun _ h => nomatch h
    recs := fun _ h => nomatch h
    uniq := List.Pairwise.nil
    idl := hids
    idm := fun _ h => nomatch h
    clock := hclock
    clockr := fun _ h => nomatch h
    clockm := fun _ h => nomatch h
    clockw := fun _ h => nomatch h
    msgok := fun _ h => nomatch h
    dead := fun _ h => nomatch h
    deadr := fun _ h => nomatch h
    order := fun _ h => nomatch h
    key := fun _ h => nomatch h }

/-! ### what the analysis side makes of the messages -/

theorem dlList_eq (msgs : List Msg) :
    dlList msgs = (msgs.map libOf).foldl Uft.Session.addDlopen [] := by
  unfold dlList
  rw [List.foldl_map]

theorem mem_dlList (msgs : List Msg) (l : Uft.Session.DlLib) :
    l ∈ dlList msgs ↔ ∃ m ∈ msgs, l = libOf m := by
  rw [dlList_eq, Uft.Session.mem_foldl_addDlopen, List.mem_map]
  constructor
  · rintro (h | ⟨m, hm, e⟩)
    · cases h
    · exact ⟨m, hm, e.symm⟩
  · rintro ⟨m, hm, e⟩
    exact Or.inr ⟨m, hm, e.symm⟩

theorem dlList_sorted (msgs : List Msg) :
    (dlList msgs).Pairwise (fun a b => a.time ≤ b.time) :=
  dlList_eq msgs ▸ Uft.Session.foldl_addDlopen_sorted _ [] List.Pairwise.nil

theorem sub64_of_le (a b : Nat) (hb : b ≤ a) (ha : a < U64) : Uft.Session.sub64 a b = a - b := by
  unfold Uft.Session.sub64
  rw [Nat.mod_eq_of_lt (by omega : b < U64), show a + U64 - b = (a - b) + U64 by omega,
    Nat.add_mod_right, Nat.mod_eq_of_lt (by omega)]

theorem le_of_sub64_add_lt (a b : Nat) (hb : b < U64) (h : Uft.Session.sub64 a b + b < U64) :
    b ≤ a := by
  apply Nat.le_of_not_lt
  intro hlt
  unfold Uft.Session.sub64 at h
  rw [Nat.mod_eq_of_lt hb, Nat.mod_eq_of_lt (by omega : a + U64 - b < U64)] at h
  omega

/-- a symbol that the table of a message yields for `addr - base` (64-bit) lies in the text of the
    message's object -/
theorem libOf_find_covers (m : Msg) (a : Nat) (hsh : Shape m.obj) (hb : m.bias = m.obj.bias)
    (ha : a < U64) (s : Sym)
    (hs : findSym (libOf m).syms (Uft.Session.sub64 a (libOf m).base) = some s) :
    covers m.obj a := by
  obtain ⟨_, _, h3, h4⟩ := hsh
  obtain ⟨hbs, _⟩ := dropSymEnd_some hs
  obtain ⟨hm, hc⟩ := bsearch_some _ _ _ hbs
  obtain ⟨c1, c2⟩ := (addrfind_zero_iff _ s).mp hc
  obtain ⟨i1, i2⟩ := h4 s hm
  simp only [libOf, hb] at c1 c2
  rw [show s.stop = s.addr + s.size from Nat.mod_eq_of_lt (by omega)] at c2
  -- the symbol ends below 2^64 - bias, so the subtraction did not wrap
  have hle : m.obj.bias ≤ a := le_of_sub64_add_lt a _ (by omega) (by omega)
  rw [sub64_of_le a _ hle ha] at c1 c2
  exact ⟨by omega, by omega⟩

/-! ### the hypotheses are decidable (used by the non-vacuity examples) -/

instance (im : List MMap) (o : Obj) : Decidable (Dyn im o) := by unfold Dyn; infer_instance
instance (o : Obj) (a : Nat) : Decidable (covers o a) := by unfold covers; infer_instance
instance (o : Obj) : Decidable (Shape o) := by unfold Shape; infer_instance
instance (st : St) (ev : Ev) : Decidable (EvOk st ev) := by
  cases ev <;> unfold EvOk <;> infer_instance

def validDec (cfg : Cfg) : (st : St) → (evs : List Ev) → Decidable (Valid cfg st evs)
  | _, [] => isTrue trivial
  | st, ev :: r =>
    match (inferInstance : Decidable (EvOk st ev)), validDec cfg (step cfg st ev) r with
    | isTrue h1, isTrue h2 => isTrue ⟨h1, h2⟩
    | isFalse h1, _ => isFalse (fun h => h1 h.1)
    | _, isFalse h2 => isFalse (fun h => h2 h.2)

instance (cfg : Cfg) (st : St) (evs : List Ev) : Decidable (Valid cfg st evs) := validDec cfg st evs

end Uft.DlRecord

import Uft.Model.Shmem
import Uft.Lemmas.Writers
/- Invariants of the shared-memory hand-off (helper lemmas for Props/C03, C04). -/
namespace Uft.Shmem
open Uft.Writers

/-! ### per-tid view of the global structures -/

/-- REC_START / REC_END of one tid, as bracket tokens -/
inductive Tok where
  | S (i : Nat)
  | E (i : Nat)
  deriving DecidableEq, Repr

def pipeToks (t : Tid) : List Msg → List Tok
  | [] => []
  | .recStart t' i :: l => if t' = t then .S i :: pipeToks t l else pipeToks t l
  | .recEnd t' i :: l => if t' = t then .E i :: pipeToks t l else pipeToks t l
  | _ :: l => pipeToks t l

def shmToks (t : Tid) : List WBuf → List Tok
  | [] => []
  | wb :: l => if wb.tid = t then .S wb.idx :: shmToks t l else shmToks t l

/-- buffers announced by a REC_END that is still in the pipe -/
def ends : List Tok → List Nat
  | [] => []
  | .E i :: l => i :: ends l
  | .S _ :: l => ends l

def clean (l : List Item) : List Item := l.filter (fun i => !i.isTorn)

/-- S i E i S j E j … [S o]: every announced buffer is ended before the next one starts -/
inductive WB : List Tok → Option Nat → Prop where
  | nil : WB [] none
  | opn (o : Nat) : WB [.S o] (some o)
  | pair (i : Nat) {l : List Tok} {o : Option Nat} : WB l o → WB (.S i :: .E i :: l) o

theorem pipeToks_append (t : Tid) (a b : List Msg) : pipeToks t (a ++ b) = pipeToks t a ++ pipeToks t b := by
  induction a with
  | nil => rfl
  | cons m l ih =>
    cases m with
    | recStart t' i =>
      rw [List.cons_append, pipeToks, pipeToks, ih]
      split <;> rfl
    | recEnd t' i =>
      rw [List.cons_append, pipeToks, pipeToks, ih]
      split <;> rfl
    | lost t' n => exact ih
    | finish => exact ih

theorem shmToks_eq (t : Tid) (l : List WBuf) :
    shmToks t l = l.filterMap fun wb => if wb.tid = t then some (Tok.S wb.idx) else none := by
  induction l with
  | nil => rfl
  | cons wb l ih =>
    rw [shmToks, List.filterMap_cons, ih]
    by_cases h : wb.tid = t
    · rw [if_pos h, if_pos h]
    · rw [if_neg h, if_neg h]

theorem shmToks_append (t : Tid) (a b : List WBuf) : shmToks t (a ++ b) = shmToks t a ++ shmToks t b := by
  rw [shmToks_eq, shmToks_eq, shmToks_eq, List.filterMap_append]

theorem ends_append (a b : List Tok) : ends (a ++ b) = ends a ++ ends b := by
  induction a with
  | nil => rfl
  | cons m l ih =>
    cases m with
    | S i => exact ih
    | E i => exact congrArg (List.cons i) ih

theorem shmToks_erase_other {t t' : Tid} (h : t' ≠ t) (i : Nat) (l : List WBuf) :
    shmToks t (l.erase ⟨t', i⟩) = shmToks t l := by
  induction l with
  | nil => rfl
  | cons wb l ih =>
    rw [List.erase_cons]
    split
    · rename_i hb
      rw [eq_of_beq hb, shmToks, if_neg h]
    · rw [shmToks, shmToks, ih]

theorem shmToks_erase_self (t : Tid) (i : Nat) (l : List WBuf) :
    shmToks t (l.erase ⟨t, i⟩) = (shmToks t l).erase (.S i) := by
  induction l with
  | nil => rfl
  | cons wb l ih =>
    rw [List.erase_cons]
    split
    · rename_i hb
      rw [eq_of_beq hb, shmToks, if_pos rfl, List.erase_cons_head]
    · rename_i hb
      rw [shmToks, shmToks, ih]
      split
      · rename_i ht
        have : ¬ (Tok.S wb.idx == Tok.S i) = true := by
          intro e
          apply hb
          rw [← ht, ← Tok.S.inj (eq_of_beq e)]
          exact beq_self_eq_true wb
        rw [List.erase_cons_tail this]
      · rfl

theorem mem_shmToks {t : Tid} {i : Nat} {l : List WBuf} (h : (⟨t, i⟩ : WBuf) ∈ l) : Tok.S i ∈ shmToks t l := by
  rw [shmToks_eq]
  exact List.mem_filterMap.mpr ⟨_, h, if_pos rfl⟩

theorem pipeToks_cons_other {t : Tid} {m : Msg} (l : List Msg) (h : msgOf t m = false) :
    pipeToks t (m :: l) = pipeToks t l := by
  cases m <;> simp only [msgOf, decide_eq_false_iff_not] at h <;> simp only [pipeToks, h, if_false]

theorem pipeToks_nil_of_not_any {t : Tid} {l : List Msg} (h : l.any (msgOf t) = false) : pipeToks t l = [] := by
  induction l with
  | nil => rfl
  | cons m l ih =>
    rw [List.any_cons, Bool.or_eq_false_iff] at h
    rw [pipeToks_cons_other l h.1]
    exact ih h.2

/-! ### bracket structure -/

theorem WB_send_end {l : List Tok} {o : Nat} (h : WB l (some o)) : WB (l ++ [.E o]) none := by
  generalize ho : some o = x at h
  induction h with
  | nil => simp at ho
  | opn o' => injection ho with ho; subst ho; exact WB.pair _ WB.nil
  | pair i _ ih => exact WB.pair i (ih ho)

theorem WB_send_start {l : List Tok} (o : Nat) (h : WB l none) : WB (l ++ [.S o]) (some o) := by
  generalize ho : (none : Option Nat) = x at h
  induction h with
  | nil => exact WB.opn o
  | opn o' => simp at ho
  | pair i _ ih => exact WB.pair i (ih ho)

/-- the recorder holds at most the last announced buffer of a tid, and a REC_END at the head of
    the pipe ends exactly that one -/
theorem WB_shm_end {shm pt : List Tok} {i : Nat} {o : Option Nat} (hs : ∀ x ∈ shm, ∃ j, x = .S j)
    (h : WB (shm ++ .E i :: pt) o) : shm = [.S i] ∧ WB pt o := by
  match shm, hs, h with
  | [], _, h => cases h
  | [x], hs, h =>
    obtain ⟨j, e⟩ := hs x (by simp)
    subst e
    cases h with
    | pair _ h' => exact ⟨rfl, h'⟩
  | x :: y :: r, hs, h =>
    obtain ⟨j, e⟩ := hs x (by simp)
    obtain ⟨k, e2⟩ := hs y (by simp)
    subst e; subst e2
    cases h

theorem WB_shm_only {shm : List Tok} {o : Option Nat} (hs : ∀ x ∈ shm, ∃ j, x = .S j)
    (h : WB shm o) : (shm = [] ∧ o = none) ∨ (∃ i, shm = [.S i] ∧ o = some i) := by
  match shm, hs, h with
  | [], _, h => cases h; exact Or.inl ⟨rfl, rfl⟩
  | [x], hs, h => cases h; exact Or.inr ⟨_, rfl, rfl⟩
  | x :: y :: r, hs, h =>
    obtain ⟨k, e2⟩ := hs y (by simp)
    subst e2
    cases h

theorem shmToks_allS (t : Tid) (l : List WBuf) : ∀ x ∈ shmToks t l, ∃ j, x = .S j := by
  intro x hx
  rw [shmToks_eq] at hx
  obtain ⟨wb, _, h⟩ := List.mem_filterMap.mp hx
  split at h
  · exact ⟨_, (Option.some.inj h).symm⟩
  · cases h

/-! ### survivors / clean -/

/-- what an event of the ghost log leaves in the buffer -/
def survOf : Ev → Option Item
  | .kept r => some (.whole r)
  | .lostMark n => some (.lost n)
  | _ => none

theorem survivors_eq (l : List Ev) : survivors l = l.filterMap survOf := by
  induction l with
  | nil => rfl
  | cons e l ih => cases e <;> simp only [survivors, survOf, List.filterMap_cons, ih]

theorem survivors_append (a b : List Ev) : survivors (a ++ b) = survivors a ++ survivors b := by
  rw [survivors_eq, survivors_eq, survivors_eq, List.filterMap_append]

theorem clean_append (a b : List Item) : clean (a ++ b) = clean a ++ clean b := by
  simp [clean]

/-! ### buffers -/

theorem firstFree_some {bs : List Buf} {i : Nat} (h : firstFree bs = some i) :
    ∃ b, bs[i]? = some b ∧ b.recording = false := by
  induction bs generalizing i with
  | nil => cases h
  | cons b bs ih =>
    rw [firstFree] at h
    split at h
    · rename_i hb
      cases h
      exact ⟨b, rfl, (Bool.not_eq_true' _).mp hb⟩
    · cases hf : firstFree bs with
      | none =>
        rw [hf] at h
        cases h
      | some j =>
        rw [hf] at h
        cases h
        exact ih hf

/-- shrinking never removes a RECORDING buffer and invents none -/
theorem shrink_cases (l : List Buf) (k : Nat) :
    shrink l k = l ∨ (shrink l k = l.dropLast ∧ ∃ last, l.getLast? = some last ∧ last.recording = false) := by
  unfold shrink
  split
  · split
    · rename_i last hl
      split
      · rename_i hc
        simp only [Bool.and_eq_true, Buf.onlyWritten, Bool.not_eq_eq_eq_not, Bool.not_true] at hc
        exact Or.inr ⟨rfl, last, hl, hc.2.1.2⟩
      · exact Or.inl rfl
    · exact Or.inl rfl
  · exact Or.inl rfl

theorem shrink_keep {l : List Buf} {k i : Nat} {b : Buf} (hb : l[i]? = some b) (hr : b.recording = true) :
    (shrink l k)[i]? = some b := by
  rcases shrink_cases l k with h | ⟨h, last, hl, hlr⟩
  · rw [h]
    exact hb
  · -- the last buffer goes; it is not RECORDING, so it is not `b`
    have hi := (List.getElem?_eq_some_iff.mp hb).1
    rw [List.getLast?_eq_getElem?] at hl
    have hne : i ≠ l.length - 1 := by
      intro e
      rw [← e, hb] at hl
      rw [Option.some.inj hl, hlr] at hr
      cases hr
    rw [h, List.getElem?_dropLast, if_pos (Nat.lt_of_le_of_ne (Nat.le_sub_one_of_lt hi) hne)]
    exact hb

theorem shrink_sub {l : List Buf} {k i : Nat} {b : Buf} (hb : (shrink l k)[i]? = some b) : l[i]? = some b := by
  rcases shrink_cases l k with h | ⟨h, _⟩
  · rw [h] at hb
    exact hb
  · rw [h, List.getElem?_dropLast] at hb
    split at hb
    · exact hb
    · cases hb

theorem dataAt_shrink {l : List Buf} {k i : Nat} {b : Buf} (hb : l[i]? = some b) (hr : b.recording = true) :
    dataAt (shrink l k) i = dataAt l i := by
  rw [dataAt, dataAt, shrink_keep hb hr, hb]

theorem dataAt_set_ne {l : List Buf} {i j : Nat} (b : Buf) (h : i ≠ j) : dataAt (l.set j b) i = dataAt l i := by
  rw [dataAt, dataAt, List.getElem?_set_ne (Ne.symm h)]

theorem dataAt_set_eq {l : List Buf} {i : Nat} {b0 : Buf} (b : Buf) (h : l[i]? = some b0) :
    dataAt (l.set i b) i = b.data := by
  rw [dataAt, List.getElem?_set_self (List.getElem?_eq_some_iff.mp h).1]

theorem flatMap_dataAt_congr {l l' : List Buf} {c : List Nat} (h : ∀ i ∈ c, dataAt l' i = dataAt l i) :
    c.flatMap (dataAt l') = c.flatMap (dataAt l) := by
  induction c with
  | nil => rfl
  | cons x c ih =>
    rw [List.flatMap_cons, List.flatMap_cons, h x List.mem_cons_self, ih fun i hi => h i (List.mem_cons_of_mem _ hi)]


/-! ### data invariant of one tid
`c` is the chain of buffers handed to the recorder and not yet written, oldest first
(writer's list, writer's passed buffers, write list, REC_ENDs still in the pipe);
`opn` the buffer being filled. -/

structure DInv (bufs : List Buf) (opn : Option Nat) (log : List Ev) (c : List Nat) (f : List Item) : Prop where
  nodup : (c ++ opn.toList).Nodup
  valid : ∀ i ∈ c ++ opn.toList, ∃ b, bufs[i]? = some b ∧ b.recording = true
  free : ∀ (i : Nat) (b : Buf), bufs[i]? = some b → b.recording = false → b.data = []
  eqn : clean (f ++ (c ++ opn.toList).flatMap (dataAt bufs)) = survivors log

/-- common shape of appendData / completeData -/
def modData (bufs : List Buf) (c : Nat) (g : List Item → List Item) : List Buf :=
  match bufs[c]? with
  | none => bufs
  | some b => bufs.set c { b with data := g b.data }

theorem appendData_eq (bufs : List Buf) (c : Nat) (it : Item) :
    appendData bufs c it = modData bufs c (fun d => d ++ [it]) := rfl

theorem completeData_eq (bufs : List Buf) (c : Nat) (r : Rec) :
    completeData bufs c r = modData bufs c (fun d => d.dropLast ++ [.whole r]) := rfl

theorem getElem?_modData (l : List Buf) (c i : Nat) (g : List Item → List Item) :
    (modData l c g)[i]? = if i = c then l[i]?.map (fun b => { b with data := g b.data }) else l[i]? := by
  unfold modData
  by_cases hic : i = c
  · subst hic
    rw [if_pos rfl]
    split
    · rename_i hn
      rw [hn]
      rfl
    · rename_i b hb
      rw [List.getElem?_set_self (List.getElem?_eq_some_iff.mp hb).1, hb]
      rfl
  · rw [if_neg hic]
    split
    · rfl
    · exact List.getElem?_set_ne (Ne.symm hic)

theorem dataAt_modData_ne {l : List Buf} {i c : Nat} (g : List Item → List Item) (h : i ≠ c) :
    dataAt (modData l c g) i = dataAt l i := by
  rw [dataAt, dataAt, getElem?_modData, if_neg h]

theorem dataAt_modData_eq {l : List Buf} {c : Nat} {b : Buf} (g : List Item → List Item) (h : l[c]? = some b) :
    dataAt (modData l c g) c = g (dataAt l c) := by
  rw [dataAt, dataAt, getElem?_modData, if_pos rfl, h]
  rfl

/-- the data of the open buffer changes (record appended, LOST marker, torn header,
    header completed); `extra` is what the change adds to the whole-record content -/
theorem DInv.modOpen {bufs : List Buf} {o : Nat} {log log' : List Ev} {c : List Nat} {f : List Item}
    (h : DInv bufs (some o) log c f) (g : List Item → List Item) (extra : List Item)
    (hg : clean (g (dataAt bufs o)) = clean (dataAt bufs o) ++ extra)
    (hl : survivors log' = survivors log ++ extra) :
    DInv (modData bufs o g) (some o) log' c f := by
  obtain ⟨bo, hbo, hro⟩ := h.valid o (List.mem_append_right _ (List.mem_singleton_self o))
  have hnd := h.nodup
  rw [List.nodup_append] at hnd
  have hoc : ∀ i ∈ c, i ≠ o := fun i hi => hnd.2.2 i hi o (List.mem_singleton_self o)
  refine ⟨h.nodup, ?_, ?_, ?_⟩
  · intro i hi
    obtain ⟨b, hb, hr⟩ := h.valid i hi
    rw [getElem?_modData, hb]
    split
    · exact ⟨_, rfl, hr⟩
    · exact ⟨b, rfl, hr⟩
  · intro i b hb hr
    rw [getElem?_modData] at hb
    split at hb
    · -- the open buffer is RECORDING
      rename_i hio
      rw [hio, hbo] at hb
      rw [← Option.some.inj hb] at hr
      exact absurd (hro.symm.trans hr) Bool.noConfusion
    · exact h.free i b hb hr
  · have := h.eqn
    rw [Option.toList_some, List.flatMap_append, List.flatMap_singleton] at this ⊢
    rw [flatMap_dataAt_congr (fun i hi => dataAt_modData_ne g (hoc i hi)), dataAt_modData_eq g hbo, hl, ← this]
    simp only [clean_append, hg, List.append_assoc]

theorem DInv.appendOpen {bufs : List Buf} {o : Nat} {log log' : List Ev} {c : List Nat} {f : List Item}
    (h : DInv bufs (some o) log c f) (it : Item) (hl : survivors log' = survivors log ++ clean [it]) :
    DInv (appendData bufs o it) (some o) log' c f :=
  h.modOpen (fun d => d ++ [it]) (clean [it]) (clean_append _ _) hl

theorem DInv.complete {bufs : List Buf} {o : Nat} {log : List Ev} {c : List Nat} {f : List Item} {d : List Item}
    {r : Rec} (h : DInv bufs (some o) log c f) (hd : dataAt bufs o = d ++ [.torn r]) :
    DInv (completeData bufs o r) (some o) (log ++ [.kept r]) c f := by
  refine h.modOpen (log' := log ++ [.kept r]) (fun d => d.dropLast ++ [.whole r]) [.whole r] ?_ (survivors_append _ _)
  -- the torn header at the end is no part of the clean content
  rw [hd]
  show clean ((d ++ [Item.torn r]).dropLast ++ [Item.whole r]) = clean (d ++ [Item.torn r]) ++ [Item.whole r]
  rw [List.dropLast_concat, clean_append, clean_append]
  exact congrArg (· ++ [Item.whole r]) (List.append_nil _).symm

/-- REC_END for the open buffer (or the recorder flushes it): it joins the chain at the end -/
theorem DInv.handOver {bufs : List Buf} {o : Nat} {log : List Ev} {c : List Nat} {f : List Item}
    (h : DInv bufs (some o) log c f) : DInv bufs none log (c ++ [o]) f := by
  refine ⟨?_, ?_, h.free, ?_⟩
  · rw [Option.toList_none, List.append_nil]
    exact h.nodup
  · rw [Option.toList_none, List.append_nil]
    exact h.valid
  · rw [Option.toList_none, List.append_nil]
    exact h.eqn

/-- a chain entry whose buffer is empty is dropped (A12) -/
theorem DInv.dropEmpty {bufs : List Buf} {opn : Option Nat} {log : List Ev} {c1 c2 : List Nat} {i : Nat}
    {f : List Item} (h : DInv bufs opn log (c1 ++ i :: c2) f) (he : dataAt bufs i = []) :
    DInv bufs opn log (c1 ++ c2) f := by
  have hsub : (c1 ++ c2 ++ opn.toList).Sublist (c1 ++ i :: c2 ++ opn.toList) :=
    ((List.Sublist.refl c1).append (List.sublist_cons_self i c2)).append (List.Sublist.refl _)
  refine ⟨h.nodup.sublist hsub, fun j hj => h.valid j (hsub.subset hj), h.free, ?_⟩
  have := h.eqn
  simp only [List.flatMap_append, List.flatMap_cons, he, List.nil_append] at this ⊢
  exact this

theorem DInv.logOnly {bufs : List Buf} {opn : Option Nat} {log log' : List Ev} {c : List Nat} {f : List Item}
    (h : DInv bufs opn log c f) (hl : survivors log' = survivors log) : DInv bufs opn log' c f :=
  ⟨h.nodup, h.valid, h.free, by rw [hl]; exact h.eqn⟩

/-- get_new_shmem_buffer: a change of the ring that keeps every RECORDING buffer as it is and leaves an empty RECORDING
    buffer at `o`, which becomes the open one -/
theorem DInv.rebuf {bufs bufs' : List Buf} {log : List Ev} {c : List Nat} {f : List Item} {o : Nat}
    (h : DInv bufs none log c f)
    (keep : ∀ (i : Nat) (b : Buf), bufs[i]? = some b → b.recording = true → bufs'[i]? = some b)
    (ho : ∃ b, bufs'[o]? = some b ∧ b.recording = true ∧ b.data = [])
    (hoc : o ∉ c)
    (hfree : ∀ (i : Nat) (b : Buf), bufs'[i]? = some b → b.recording = false → b.data = []) :
    DInv bufs' (some o) log c f ∧ dataAt bufs' o = [] := by
  obtain ⟨bo, hbo, hro, hdo⟩ := ho
  have hdo' : dataAt bufs' o = [] := by
    rw [dataAt, hbo]
    exact hdo
  have hc : ∀ i ∈ c, ∃ b, bufs[i]? = some b ∧ bufs'[i]? = some b ∧ b.recording = true := by
    intro i hi
    obtain ⟨b, hb, hr⟩ := h.valid i (List.mem_append_left _ hi)
    exact ⟨b, hb, keep i b hb hr, hr⟩
  refine ⟨⟨?_, ?_, hfree, ?_⟩, hdo'⟩
  · have := h.nodup
    rw [Option.toList_none, List.append_nil] at this
    rw [Option.toList_some, List.nodup_append]
    exact ⟨this, List.pairwise_singleton _ o, fun a ha b hb => by rw [List.mem_singleton.mp hb]; exact fun e => hoc (e ▸ ha)⟩
  · intro i hi
    rw [Option.toList_some, List.mem_append, List.mem_singleton] at hi
    rcases hi with hi | rfl
    · obtain ⟨b, _, hb', hr⟩ := hc i hi
      exact ⟨b, hb', hr⟩
    · exact ⟨bo, hbo, hro⟩
  · have := h.eqn
    rw [Option.toList_none, List.append_nil] at this
    rw [Option.toList_some, List.flatMap_append, List.flatMap_singleton, hdo', List.append_nil, ← this]
    congr 2
    apply flatMap_dataAt_congr
    intro i hi
    obtain ⟨b, hb, hb', _⟩ := hc i hi
    rw [dataAt, dataAt, hb, hb']

/-- the recorder writes the head of the chain to the file and empties the buffer -/
theorem DInv.writeHead {bufs : List Buf} {opn : Option Nat} {log : List Ev} {c : List Nat} {i : Nat}
    {f : List Item} {b b' : Buf} (h : DInv bufs opn log (i :: c) f) (hb : bufs[i]? = some b)
    (hd : b'.data = []) :
    DInv (bufs.set i b') opn log c (f ++ b.data) := by
  have hnd := h.nodup
  rw [List.cons_append, List.nodup_cons] at hnd
  have hne : ∀ j ∈ c ++ opn.toList, j ≠ i := fun j hj e => hnd.1 (e ▸ hj)
  refine ⟨hnd.2, ?_, ?_, ?_⟩
  · intro j hj
    obtain ⟨bj, hbj, hr⟩ := h.valid j (List.mem_cons_of_mem _ hj)
    exact ⟨bj, (List.getElem?_set_ne (Ne.symm (hne j hj))).trans hbj, hr⟩
  · intro j bj hbj hr
    by_cases hji : j = i
    · subst hji
      rw [List.getElem?_set_self (List.getElem?_eq_some_iff.mp hb).1] at hbj
      rw [← Option.some.inj hbj]
      exact hd
    · rw [List.getElem?_set_ne (Ne.symm hji)] at hbj
      exact h.free j bj hbj hr
  · have := h.eqn
    rw [List.cons_append, List.flatMap_cons, dataAt, hb] at this
    rw [← this, flatMap_dataAt_congr (fun j hj => dataAt_set_ne _ (hne j hj)), List.append_assoc]

/-- prepare_shmem_buffer of a thread that did not exist -/
theorem DInv.prepare {c : List Nat} {f : List Item} (h : DInv [] none [] c f) :
    c = [] ∧ DInv [{ recording := true, isNew := true }, {}] (some 0) [] [] f := by
  have hc : c = [] := by
    cases c with
    | nil => rfl
    | cons x c =>
      obtain ⟨b, hb, _⟩ := h.valid x List.mem_cons_self
      cases hb
  subst hc
  refine ⟨rfl, List.pairwise_singleton _ _, ?_, ?_, h.eqn⟩
  · intro i hi
    obtain rfl : i = 0 := List.mem_singleton.mp hi
    exact ⟨_, rfl, rfl⟩
  · intro i b hb hr
    match i, hb with
    | 0, hb =>
      cases hb
      cases hr
    | 1, hb =>
      cases hb
      rfl
    | i + 2, hb => cases hb

/-- get_new_shmem_buffer reuses the first buffer without RECORDING -/
theorem DInv.pickReuse {bufs : List Buf} {log : List Ev} {c : List Nat} {f : List Item} {idx : Nat} {b : Buf}
    (h : DInv bufs none log c f) (hb : bufs[idx]? = some b) (hr : b.recording = false) :
    DInv (shrink (bufs.set idx { b with recording := true, data := [] }) idx) (some idx) log c f ∧
      dataAt (shrink (bufs.set idx { b with recording := true, data := [] }) idx) idx = [] := by
  have hi : idx < bufs.length := (List.getElem?_eq_some_iff.mp hb).1
  -- a RECORDING buffer is not at `idx`
  have hne : ∀ (i : Nat) (bi : Buf), bufs[i]? = some bi → bi.recording = true → i ≠ idx := by
    intro i bi hbi hri e
    rw [e, hb] at hbi
    rw [← Option.some.inj hbi, hr] at hri
    cases hri
  apply h.rebuf
  · intro i bi hbi hri
    apply shrink_keep _ hri
    rw [List.getElem?_set_ne (Ne.symm (hne i bi hbi hri))]
    exact hbi
  · exact ⟨_, shrink_keep (List.getElem?_set_self hi) rfl, rfl, rfl⟩
  · intro hm
    obtain ⟨b1, hb1, hr1⟩ := h.valid idx (List.mem_append_left _ hm)
    exact hne idx b1 hb1 hr1 rfl
  · intro i bi hbi hri
    have := shrink_sub hbi
    by_cases hii : i = idx
    · subst hii
      rw [List.getElem?_set_self hi] at this
      rw [← Option.some.inj this] at hri
      cases hri
    · rw [List.getElem?_set_ne (Ne.symm hii)] at this
      exact h.free i bi this hri

/-- … or grows the ring when every buffer is RECORDING -/
theorem DInv.pickGrow {bufs : List Buf} {log : List Ev} {c : List Nat} {f : List Item}
    (h : DInv bufs none log c f) :
    DInv (shrink (bufs ++ [{ recording := true }]) bufs.length) (some bufs.length) log c f ∧
      dataAt (shrink (bufs ++ [{ recording := true }]) bufs.length) bufs.length = [] := by
  apply h.rebuf
  · intro i bi hbi hri
    apply shrink_keep _ hri
    rw [List.getElem?_append_left (List.getElem?_eq_some_iff.mp hbi).1]
    exact hbi
  · exact ⟨({ recording := true } : Buf), shrink_keep List.getElem?_concat_length rfl, rfl, rfl⟩
  · intro hm
    obtain ⟨b1, hb1, _⟩ := h.valid bufs.length (List.mem_append_left _ hm)
    exact Nat.lt_irrefl _ (List.getElem?_eq_some_iff.mp hb1).1
  · intro i bi hbi hri
    have := shrink_sub hbi
    rcases Nat.lt_or_ge i bufs.length with hi | hi
    · rw [List.getElem?_append_left hi] at this
      exact h.free i bi this hri
    · -- the new buffer is RECORDING
      rw [List.getElem?_append_right hi] at this
      cases hk : i - bufs.length with
      | zero =>
        rw [hk] at this
        rw [← Option.some.inj this] at hri
        cases hri
      | succ k =>
        rw [hk] at this
        cases this


/-! ### control invariant of one tid and the per-tid bundle -/

/-- the open buffer as far as the recorder was told (REC_START sent) -/
def sentOpen (p : Prod) : Option Nat :=
  match p.pc with
  | .picked _ => none
  | _ => p.opn

structure CInv (p : Prod) (shm pt : List Tok) (closed : Bool) : Prop where
  wb : WB (shm ++ pt) (sentOpen p)
  unstarted : p.started = false → p.bufs = [] ∧ p.log = [] ∧ p.pc = .idle ∧ p.curr = none ∧ p.opn = none ∧ p.losts = 0
  needBuf : ∀ r, p.pc = .needBuf r → p.opn = none
  live : p.started = true → p.alive = true → p.done = false → closed = false →
    (∀ r, p.pc ≠ .needBuf r) → p.opn = p.curr
  picked : ∀ r, p.pc = .picked r → p.opn = p.curr ∧ ∀ c, p.curr = some c → dataAt p.bufs c = []
  hdr : ∀ r c, p.pc = .hdr r → p.curr = some c → p.opn = some c → ∃ d, dataAt p.bufs c = d ++ [.torn r]

/-- per-tid invariant over the tid's view: producer `p`, REC_STARTs the recorder holds (`shm`),
    the tid's messages in the pipe (`pt`), its queue in the writer pool (`q`), its file (`f`) -/
structure PV (p : Prod) (shm pt : List Tok) (q : List Nat) (f : List Item) (closed : Bool) : Prop where
  d : DInv p.bufs p.opn p.log (q ++ ends pt) f
  c : CInv p shm pt closed

theorem canEmit_iff {s : State} {t : Tid} : s.canEmit t = true ↔
    (s.prod t).started = true ∧ (s.prod t).alive = true ∧ (s.prod t).done = false ∧ s.pipeClosed = false := by
  simp [State.canEmit, and_assoc]

/-- the program points of which `CInv` has no clause of their own -/
def Pc.plain : Pc → Bool
  | .idle | .wrote _ | .started _ => true
  | _ => false

theorem Pc.plain_ne_needBuf {pc : Pc} (h : pc.plain = true) (r : Rec) : pc ≠ .needBuf r := by
  intro e
  rw [e] at h
  cases h

theorem sentOpen_of_plain {p : Prod} (h : p.pc.plain = true) : sentOpen p = p.opn := by
  unfold sentOpen
  split
  · rename_i hr
    rw [hr] at h
    cases h
  · rfl

/-- for a started thread at a plain program point only the brackets and `opn = curr` are left to show -/
theorem CInv.plain {p : Prod} {shm pt : List Tok} {closed : Bool} (hs : p.started = true)
    (hpc : p.pc.plain = true) (hwb : WB (shm ++ pt) p.opn)
    (hlive : p.alive = true → p.done = false → closed = false → p.opn = p.curr) : CInv p shm pt closed := by
  refine ⟨sentOpen_of_plain hpc ▸ hwb, ?_, ?_, fun _ ha hd hc _ => hlive ha hd hc, ?_, ?_⟩
  · intro hs'
    rw [hs] at hs'
    cases hs'
  · intro r hr
    rw [hr] at hpc
    cases hpc
  · intro r hr
    rw [hr] at hpc
    cases hpc
  · intro r c hr
    rw [hr] at hpc
    cases hpc

section producer
variable {p : Prod} {shm pt : List Tok} {q : List Nat} {f : List Item}

theorem CInv.wb_opn {closed : Bool} (h : CInv p shm pt closed) (hpc : p.pc.plain = true) : WB (shm ++ pt) p.opn :=
  sentOpen_of_plain hpc ▸ h.wb

theorem PV.opn_eq_curr (h : PV p shm pt q f false) (hs : p.started = true) (ha : p.alive = true)
    (hd : p.done = false) (hpc : ∀ r, p.pc ≠ .needBuf r) : p.opn = p.curr :=
  h.c.live hs ha hd rfl hpc

/-- `losts`, `lostMsgs` and what of the ghost log does not survive are read by no clause of a started thread -/
theorem PV.ghost {closed : Bool} (h : PV p shm pt q f closed) (hs : p.started = true) (n : Nat) {l : List Ev}
    (ms : List Nat) (hl : survivors l = survivors p.log) :
    PV { p with losts := n, log := l, lostMsgs := ms } shm pt q f closed :=
  ⟨h.d.logOnly hl, h.c.wb, fun hs' => absurd (hs.symm.trans hs') Bool.noConfusion, h.c.needBuf, h.c.live, h.c.picked,
    h.c.hdr⟩

theorem PV.lostAdd (h : PV p shm pt q f false) (n : Nat) (hs : p.started = true) :
    PV { p with losts := p.losts + n } shm pt q f false :=
  h.ghost hs _ _ rfl

theorem PV.drop (h : PV p shm pt q f false) (r : Rec) (hs : p.started = true) :
    PV { p with log := p.log ++ [.dropped r] } shm pt q f false :=
  h.ghost hs _ _ ((survivors_append _ _).trans (List.append_nil _))

/-- pWrite, and pMark with nothing lost: only the program counter moves -/
theorem PV.wrote (h : PV p shm pt q f false) (hpc : p.pc.plain = true) (r : Rec) (hs : p.started = true) :
    PV { p with pc := .wrote r } shm pt q f false :=
  ⟨h.d, .plain hs rfl (h.c.wb_opn hpc) fun ha hd _ => h.c.live hs ha hd rfl (Pc.plain_ne_needBuf hpc)⟩

/-- pBump of a whole record, pMark's LOST record: an item joins the open buffer and the ghost log -/
theorem PV.append (h : PV p shm pt q f false) {c : Nat} (it : Item) {pc' : Pc} {l : List Ev}
    (hpc : p.pc.plain = true) (hpc' : pc'.plain = true) (hc : p.curr = some c) (hs : p.started = true)
    (ha : p.alive = true) (hd : p.done = false) (hl : survivors l = survivors p.log ++ clean [it]) :
    PV { p with bufs := appendData p.bufs c it, pc := pc', log := l } shm pt q f false := by
  have ho : p.opn = some c := hc ▸ h.opn_eq_curr hs ha hd (Pc.plain_ne_needBuf hpc)
  have hdi := h.d
  rw [ho] at hdi
  refine ⟨?_, .plain hs hpc' (h.c.wb_opn hpc) fun _ _ _ => ho.trans hc.symm⟩
  rw [ho]
  exact hdi.appendOpen it hl

/-- pBump of a payload record before the repair: only the header is inside `size` -/
theorem PV.bumpTorn (h : PV p shm pt q f false) {r : Rec} {c : Nat} (hpc : p.pc = .wrote r)
    (hc : p.curr = some c) (hs : p.started = true) (ha : p.alive = true) (hd : p.done = false) :
    PV { p with bufs := appendData p.bufs c (.torn r), pc := .hdr r } shm pt q f false := by
  have ho : p.opn = some c := hc ▸ h.opn_eq_curr hs ha hd (by simp [hpc])
  have hdi := h.d
  rw [ho] at hdi
  obtain ⟨bo, hbo, _⟩ := hdi.valid c (List.mem_append_right _ (List.mem_singleton_self c))
  refine ⟨?_, h.c.wb_opn (hpc ▸ rfl), ?_, ?_, ?_, ?_, ?_⟩
  · rw [ho]
    exact hdi.appendOpen (.torn r) (List.append_nil _).symm
  · intro hs'
    rw [hs] at hs'
    cases hs'
  · intro r' hr'
    cases hr'
  · intro _ _ _ _ _
    exact ho.trans hc.symm
  · intro r' hr'
    cases hr'
  · intro r' c' hr' hc' _
    cases hr'
    obtain rfl : c = c' := Option.some.inj (hc.symm.trans hc')
    exact ⟨dataAt p.bufs c, by rw [appendData_eq, dataAt_modData_eq _ hbo]⟩

/-- pBump2: the payload is counted too -/
theorem PV.bump2 (h : PV p shm pt q f false) {r : Rec} {c : Nat} (hpc : p.pc = .hdr r)
    (hc : p.curr = some c) (hs : p.started = true) (ha : p.alive = true) (hd : p.done = false) :
    PV { p with bufs := completeData p.bufs c r, pc := .idle, log := p.log ++ [.kept r] } shm pt q f false := by
  have ho : p.opn = some c := hc ▸ h.opn_eq_curr hs ha hd (by simp [hpc])
  have hdi := h.d
  rw [ho] at hdi
  obtain ⟨d, hdd⟩ := h.c.hdr r c hpc hc ho
  refine ⟨?_, .plain hs rfl ?_ fun _ _ _ => ho.trans hc.symm⟩
  · rw [ho]
    exact hdi.complete hdd
  · have := h.c.wb
    simpa [sentOpen, hpc] using this

/-- pEnd with a current buffer: REC_END goes into the pipe -/
theorem PV.endSome (h : PV p shm pt q f false) {c : Nat} (r : Rec) (hpc : p.pc = .idle)
    (hc : p.curr = some c) (hs : p.started = true) (ha : p.alive = true) (hd : p.done = false) :
    PV { p with pc := .needBuf r, opn := none } shm (pt ++ [.E c]) q f false := by
  have ho : p.opn = some c := hc ▸ h.opn_eq_curr hs ha hd (by simp [hpc])
  have hdi := h.d
  rw [ho] at hdi
  have hw := h.c.wb
  rw [sentOpen_of_plain (hpc ▸ rfl), ho] at hw
  refine ⟨?_, ?_, ?_, ?_, ?_, ?_, ?_⟩
  · simpa [ends_append, ends] using hdi.handOver
  · simpa [sentOpen] using WB_send_end hw
  · intro hs'
    rw [hs] at hs'
    cases hs'
  · intro _ _
    rfl
  · intro _ _ _ _ hn
    exact absurd rfl (hn r)
  · intro r' hr'
    cases hr'
  · intro r' c' hr'
    cases hr'

/-- pEnd without a current buffer (after an allocation failure) -/
theorem PV.endNone (h : PV p shm pt q f false) (r : Rec) (hpc : p.pc = .idle)
    (hc : p.curr = none) (hs : p.started = true) (ha : p.alive = true) (hd : p.done = false) :
    PV { p with pc := .needBuf r } shm pt q f false := by
  have ho : p.opn = none := hc ▸ h.opn_eq_curr hs ha hd (by simp [hpc])
  refine ⟨h.d, h.c.wb_opn (hpc ▸ rfl), ?_, ?_, ?_, ?_, ?_⟩
  · intro hs'
    rw [hs] at hs'
    cases hs'
  · intro _ _
    exact ho
  · intro _ _ _ _ hn
    exact absurd rfl (hn r)
  · intro r' hr'
    cases hr'
  · intro r' c' hr'
    cases hr'

/-- pPick with a buffer: `bufs'` is the ring after get_new_shmem_buffer, `idx` the buffer it chose (`DInv.pickReuse`,
    `DInv.pickGrow`) -/
theorem PV.pick (h : PV p shm pt q f false) {r : Rec} {bufs' : List Buf} {idx : Nat} (hpc : p.pc = .needBuf r)
    (hs : p.started = true) (hd : DInv bufs' (some idx) p.log (q ++ ends pt) f ∧ dataAt bufs' idx = []) :
    PV { p with bufs := bufs', curr := some idx, opn := some idx, pc := .picked r } shm pt q f false := by
  have ho := h.c.needBuf r hpc
  refine ⟨hd.1, ?_, ?_, ?_, ?_, ?_, ?_⟩
  · have := h.c.wb
    simpa [sentOpen, hpc, ho] using this
  · intro hs'
    rw [hs] at hs'
    cases hs'
  · intro r' hr'
    cases hr'
  · intro _ _ _ _ _
    rfl
  · intro _ _
    refine ⟨rfl, fun c' hc' => ?_⟩
    obtain rfl : idx = c' := Option.some.inj hc'
    exact hd.2
  · intro r' c' hr'
    cases hr'

/-- pPick, allocation failure: the record is dropped, `curr = -1` -/
theorem PV.pickFail (h : PV p shm pt q f false) {r : Rec} (n : Nat) (hpc : p.pc = .needBuf r) (hs : p.started = true) :
    PV { p with losts := p.losts + n, curr := none, pc := .idle, log := p.log ++ [.allocFail, .dropped r] }
      shm pt q f false := by
  have ho := h.c.needBuf r hpc
  refine ⟨h.d.logOnly ((survivors_append _ _).trans (List.append_nil _)), .plain hs rfl ?_ fun _ _ _ => ho⟩
  have := h.c.wb
  simpa [sentOpen, hpc] using this

/-- pStart: REC_START goes into the pipe -/
theorem PV.start (h : PV p shm pt q f false) {r : Rec} {c : Nat} (hpc : p.pc = .picked r)
    (hc : p.curr = some c) (hs : p.started = true) (ha : p.alive = true) (hd : p.done = false) :
    PV { p with pc := .started r } shm (pt ++ [.S c]) q f false := by
  have ho : p.opn = some c := hc ▸ h.opn_eq_curr hs ha hd (by simp [hpc])
  have hw := h.c.wb
  simp only [sentOpen, hpc] at hw
  refine ⟨?_, .plain hs rfl ?_ fun _ _ _ => ho.trans hc.symm⟩
  · simpa [ends_append, ends] using h.d
  · simpa [ho] using WB_send_start c hw

/-- pPrepare: mcount_prepare / prepare_shmem_buffer -/
theorem PV.prepare (h : PV p shm pt q f false) (hs : p.started = false) :
    PV { p with started := true, bufs := [{ recording := true, isNew := true }, {}], curr := some 0, opn := some 0 }
      shm (pt ++ [.S 0]) q f false := by
  obtain ⟨hb, hl, hpc, hc, ho, _⟩ := h.c.unstarted hs
  have hdi := h.d
  rw [hb, hl, ho] at hdi
  obtain ⟨hch, hnew⟩ := hdi.prepare
  have hw := h.c.wb
  rw [sentOpen_of_plain (hpc ▸ rfl), ho] at hw
  refine ⟨?_, .plain rfl (hpc ▸ rfl) ?_ fun _ _ _ => rfl⟩
  · simpa [hl, ends_append, ends, hch] using hnew
  · simpa using WB_send_start 0 hw

/-- mtd_dtor → shmem_finish when no REC_END goes out (no current buffer, or the pipe is closed) -/
theorem PV.finishKeep {closed : Bool} (h : PV p shm pt q f closed) (hpc : p.pc = .idle) (hs : p.started = true) :
    PV { p with done := true, curr := none } shm pt q f closed :=
  have hpl : p.pc.plain = true := hpc ▸ rfl
  ⟨h.d, .plain hs hpl (h.c.wb_opn hpl) fun _ hd => by cases hd⟩

/-- mtd_dtor → shmem_finish → REC_END for the current buffer -/
theorem PV.finishSend (h : PV p shm pt q f false) {c : Nat} (hpc : p.pc = .idle)
    (hc : p.curr = some c) (hs : p.started = true) (ha : p.alive = true) (hd : p.done = false) :
    PV { p with done := true, curr := none, opn := none } shm (pt ++ [.E c]) q f false := by
  have ho : p.opn = some c := hc ▸ h.opn_eq_curr hs ha hd (by simp [hpc])
  have hdi := h.d
  rw [ho] at hdi
  have hpl : p.pc.plain = true := hpc ▸ rfl
  have hw := h.c.wb_opn hpl
  rw [ho] at hw
  refine ⟨?_, .plain hs hpl ?_ fun _ hd => by cases hd⟩
  · simpa [ends_append, ends] using hdi.handOver
  · simpa using WB_send_end hw

theorem PV.kill {closed : Bool} (h : PV p shm pt q f closed) : PV { p with alive := false } shm pt q f closed :=
  ⟨h.d, h.c.wb, h.c.unstarted, h.c.needBuf, fun _ ha => Bool.noConfusion ha, h.c.picked, h.c.hdr⟩

theorem PV.close {closed : Bool} (h : PV p shm pt q f closed) : PV p shm pt q f true :=
  ⟨h.d, h.c.wb, h.c.unstarted, h.c.needBuf, fun _ _ _ hc => Bool.noConfusion hc, h.c.picked, h.c.hdr⟩

/-- read_record_mmap, REC_START: the id moves from the pipe into shmem_list -/
theorem PV.readStart {closed : Bool} {i : Nat} {pt' : List Tok} (h : PV p shm (.S i :: pt') q f closed) :
    PV p (shm ++ [.S i]) pt' q f closed := by
  refine ⟨h.d, ?_, h.c.unstarted, h.c.needBuf, h.c.live, h.c.picked, h.c.hdr⟩
  have := h.c.wb
  rwa [List.append_cons] at this

/-- read_record_mmap, REC_END: the recorder held exactly that buffer's REC_START, and the buffer is queued for writing
    (copy_to_buffer) -/
theorem PV.readEnd {closed : Bool} {i : Nat} {pt' : List Tok} (h : PV p shm (.E i :: pt') q f closed)
    (hs : ∀ x ∈ shm, ∃ j, x = .S j) : shm = [.S i] ∧ PV p [] pt' (q ++ [i]) f closed := by
  obtain ⟨h1, h2⟩ := WB_shm_end hs h.c.wb
  refine ⟨h1, ?_, h2, h.c.unstarted, h.c.needBuf, h.c.live, h.c.picked, h.c.hdr⟩
  have := h.d
  rwa [ends, List.append_cons] at this

/-- a queued buffer that is empty is dropped (A12) -/
theorem PV.unqueue {closed : Bool} {i : Nat} (h : PV p shm pt (q ++ [i]) f closed) (he : dataAt p.bufs i = []) :
    PV p shm pt q f closed := by
  refine ⟨?_, h.c⟩
  have := h.d
  rw [List.append_assoc] at this
  exact this.dropEmpty he

theorem PV.chain_recording {closed : Bool} (h : PV p shm pt q f closed) {i : Nat} (hi : i ∈ q ++ ends pt) :
    ∃ b, p.bufs[i]? = some b ∧ b.recording = true :=
  h.d.valid i (List.mem_append_left _ hi)

/-- flush_shmem_list / flush_old_shmem: with nothing of the tid left in the pipe, the one
    REC_START the recorder holds is the buffer the (stopped) thread was filling -/
theorem PV.flush_opn {closed : Bool} {i : Nat} (h : PV p shm [] q f closed)
    (hs : ∀ x ∈ shm, ∃ j, x = .S j) (hi : .S i ∈ shm) : shm = [.S i] ∧ p.opn = some i ∧ ∀ r, p.pc ≠ .picked r := by
  have hw := h.c.wb
  rw [List.append_nil] at hw
  rcases WB_shm_only hs hw with ⟨e, _⟩ | ⟨j, e, ho⟩
  · rw [e] at hi
    cases hi
  · rw [e, List.mem_singleton] at hi
    obtain rfl : i = j := Tok.S.inj hi
    refine ⟨e, ?_, ?_⟩
    · unfold sentOpen at ho
      split at ho
      · cases ho
      · exact ho
    · intro r hr
      simp [sentOpen, hr] at ho

/-- … it joins the tid's queue -/
theorem PV.flush_enq {closed : Bool} {i : Nat} (h : PV p shm [] q f closed)
    (hs : ∀ x ∈ shm, ∃ j, x = .S j) (hi : .S i ∈ shm)
    (hstop : p.alive = false ∨ p.done = true ∨ closed = true) :
    PV { p with opn := none } [] [] (q ++ [i]) f closed := by
  obtain ⟨_, ho, hnp⟩ := h.flush_opn hs hi
  have hdi := h.d
  rw [ho] at hdi
  refine ⟨?_, ?_, ?_, ?_, ?_, ?_, ?_⟩
  · simpa [ends] using hdi.handOver
  · have : sentOpen { p with opn := none } = none := by
      unfold sentOpen
      split <;> rfl
    rw [this]
    exact WB.nil
  · intro hs'
    have := h.c.unstarted hs'
    exact ⟨this.1, this.2.1, this.2.2.1, this.2.2.2.1, rfl, this.2.2.2.2.2⟩
  · intro _ _
    rfl
  · intro _ ha hd hc
    rcases hstop with h1 | h1 | h1
    · rw [ha] at h1
      cases h1
    · rw [hd] at h1
      cases h1
    · rw [hc] at h1
      cases h1
  · intro r hr
    exact absurd hr (hnp r)
  · intro r c _ _ ho'
    cases ho'

/-- write_buffer (+ `flag = WRITTEN`): the head of the tid's queue goes to the file -/
theorem PV.writeHead {closed : Bool} {i : Nat} {q' : List Nat} {b b' : Buf} (h : PV p shm pt (i :: q') f closed)
    (hb : p.bufs[i]? = some b) (hd : b'.data = []) :
    PV { p with bufs := p.bufs.set i b' } shm pt q' (f ++ b.data) closed := by
  have hdi := h.d
  rw [List.cons_append] at hdi
  have hio : p.opn ≠ some i := by
    intro e
    have hnd := hdi.nodup
    rw [e] at hnd
    simp at hnd
  refine ⟨hdi.writeHead hb hd, h.c.wb, ?_, h.c.needBuf, h.c.live, ?_, ?_⟩
  · intro hs'
    rw [(h.c.unstarted hs').1] at hb
    cases hb
  · intro r hr
    obtain ⟨h1, h2⟩ := h.c.picked r hr
    refine ⟨h1, fun c hc => ?_⟩
    have : c ≠ i := fun e => hio (e ▸ h1.trans hc)
    rw [dataAt_set_ne _ this]
    exact h2 c hc
  · intro r c hr hc ho
    have : c ≠ i := fun e => hio (e ▸ ho)
    rw [dataAt_set_ne _ this]
    exact h.c.hdr r c hr hc ho

end producer

/-! ### the machine's steps, rule by rule -/

theorem send_open {s : State} (m : Msg) (h : s.pipeClosed = false) : s.send m = { s with pipe := s.pipe ++ [m] } := by
  simp [State.send, h]
theorem send_closed {s : State} (m : Msg) (h : s.pipeClosed = true) : s.send m = s := by
  simp [State.send, h]
theorem send_prod (X : State) (m : Msg) : (X.send m).prod = X.prod := by
  unfold State.send
  split <;> rfl
theorem send_file (s : State) (m : Msg) : (s.send m).file = s.file := by
  unfold State.send
  split <;> rfl
@[simp] theorem send_pipeClosed (s : State) (m : Msg) : (s.send m).pipeClosed = s.pipeClosed := by
  unfold State.send
  split <;> rfl
@[simp] theorem send_lostLog (s : State) (m : Msg) : (s.send m).lostLog = s.lostLog := by
  unfold State.send
  split <;> rfl
@[simp] theorem send_lostCount (s : State) (m : Msg) : (s.send m).lostCount = s.lostCount := by
  unfold State.send
  split <;> rfl

def State.sendOpt (s : State) : Option Msg → State
  | none => s
  | some m => s.send m

theorem sendOpt_prod (s : State) (m : Option Msg) : (s.sendOpt m).prod = s.prod := by
  cases m
  · rfl
  · exact send_prod s _
theorem sendOpt_file (s : State) (m : Option Msg) : (s.sendOpt m).file = s.file := by
  cases m
  · rfl
  · exact send_file s _
theorem sendOpt_pipeClosed (s : State) (m : Option Msg) : (s.sendOpt m).pipeClosed = s.pipeClosed := by
  cases m
  · rfl
  · exact send_pipeClosed s _

/-- the micro-steps of a thread that may run hook code (`canEmit`), read as a relation on its producer state: one rule per
    path through `step`, with the tests that lead there and the message that goes out -/
inductive PStep (cfg : Cfg) (t : Tid) (p : Prod) : Action → Prod → Option Msg → Prop
  | pWrite {r} : p.pc = .idle → fits cfg p r = true → PStep cfg t p (.pWrite t r) { p with pc := .wrote r } none
  | pBumpTorn {r c} : p.pc = .wrote r → p.curr = some c → (r.payload && !cfg.fixed) = true →
      PStep cfg t p (.pBump t) { p with bufs := appendData p.bufs c (.torn r), pc := .hdr r } none
  | pBump {r c} : p.pc = .wrote r → p.curr = some c → (r.payload && !cfg.fixed) = false →
      PStep cfg t p (.pBump t)
        { p with bufs := appendData p.bufs c (.whole r), pc := .idle, log := p.log ++ [.kept r] } none
  | pBump2 {r c} : p.pc = .hdr r → p.curr = some c →
      PStep cfg t p (.pBump2 t) { p with bufs := completeData p.bufs c r, pc := .idle, log := p.log ++ [.kept r] } none
  | pEnd {r c} : p.pc = .idle → fits cfg p r = false → p.curr = some c →
      PStep cfg t p (.pEnd t r) { p with pc := .needBuf r, opn := none } (some (.recEnd t c))
  | pEndNone {r} : p.pc = .idle → fits cfg p r = false → p.curr = none →
      PStep cfg t p (.pEnd t r) { p with pc := .needBuf r } none
  | pPickReuse {ok r idx b} : p.pc = .needBuf r → firstFree p.bufs = some idx → p.bufs[idx]? = some b →
      PStep cfg t p (.pPick t ok)
        { p with bufs := shrink (p.bufs.set idx { b with recording := true, data := [] }) idx,
                 curr := some idx, opn := some idx, pc := .picked r } none
  | pPickGrow {r} : p.pc = .needBuf r → firstFree p.bufs = none →
      PStep cfg t p (.pPick t true)
        { p with bufs := shrink (p.bufs ++ [{ recording := true }]) p.bufs.length,
                 curr := some p.bufs.length, opn := some p.bufs.length, pc := .picked r } none
  | pPickFail {r} : p.pc = .needBuf r → firstFree p.bufs = none →
      PStep cfg t p (.pPick t false)
        { p with losts := p.losts + (if cfg.countFix then 1 else 2), curr := none, pc := .idle,
                 log := p.log ++ [.allocFail, .dropped r] } none
  | pStart {r c} : p.pc = .picked r → p.curr = some c →
      PStep cfg t p (.pStart t) { p with pc := .started r } (some (.recStart t c))
  | pMarkLost {r c} : p.pc = .started r → p.curr = some c → p.losts > 0 →
      PStep cfg t p (.pMark t)
        { p with bufs := appendData p.bufs c (.lost p.losts), losts := 0, pc := .wrote r,
                 log := p.log ++ [.lostMark p.losts], lostMsgs := p.lostMsgs ++ [p.losts] }
        (some (.lost t p.losts))
  | pMarkNone {r c} : p.pc = .started r → p.curr = some c → p.losts = 0 →
      PStep cfg t p (.pMark t) { p with pc := .wrote r } none
  | pAbandon {rs counted} : p.pc = .idle → p.curr = none → p.losts > 0 →
      PStep cfg t p (.pAbandon t rs counted)
        { p with losts := p.losts + (if counted || cfg.countFix then rs.length else 0),
                 log := p.log ++ rs.map .dropped } none

/-- `step` read as a relation: a micro-step of a thread that may emit, or one of the other rules -/
inductive Step (cfg : Cfg) (s : State) : Action → State → Prop
  | emit {t a p' m} : s.canEmit t = true → PStep cfg t (s.prod t) a p' m → Step cfg s a ((s.setProd t p').sendOpt m)
  | pPrepare {t} : (s.prod t).started = false → s.pipeClosed = false →
      Step cfg s (.pPrepare t)
        ((s.setProd t { s.prod t with started := true, bufs := [{ recording := true, isNew := true }, {}],
                                      curr := some 0, opn := some 0 }).send (.recStart t 0))
  | pFinish {t s1} : finishCore s t = some s1 → Step cfg s (.pFinish t) (reportTail cfg t s1)
  | pFinishTrigger {t} : s.canEmit t = true → (s.prod t).pc = .idle →
      Step cfg s (.pFinishTrigger t) { s with pipe := s.pipe ++ [.finish], pipeClosed := true }
  | kill {t} : Step cfg s (.kill t) (s.setProd t { s.prod t with alive := false })
  | rReadStart {t i rest} : s.pipe = .recStart t i :: rest →
      Step cfg s .rRead { s with pipe := rest, shmemList := s.shmemList ++ [⟨t, i⟩] }
  | rReadEnd {t i rest} : s.pipe = .recEnd t i :: rest →
      Step cfg s .rRead (recordMmap { s with pipe := rest, shmemList := s.shmemList.erase ⟨t, i⟩ } ⟨t, i⟩)
  | rReadLost {t n rest} : s.pipe = .lost t n :: rest →
      Step cfg s .rRead { s with pipe := rest, lostCount := s.lostCount + n, lostLog := s.lostLog ++ [(t, n)] }
  | rReadFinish {rest} : s.pipe = .finish :: rest → Step cfg s .rRead { s with pipe := rest }
  | rFlush {t i} : (⟨t, i⟩ : WBuf) ∈ s.shmemList →
      ((s.prod t).alive = false ∨ (s.prod t).done = true ∨ s.pipeClosed = true) → s.pipe.any (msgOf t) = false →
      Step cfg s (.rFlush t i)
        (recordMmap (({ s with shmemList := s.shmemList.erase ⟨t, i⟩ } : State).setProd t
          { s.prod t with opn := if (s.prod t).opn = some i then none else (s.prod t).opn }) ⟨t, i⟩)
  | rStop : Step cfg s .rStop { s with bufDone := true }
  | rRemaining {pool wb} : s.bufDone = true → s.pool.popRemaining = some (pool, wb) →
      Step cfg s .rRemaining (writeOut { s with pool := pool } wb false)
  | wPick {w pool} : s.pool.pick w s.bufDone = some pool → Step cfg s (.wPick w) { s with pool := pool }
  | wWrite {w pool wb} : s.pool.popHead w = some (pool, wb) →
      Step cfg s (.wWrite w) (writeOut { s with pool := pool } wb true)
  | wSplice {w pool} : s.pool.splice w = some pool → Step cfg s (.wSplice w) { s with pool := pool }

theorem of_not_bnot {c : Bool} (h : ¬(!c) = true) : c = true := by
  cases c
  · exact absurd rfl h
  · rfl

theorem step_sound {cfg : Cfg} {s s' : State} {a : Action} (hs : step cfg s a = some s') : Step cfg s a s' := by
  cases a with
  | pPrepare t =>
    obtain ⟨hg, hs⟩ := Option.ite_none_left_eq_some.mp hs
    simp only [Bool.or_eq_true, not_or, Bool.not_eq_true] at hg
    cases hs
    exact .pPrepare hg.1 hg.2
  | pWrite t r =>
    obtain ⟨hg, hs⟩ := Option.ite_none_right_eq_some.mp hs
    simp only [Bool.and_eq_true, beq_iff_eq] at hg
    cases hs
    exact .emit hg.1.1 (.pWrite hg.1.2 hg.2)
  | pBump t =>
    rw [step] at hs
    split at hs
    · rename_i r c hpc hc
      obtain ⟨hce, hs⟩ := Option.ite_none_left_eq_some.mp hs
      split at hs
      · cases hs
        exact .emit (of_not_bnot hce) (.pBumpTorn hpc hc ‹_›)
      · cases hs
        exact .emit (of_not_bnot hce) (.pBump hpc hc (Bool.eq_false_iff.mpr ‹_›))
    · cases hs
  | pBump2 t =>
    rw [step] at hs
    split at hs
    · rename_i r c hpc hc
      obtain ⟨hce, hs⟩ := Option.ite_none_left_eq_some.mp hs
      cases hs
      exact .emit (of_not_bnot hce) (.pBump2 hpc hc)
    · cases hs
  | pEnd t r =>
    obtain ⟨hg, hs⟩ := Option.ite_none_right_eq_some.mp hs
    simp only [Bool.and_eq_true, beq_iff_eq, Bool.not_eq_true'] at hg
    split at hs
    · cases hs
      exact .emit hg.1.1 (.pEnd hg.1.2 hg.2 ‹_›)
    · cases hs
      exact .emit hg.1.1 (.pEndNone hg.1.2 hg.2 ‹_›)
  | pPick t ok =>
    rw [step] at hs
    split at hs
    · rename_i r hpc
      obtain ⟨hce, hs⟩ := Option.ite_none_left_eq_some.mp hs
      split at hs
      · split at hs
        · cases hs
          exact .emit (of_not_bnot hce) (.pPickReuse hpc ‹_› ‹_›)
        · cases hs
      · cases ok
        · cases hs
          exact .emit (of_not_bnot hce) (.pPickFail hpc ‹_›)
        · cases hs
          exact .emit (of_not_bnot hce) (.pPickGrow hpc ‹_›)
    · cases hs
  | pStart t =>
    rw [step] at hs
    split at hs
    · rename_i r c hpc hc
      obtain ⟨hce, hs⟩ := Option.ite_none_left_eq_some.mp hs
      cases hs
      exact .emit (of_not_bnot hce) (.pStart hpc hc)
    · cases hs
  | pMark t =>
    rw [step] at hs
    split at hs
    · rename_i r c hpc hc
      obtain ⟨hce, hs⟩ := Option.ite_none_left_eq_some.mp hs
      split at hs
      · cases hs
        exact .emit (of_not_bnot hce) (.pMarkLost hpc hc ‹_›)
      · cases hs
        exact .emit (of_not_bnot hce) (.pMarkNone hpc hc (Nat.eq_zero_of_not_pos ‹_›))
    · cases hs
  | pAbandon t rs cn =>
    obtain ⟨hg, hs⟩ := Option.ite_none_right_eq_some.mp hs
    simp only [Bool.and_eq_true, beq_iff_eq, decide_eq_true_eq, Option.isNone_iff_eq_none] at hg
    cases hs
    exact .emit hg.1.1.1 (.pAbandon hg.1.1.2 hg.1.2 hg.2)
  | pFinish t =>
    rw [step] at hs
    split at hs
    · cases hs
      exact .pFinish ‹_›
    · cases hs
  | pFinishTrigger t =>
    obtain ⟨hg, hs⟩ := Option.ite_none_right_eq_some.mp hs
    simp only [Bool.and_eq_true, beq_iff_eq] at hg
    cases hs
    exact .pFinishTrigger hg.1 hg.2
  | kill t =>
    cases hs
    exact .kill
  | rRead =>
    rw [step] at hs
    split at hs
    · cases hs
    · cases hs
      exact .rReadStart ‹_›
    · cases hs
      exact .rReadEnd ‹_›
    · cases hs
      exact .rReadLost ‹_›
    · cases hs
      exact .rReadFinish ‹_›
  | rFlush t i =>
    obtain ⟨hg, hs⟩ := Option.ite_none_right_eq_some.mp hs
    simp only [Bool.and_eq_true, List.contains_iff_mem, Bool.or_eq_true, Bool.not_eq_eq_eq_not, Bool.not_true,
      or_assoc] at hg
    cases hs
    exact .rFlush hg.1.1 hg.1.2 hg.2
  | rStop =>
    cases hs
    exact .rStop
  | rRemaining =>
    obtain ⟨hd, hs⟩ := Option.ite_none_left_eq_some.mp hs
    split at hs
    · cases hs
      exact .rRemaining (of_not_bnot hd) ‹_›
    · cases hs
  | wPick w =>
    rw [step] at hs
    split at hs
    · cases hs
      exact .wPick ‹_›
    · cases hs
  | wWrite w =>
    rw [step] at hs
    split at hs
    · cases hs
      exact .wWrite ‹_›
    · cases hs
  | wSplice w =>
    rw [step] at hs
    split at hs
    · cases hs
      exact .wSplice ‹_›
    · cases hs

/-- what shmem_finish does: nothing is sent (no RECORDING current buffer, or the pipe is closed), or REC_END for the
    current buffer goes out -/
theorem finishCore_cases {s s' : State} {t : Tid} (hs : finishCore s t = some s') :
    (s.prod t).started = true ∧ (s.prod t).alive = true ∧ (s.prod t).done = false ∧ (s.prod t).pc = .idle ∧
    (s' = s.setProd t { s.prod t with done := true, curr := none } ∨
      ∃ c, (s.prod t).curr = some c ∧ s.pipeClosed = false ∧
        s' = (s.setProd t { s.prod t with done := true, curr := none, opn := none }).send (.recEnd t c)) := by
  rw [finishCore] at hs
  obtain ⟨hg, hs⟩ := Option.ite_none_right_eq_some.mp hs
  simp only [Bool.and_eq_true, beq_iff_eq, Bool.not_eq_true'] at hg
  refine ⟨hg.1.1.1, hg.1.1.2, hg.1.2, hg.2, ?_⟩
  cases hc : (s.prod t).curr with
  | none =>
    simp only [hc, Bool.false_and, Bool.false_eq_true, if_false, Option.some.injEq] at hs
    exact Or.inl hs.symm
  | some c =>
    cases hb : (s.prod t).bufs[c]? with
    | none =>
      simp only [hc, hb, Bool.false_and, Bool.false_eq_true, if_false, Option.some.injEq] at hs
      exact Or.inl hs.symm
    | some b =>
      cases hr : b.recording
      · simp only [hc, hb, hr, Bool.false_and, Bool.false_eq_true, if_false, Option.some.injEq] at hs
        exact Or.inl hs.symm
      · cases hcl : s.pipeClosed
        · simp only [hc, hb, hr, hcl, Bool.not_false, Bool.and_self, if_true, Option.some.injEq] at hs
          exact Or.inr ⟨c, rfl, rfl, hs.symm⟩
        · simp only [hc, hb, hr, hcl, Bool.not_true, Bool.and_false, Bool.false_eq_true, if_false, if_true,
            Option.some.injEq] at hs
          rw [send_closed _ (show (s.setProd t _).pipeClosed = true from hcl)] at hs
          exact Or.inl hs.symm

/-- record_mmap_file: the buffer is queued, or nothing happens -/
theorem recordMmap_ind {P : State → Prop} {s : State} {wb : WBuf} (h0 : P s)
    (h1 : P { s with pool := s.pool.enqueue wb }) : P (recordMmap s wb) := by
  unfold recordMmap
  split
  · exact h0
  · split
    · exact h1
    · exact h0

/-- write_buffer: the bytes of an existing buffer go to the file of its tid and the buffer is emptied -/
theorem writeOut_ind {P : State → Prop} {s : State} {wb : WBuf} {fl : Bool} (h0 : P s)
    (h1 : ∀ b b', (s.prod wb.tid).bufs[wb.idx]? = some b → b'.data = [] →
      P { s.setProd wb.tid { s.prod wb.tid with bufs := (s.prod wb.tid).bufs.set wb.idx b' } with
          file := fun x => if x = wb.tid then s.file x ++ b.data else s.file x }) : P (writeOut s wb fl) := by
  unfold writeOut
  cases hb : (s.prod wb.tid).bufs[wb.idx]? with
  | none =>
    simp only [hb]
    exact h0
  | some b =>
    simp only [hb]
    refine h1 b _ hb ?_
    split <;> rfl

/-! ### the global invariant -/

def qidx (s : State) (t : Tid) : List Nat := (s.pool.queue t).map (·.idx)

def VInv (s : State) (t : Tid) : Prop :=
  PV (s.prod t) (shmToks t s.shmemList) (pipeToks t s.pipe) (qidx s t) (s.file t) s.pipeClosed

structure Inv (s : State) : Prop where
  pool : WInv s.pool
  view : ∀ t, VInv s t

@[simp] theorem setProd_prod_same (s : State) (t : Tid) (p : Prod) : (s.setProd t p).prod t = p := by
  simp [State.setProd]
theorem setProd_prod_ne (s : State) {t x : Tid} (p : Prod) (h : x ≠ t) : (s.setProd t p).prod x = s.prod x := by
  simp [State.setProd, h]
@[simp] theorem setProd_pipe (s : State) (t : Tid) (p : Prod) : (s.setProd t p).pipe = s.pipe := rfl
@[simp] theorem setProd_shm (s : State) (t : Tid) (p : Prod) : (s.setProd t p).shmemList = s.shmemList := rfl
@[simp] theorem setProd_pool (s : State) (t : Tid) (p : Prod) : (s.setProd t p).pool = s.pool := rfl
@[simp] theorem setProd_file (s : State) (t : Tid) (p : Prod) : (s.setProd t p).file = s.file := rfl
@[simp] theorem setProd_closed (s : State) (t : Tid) (p : Prod) : (s.setProd t p).pipeClosed = s.pipeClosed := rfl
@[simp] theorem setProd_bufDone (s : State) (t : Tid) (p : Prod) : (s.setProd t p).bufDone = s.bufDone := rfl

theorem PV.init : PV {} [] [] [] [] false := by
  refine ⟨⟨List.nodup_nil, ?_, ?_, rfl⟩, WB.nil, fun _ => ⟨rfl, rfl, rfl, rfl, rfl, rfl⟩, ?_, fun _ _ _ _ _ => rfl, ?_, ?_⟩
  · intro i hi
    cases hi
  · intro i b hb
    cases hb
  · intro r hr
    cases hr
  · intro r hr
    cases hr
  · intro r c hr
    cases hr

theorem inv_init (nw : Nat) : Inv (State.init nw) := by
  have hr : regs (List.replicate nw ({} : Warg)) = [] := by
    rw [regs, List.filterMap_eq_nil_iff]
    intro w hw
    rw [(List.mem_replicate.mp hw).2]
  refine ⟨⟨Nat.zero_le _, ?_, ?_, ?_, ?_⟩, fun t => ?_⟩
  · intro w hw _
    rw [(List.mem_replicate.mp hw).2]
    exact ⟨rfl, rfl⟩
  · intro w hw t ht
    rw [(List.mem_replicate.mp hw).2] at ht
    cases ht
  · intro _ _ _ _
    rfl
  · rw [show (State.init nw).pool.writers = List.replicate nw {} from rfl, hr]
    exact List.nodup_nil
  · have hq : qidx (State.init nw) t = [] := by
      have : wq t (List.replicate nw ({} : Warg)) = [] := wq_nil (by rw [hr]; exact List.not_mem_nil)
      rw [qidx, Pool.queue, show (State.init nw).pool.writers = List.replicate nw {} from rfl, this]
      rfl
    unfold VInv
    rw [hq]
    exact PV.init

/-- the views of the tids that a step does not touch: it changes neither their producers nor their tokens, queues
    and files, and the pipe stays as it is or is closed -/
theorem vinv_congr {s s' : State} {x : Tid} (hv : VInv s x) (hp : s'.prod x = s.prod x := by rfl)
    (hshm : shmToks x s'.shmemList = shmToks x s.shmemList := by rfl)
    (hpipe : pipeToks x s'.pipe = pipeToks x s.pipe := by rfl)
    (hq : qidx s' x = qidx s x := by rfl) (hf : s'.file x = s.file x := by rfl)
    (hc : s'.pipeClosed = s.pipeClosed ∨ s'.pipeClosed = true := by exact Or.inl rfl) : VInv s' x := by
  unfold VInv at *
  rw [hp, hshm, hpipe, hq, hf]
  rcases hc with e | e
  · rw [e]
    exact hv
  · rw [e]
    exact hv.close

section steps
variable {cfg : Cfg} {s s' : State}

theorem pipeToks_single_S (t : Tid) (i : Nat) : pipeToks t [.recStart t i] = [.S i] := if_pos rfl
theorem pipeToks_single_E (t : Tid) (i : Nat) : pipeToks t [.recEnd t i] = [.E i] := if_pos rfl
theorem pipeToks_single_S_ne {t x : Tid} (i : Nat) (h : x ≠ t) : pipeToks x [.recStart t i] = [] :=
  if_neg (Ne.symm h)
theorem pipeToks_single_E_ne {t x : Tid} (i : Nat) (h : x ≠ t) : pipeToks x [.recEnd t i] = [] :=
  if_neg (Ne.symm h)

/-- a step of thread `t` that touches only its own producer state -/
theorem inv_setProd {t : Tid} (h : Inv s) (p' : Prod)
    (hv : PV p' (shmToks t s.shmemList) (pipeToks t s.pipe) (qidx s t) (s.file t) s.pipeClosed) :
    Inv (s.setProd t p') := by
  refine ⟨h.pool, fun x => ?_⟩
  by_cases hx : x = t
  · subst hx
    unfold VInv
    rw [setProd_prod_same]
    exact hv
  · exact vinv_congr (h.view x) (setProd_prod_ne _ _ hx)

/-- … and sends a message, of which the other tids see no token -/
theorem inv_send {t : Tid} (h : Inv s) (hcl : s.pipeClosed = false) (p' : Prod) (m : Msg) {tk : List Tok}
    (hm : ∀ x, x ≠ t → pipeToks x [m] = []) (ht : pipeToks t [m] = tk)
    (hv : PV p' (shmToks t s.shmemList) (pipeToks t s.pipe ++ tk) (qidx s t) (s.file t) false) :
    Inv ((s.setProd t p').send m) := by
  rw [send_open m (show (s.setProd t p').pipeClosed = false from hcl)]
  refine ⟨h.pool, fun x => ?_⟩
  by_cases hx : x = t
  · subst hx
    unfold VInv
    dsimp only
    rw [setProd_prod_same, setProd_pipe, pipeToks_append, ht, setProd_closed, hcl]
    exact hv
  · refine vinv_congr (h.view x) (setProd_prod_ne _ _ hx) (hpipe := ?_)
    show pipeToks x (s.pipe ++ [m]) = pipeToks x s.pipe
    rw [pipeToks_append, hm x hx, List.append_nil]

theorem survivors_dropped (rs : List Rec) : survivors (rs.map Ev.dropped) = [] := by
  rw [survivors_eq, List.filterMap_map]
  exact List.filterMap_eq_nil_iff.mpr fun _ _ => rfl

theorem inv_finishCore {t : Tid} (h : Inv s) (hs : finishCore s t = some s') : Inv s' := by
  obtain ⟨hst, hal, hdn, hpc, rfl | ⟨c, hc, hcl, rfl⟩⟩ := finishCore_cases hs
  · exact inv_setProd h _ ((h.view t).finishKeep hpc hst)
  · have hv := h.view t
    unfold VInv at hv
    rw [hcl] at hv
    exact inv_send h hcl _ _ (fun x hx => pipeToks_single_E_ne c hx) (pipeToks_single_E t c)
      (hv.finishSend hpc hc hst hal hdn)

/-- shmem_finish reports only a count that is not 0: the thread was started -/
theorem inv_reportTail {t : Tid} (h : Inv s) : Inv (reportTail cfg t s) := by
  unfold reportTail
  dsimp only
  split
  · rename_i hg
    simp only [Bool.and_eq_true, Bool.not_eq_true', decide_eq_true_eq] at hg
    have hv := h.view t
    unfold VInv at hv
    rw [hg.2] at hv
    have hst : (s.prod t).started = true := by
      cases hst : (s.prod t).started
      · have := (hv.c.unstarted hst).2.2.2.2.2
        omega
      · rfl
    refine inv_send h hg.2 _ _ (tk := []) (fun _ _ => rfl) rfl ?_
    rw [List.append_nil]
    exact hv.ghost hst _ _ ((survivors_append _ _).trans (List.append_nil _))
  · exact h

theorem qidx_enqueue (hw : WInv s.pool) (wb : WBuf) (x : Tid) :
    ((s.pool.enqueue wb).queue x).map (·.idx) = qidx s x ++ (if wb.tid = x then [wb.idx] else []) := by
  rw [enqueue_queue wb hw x, qidx, List.map_append]
  split <;> rfl

/-- record_mmap_file of a buffer that the view of its tid already counts as queued: it is queued, or it is empty
    and dropped (A12); the other tids see nothing of either -/
theorem inv_recordMmap {wb : WBuf} (hw : WInv s.pool) (ho : ∀ x, x ≠ wb.tid → VInv s x)
    (hv : PV (s.prod wb.tid) (shmToks wb.tid s.shmemList) (pipeToks wb.tid s.pipe) (qidx s wb.tid ++ [wb.idx])
      (s.file wb.tid) s.pipeClosed) : Inv (recordMmap s wb) := by
  obtain ⟨b, hb, hr⟩ :=
    hv.chain_recording (i := wb.idx) (List.mem_append_left _ (List.mem_append_right _ (List.mem_singleton_self _)))
  unfold recordMmap
  rw [hb]
  dsimp only
  split
  · refine ⟨enqueue_inv _ hw, fun x => ?_⟩
    have hq := qidx_enqueue hw wb x
    by_cases hx : x = wb.tid
    · subst hx
      rw [if_pos rfl] at hq
      unfold VInv qidx
      rw [hq]
      exact hv
    · rw [if_neg (Ne.symm hx), List.append_nil] at hq
      exact vinv_congr (ho x hx) (hq := hq)
  · rename_i hne
    have hne : dataAt (s.prod wb.tid).bufs wb.idx = [] := by
      rw [dataAt, hb]
      simpa [hr] using hne
    refine ⟨hw, fun x => ?_⟩
    by_cases hx : x = wb.tid
    · subst hx
      exact hv.unqueue hne
    · exact ho x hx

/-- the common part of wWrite and rRemaining: `wb` is the head of its tid's queue -/
theorem inv_writeOut {pool : Pool} {wb : WBuf} {fl : Bool} (h : Inv s) (hw : WInv pool)
    (hq : s.pool.queue wb.tid = wb :: pool.queue wb.tid ∧ ∀ t, t ≠ wb.tid → pool.queue t = s.pool.queue t) :
    Inv (writeOut { s with pool := pool } wb fl) := by
  have hvt := h.view wb.tid
  unfold VInv at hvt
  rw [qidx, hq.1, List.map_cons] at hvt
  obtain ⟨b, hb, hr⟩ := hvt.chain_recording (i := wb.idx) (List.mem_append_left _ List.mem_cons_self)
  unfold writeOut
  dsimp only
  rw [hb]
  refine ⟨hw, fun x => ?_⟩
  by_cases hx : x = wb.tid
  · subst hx
    unfold VInv
    simp only [setProd_prod_same, if_true]
    apply hvt.writeHead hb
    split <;> rfl
  · refine vinv_congr (h.view x) (setProd_prod_ne _ _ hx) (hq := ?_) (hf := if_neg hx)
    rw [qidx, qidx]
    exact congrArg _ (hq.2 x hx)

theorem inv_step {a : Action} (h : Inv s) (hs : step cfg s a = some s') : Inv s' := by
  cases step_sound hs with
  | @emit t _ _ _ hce hp =>
    obtain ⟨hst, hal, hdn, hcl⟩ := canEmit_iff.mp hce
    have hv := h.view t
    unfold VInv at hv
    rw [hcl] at hv
    cases hp with
    | @pWrite r hpc _ | @pMarkNone r _ hpc _ _ => exact inv_setProd h _ (hcl ▸ hv.wrote (hpc ▸ rfl) r hst)
    | pBumpTorn hpc hc _ => exact inv_setProd h _ (hcl ▸ hv.bumpTorn hpc hc hst hal hdn)
    | @pBump r c hpc hc _ =>
      exact inv_setProd h _ (hcl ▸ hv.append (.whole r) (hpc ▸ rfl) rfl hc hst hal hdn (survivors_append _ _))
    | pBump2 hpc hc => exact inv_setProd h _ (hcl ▸ hv.bump2 hpc hc hst hal hdn)
    | @pEnd r c hpc _ hc =>
      exact inv_send h hcl _ _ (fun x hx => pipeToks_single_E_ne c hx) (pipeToks_single_E t c)
        (hv.endSome r hpc hc hst hal hdn)
    | @pEndNone r hpc _ hc => exact inv_setProd h _ (hcl ▸ hv.endNone r hpc hc hst hal hdn)
    | @pPickReuse ok r idx b hpc hff hb =>
      have hdi := hv.d
      rw [hv.c.needBuf r hpc] at hdi
      obtain ⟨b0, hb0, hr0⟩ := firstFree_some hff
      obtain rfl : b0 = b := Option.some.inj (hb0.symm.trans hb)
      exact inv_setProd h _ (hcl ▸ hv.pick hpc hst (hdi.pickReuse hb hr0))
    | @pPickGrow r hpc _ =>
      have hdi := hv.d
      rw [hv.c.needBuf r hpc] at hdi
      exact inv_setProd h _ (hcl ▸ hv.pick hpc hst hdi.pickGrow)
    | pPickFail hpc _ => exact inv_setProd h _ (hcl ▸ hv.pickFail _ hpc hst)
    | @pStart r c hpc hc =>
      exact inv_send h hcl _ _ (fun x hx => pipeToks_single_S_ne c hx) (pipeToks_single_S t c)
        (hv.start hpc hc hst hal hdn)
    | @pMarkLost r c hpc hc _ =>
      refine inv_send h hcl _ _ (tk := []) (fun _ _ => rfl) rfl ?_
      rw [List.append_nil]
      exact (hv.append (.lost (s.prod t).losts) (hpc ▸ rfl) rfl hc hst hal hdn (survivors_append _ _)).ghost
        hst 0 _ rfl
    | pAbandon _ _ _ =>
      refine inv_setProd h _ (hcl ▸ hv.ghost hst _ _ ?_)
      rw [survivors_append, survivors_dropped, List.append_nil]
  | @pPrepare t hst hcl =>
    have hv := h.view t
    unfold VInv at hv
    rw [hcl] at hv
    exact inv_send h hcl _ _ (fun x hx => pipeToks_single_S_ne 0 hx) (pipeToks_single_S t 0) (hv.prepare hst)
  | pFinish h1 => exact inv_reportTail (inv_finishCore h h1)
  | pFinishTrigger _ _ =>
    -- mcount_trace_finish: FINISH is no token of any tid; every view is closed
    refine ⟨h.pool, fun x => vinv_congr (h.view x) (hpipe := ?_) (hc := Or.inr rfl)⟩
    exact (pipeToks_append x _ _).trans (List.append_nil _)
  | kill => exact inv_setProd h _ (h.view _).kill
  | @rReadStart t i rest hp =>
    refine ⟨h.pool, fun x => ?_⟩
    have hv := h.view x
    by_cases hx : t = x
    · subst hx
      unfold VInv at hv ⊢
      rw [hp, pipeToks, if_pos rfl] at hv
      rw [shmToks_append, shmToks, if_pos rfl]
      exact hv.readStart
    · refine vinv_congr hv (hshm := ?_) (hpipe := ?_)
      · rw [shmToks_append, shmToks, if_neg hx]
        exact List.append_nil _
      · rw [hp, pipeToks, if_neg hx]
  | @rReadEnd t i rest hp =>
    have hvt := h.view t
    unfold VInv at hvt
    rw [hp, pipeToks, if_pos rfl] at hvt
    obtain ⟨hshm, hvt'⟩ := hvt.readEnd (shmToks_allS t s.shmemList)
    refine inv_recordMmap h.pool (fun x hx => ?_) ?_
    · refine vinv_congr (h.view x) (hshm := shmToks_erase_other (Ne.symm hx) i _) (hpipe := ?_)
      rw [hp, pipeToks, if_neg (Ne.symm hx)]
    · show PV _ (shmToks t (s.shmemList.erase ⟨t, i⟩)) (pipeToks t rest) (qidx s t ++ [i]) (s.file t) s.pipeClosed
      rw [shmToks_erase_self, hshm, List.erase_cons_head]
      exact hvt'
  | rReadLost hp => exact ⟨h.pool, fun x => vinv_congr (h.view x) (hpipe := by rw [hp]; rfl)⟩
  | rReadFinish hp => exact ⟨h.pool, fun x => vinv_congr (h.view x) (hpipe := by rw [hp]; rfl)⟩
  | @rFlush t i hmem hstop hany =>
    have hvt := h.view t
    unfold VInv at hvt
    rw [pipeToks_nil_of_not_any hany] at hvt
    have hall := shmToks_allS t s.shmemList
    obtain ⟨hshm, ho, _⟩ := hvt.flush_opn hall (mem_shmToks hmem)
    refine inv_recordMmap h.pool (fun x hx => ?_) ?_
    · exact vinv_congr (h.view x) (setProd_prod_ne _ _ hx) (hshm := shmToks_erase_other (Ne.symm hx) i _)
    · show PV _ (shmToks t (s.shmemList.erase ⟨t, i⟩)) (pipeToks t s.pipe) (qidx s t ++ [i]) (s.file t) s.pipeClosed
      rw [setProd_prod_same, if_pos ho, shmToks_erase_self, hshm, List.erase_cons_head, pipeToks_nil_of_not_any hany]
      exact hvt.flush_enq hall (mem_shmToks hmem) hstop
  | rStop => exact ⟨h.pool, fun x => vinv_congr (h.view x)⟩
  | rRemaining _ hp => exact inv_writeOut h (popRemaining_inv h.pool hp) (popRemaining_queue hp)
  | wPick hp =>
    exact ⟨pick_inv h.pool hp, fun x => vinv_congr (h.view x) (hq := congrArg _ (pick_queue h.pool hp x))⟩
  | wWrite hp => exact inv_writeOut h (popHead_inv h.pool hp) (popHead_queue h.pool hp)
  | wSplice hp =>
    exact ⟨splice_inv h.pool hp, fun x => vinv_congr (h.view x) (hq := congrArg _ (splice_queue hp x))⟩

end steps

theorem inv_reachable {cfg : Cfg} {nw : Nat} {s : State} (h : Reachable cfg nw s) : Inv s := by
  induction h with
  | init => exact inv_init nw
  | step a _ hs ih => exact inv_step ih hs

/-! ### the identity machine (tid cache and buffer ownership) -/

/-- invariant: the cache is empty or holds the thread's own tid, the thread fills its own buffers, and what a vfork
    in flight has put aside for the parent are the parent's own buffers -/
def IdInv (s : Ident) : Prop :=
  (s.cache = 0 ∨ s.cache = s.ktid) ∧ s.bufs = s.ktid ∧ ∀ p k b, s.saved = some (p, k, b) → b = k

theorem idInv_own {s : Ident} (h : IdInv s) : s.msgTid = s.ktid ∧ s.bufs = s.ktid := by
  obtain ⟨hc, hb, _⟩ := h
  refine ⟨?_, hb⟩
  unfold Ident.msgTid
  split
  · rfl
  · rename_i hn
    exact hc.resolve_left hn

theorem idStep_inv {s : Ident} (h : IdInv s) (o : IdOp) : IdInv (idStep {} s o) := by
  obtain ⟨hc, hb, hs⟩ := h
  cases o with
  | gettid => exact ⟨Or.inr (idInv_own ⟨hc, hb, hs⟩).1, hb, hs⟩
  | vfork c =>
    refine ⟨Or.inr rfl, rfl, fun p k b e => ?_⟩
    cases e
    exact hb
  | vforkDone stale =>
    rw [idStep]
    cases hsv : s.saved with
    | none => exact ⟨hc, hb, hs⟩
    | some x =>
      obtain ⟨p, k, b⟩ := x
      rw [Bool.not_true, Bool.and_false]
      exact ⟨Or.inl rfl, hs p k b hsv, fun _ _ _ e => nomatch e⟩
  | fork c => exact ⟨Or.inr rfl, rfl, fun _ _ _ e => nomatch e⟩
  | exec => exact ⟨Or.inl rfl, rfl, fun _ _ _ e => nomatch e⟩
  | otherVfork a => exact ⟨hc, hb, hs⟩

theorem idRun_inv : ∀ (ops : List IdOp) {s : Ident}, IdInv s → IdInv (idRun {} s ops)
  | [], _, h => h
  | o :: os, _, h => idRun_inv os (idStep_inv h o)

end Uft.Shmem

import Uft.Lemmas.Mcount
import Uft.Lemmas.McountCore
/- State restoration (C05) over call trees: by `exitCore_entryCore` at every call, the filter state after any tree
   of completed calls is the one before it, for the hooks that push a frame for every call (`restored_call`)
   and for the -pg hooks with the repair of F4 (`restored_call_pg`). -/
namespace Uft.C05
open Uft.Mcount

mutual
theorem restored_call (cfg : Cfg) (hf : cfg.fast = false) (hfin : ∀ f, (cfg.trig f).finish = false) :
    ∀ (c : Call) (s : St), (core s).WF cfg → core (runCall cfg .cyg s c) = core s
  | .node f t0 t1 kids, s, hwf => by
    have h1 := core_entry_cyg cfg hf s f t0 (hfin f)
    have hwf1 : (core (entry cfg .cyg s f t0).1).WF cfg := by rw [h1]; exact entryCore_wf cfg f _ hwf
    have hk := restored_calls cfg hf hfin kids (entry cfg .cyg s f t0).1 hwf1
    simp only [runCall, entry_cyg_took, ↓reduceIte]
    rw [core_exit cfg hf, hk, h1, exitCore_entryCore cfg f _ hwf]
theorem restored_calls (cfg : Cfg) (hf : cfg.fast = false) (hfin : ∀ f, (cfg.trig f).finish = false) :
    ∀ (cs : Calls) (s : St), (core s).WF cfg → core (runCalls cfg .cyg s cs) = core s
  | .nil, s, _ => rfl
  | .cons c rest, s, hwf => by
    have h1 := restored_call cfg hf hfin c s hwf
    have h2 := restored_calls cfg hf hfin rest (runCall cfg .cyg s c) (by rw [h1]; exact hwf)
    simp only [runCalls]
    rw [h2, h1]
end

mutual
theorem restored_call_pg (cfg : Cfg) (hf : cfg.fast = false) (hfix : cfg.f4fixed = true)
    (hfin : ∀ f, (cfg.trig f).finish = false) :
    ∀ (c : Call) (s : St), (core s).WF cfg → core (runCall cfg .pg s c) = core s
  | .node f t0 t1 kids, s, hwf => by
    simp only [runCall]
    by_cases hp : (entry cfg .pg s f t0).2 = true
    · have h1 : core (entry cfg .pg s f t0).1 = entryCore cfg f (core s) :=
        core_entry_pg_push cfg hf s f t0 (hfin f) hp
      have hwf1 : (core (entry cfg .pg s f t0).1).WF cfg := by rw [h1]; exact entryCore_wf cfg f _ hwf
      have hk := restored_calls_pg cfg hf hfix hfin kids (entry cfg .pg s f t0).1 hwf1
      simp only [hp, ↓reduceIte]
      rw [core_exit cfg hf, hk, h1, exitCore_entryCore cfg f _ hwf]
    · have hp' : (entry cfg .pg s f t0).2 = false := by simpa using hp
      have h1 := core_entry_pg_nopush cfg hf hfix s f t0 hp'
      have hk := restored_calls_pg cfg hf hfix hfin kids (entry cfg .pg s f t0).1 (by rw [h1]; exact hwf)
      simp only [hp', Bool.false_eq_true, ↓reduceIte]
      rw [hk, h1]
theorem restored_calls_pg (cfg : Cfg) (hf : cfg.fast = false) (hfix : cfg.f4fixed = true)
    (hfin : ∀ f, (cfg.trig f).finish = false) :
    ∀ (cs : Calls) (s : St), (core s).WF cfg → core (runCalls cfg .pg s cs) = core s
  | .nil, s, _ => rfl
  | .cons c rest, s, hwf => by
    have h1 := restored_call_pg cfg hf hfix hfin c s hwf
    have h2 := restored_calls_pg cfg hf hfix hfin rest (runCall cfg .pg s c) (by rw [h1]; exact hwf)
    simp only [runCalls]
    rw [h2, h1]
end

end Uft.C05

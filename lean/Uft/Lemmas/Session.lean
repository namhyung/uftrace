import Uft.Model.Session
import Uft.Lemmas.Symtab
/- Helper lemmas for C10: reference lists built by `add_session_ref`, dlopen list order. -/
namespace Uft.Session
open Uft.Symtab

/-- A history of `add_session_ref(task, sess, ts)` calls on one task: (sess, ts) pairs. -/
abbrev Adds := List (Nat × Nat)

/-- the reference list after a history of calls -/
def buildRefs (adds : Adds) : List SessRef :=
  adds.foldl (fun refs x => addRef refs x.1 x.2) []

/-- closed form: each reference ends where the next one starts, the last is open -/
def refsOf : Adds → List SessRef
  | [] => []
  | [x] => [{ sess := x.1, start := x.2, stop := TMAX }]
  | x :: y :: r => { sess := x.1, start := x.2, stop := y.2 } :: refsOf (y :: r)

theorem refsOf_snoc (adds : Adds) (x : Nat × Nat) :
    refsOf (adds ++ [x]) = addRef (refsOf adds) x.1 x.2 := by
  induction adds with
  | nil => simp [refsOf, addRef, closeLast]
  | cons a r ih =>
    cases r with
    | nil => simp [refsOf, addRef, closeLast]
    | cons b r' =>
      simp only [List.cons_append, refsOf] at ih ⊢
      rw [ih]
      cases hr : refsOf (b :: r') with
      | nil => cases r' <;> simp [refsOf] at hr
      | cons c cs => simp [addRef, closeLast]

theorem buildRefs_eq (adds : Adds) : buildRefs adds = refsOf adds := by
  unfold buildRefs
  suffices h : ∀ (pre : Adds), adds.foldl (fun refs x => addRef refs x.1 x.2) (refsOf pre)
      = refsOf (pre ++ adds) by simpa [refsOf] using h []
  induction adds with
  | nil => intro pre; simp
  | cons a r ih =>
    intro pre
    simp only [List.foldl_cons]
    rw [← refsOf_snoc, ih]
    simp

theorem refsOf_start_mem (adds : Adds) (r : SessRef) (hr : r ∈ refsOf adds) :
    ∃ x ∈ adds, r.start = x.2 ∧ r.sess = x.1 := by
  induction adds with
  | nil => simp [refsOf] at hr
  | cons a rest ih =>
    cases rest with
    | nil =>
      simp only [refsOf, List.mem_singleton] at hr
      exact ⟨a, by simp, by simp [hr]⟩
    | cons b r' =>
      simp only [refsOf, List.mem_cons] at hr
      rcases hr with hr | hr
      · exact ⟨a, by simp, by simp [hr]⟩
      · obtain ⟨x, hx, e⟩ := ih (by simpa [List.mem_cons] using hr)
        exact ⟨x, List.mem_cons_of_mem _ hx, e⟩

theorem refsOf_disjoint (adds : Adds) (hs : adds.Pairwise (fun x y => x.2 ≤ y.2)) :
    (refsOf adds).Pairwise (fun a b => a.stop ≤ b.start) := by
  induction adds with
  | nil => simp [refsOf]
  | cons a rest ih =>
    have hs' := (List.pairwise_cons.mp hs).2
    cases rest with
    | nil => simp [refsOf]
    | cons b r' =>
      simp only [refsOf]
      refine List.pairwise_cons.mpr ⟨?_, ih hs'⟩
      intro r hr
      obtain ⟨x, hx, e, _⟩ := refsOf_start_mem _ r hr
      simp only
      rw [e]
      rcases List.mem_cons.mp hx with h | h
      · subst h; exact Nat.le_refl _
      · exact (List.pairwise_cons.mp hs').1 x h

theorem findRef_refsOf_before (adds : Adds) (t : Nat)
    (h : ∀ x ∈ adds, t < x.2) : findRef (refsOf adds) t = none := by
  unfold findRef
  rw [List.find?_eq_none]
  intro r hr
  obtain ⟨x, hx, e, _⟩ := refsOf_start_mem adds r hr
  have := h x hx
  simp; omega

theorem findRef_refsOf (adds : Adds) (t : Nat) (ht : t < TMAX)
    (hs : adds.Pairwise (fun x y => x.2 ≤ y.2)) :
    (findRef (refsOf adds) t).map (·.sess) =
      (adds.filter (fun x => decide (x.2 ≤ t))).getLast?.map (·.1) := by
  induction adds with
  | nil => simp [refsOf, findRef]
  | cons a rest ih =>
    have hs' := (List.pairwise_cons.mp hs).2
    have ha := (List.pairwise_cons.mp hs).1
    cases rest with
    | nil =>
      by_cases h : a.2 ≤ t <;> simp [refsOf, findRef, h, ht]
    | cons b r' =>
      have ihb := ih hs'
      have hab : a.2 ≤ b.2 := ha b (by simp)
      by_cases h1 : a.2 ≤ t
      · by_cases h2 : t < b.2
        · -- inside the first interval; nothing later has started
          have hnone : (b :: r').filter (fun x => decide (x.2 ≤ t)) = [] := by
            rw [List.filter_eq_nil_iff]
            intro x hx
            have hbx : b.2 ≤ x.2 := by
              rcases List.mem_cons.mp hx with e | e
              · subst e; exact Nat.le_refl _
              · exact (List.pairwise_cons.mp hs').1 x e
            simp; omega
          rw [List.filter_cons_of_pos (by simpa using h1), hnone]
          simp [refsOf, findRef, h1, h2]
        · have hb : b.2 ≤ t := by omega
          have hne : (b :: r').filter (fun x => decide (x.2 ≤ t)) ≠ [] := by
            rw [List.filter_cons_of_pos (by simpa using hb)]; simp
          rw [List.filter_cons_of_pos (by simpa using h1), List.getLast?_cons_of_ne_nil hne, ← ihb]
          simp only [refsOf, findRef]
          rw [List.find?_cons_of_neg (by simp; omega)]
      · -- before the first start: the first call drops out on both sides
        rw [List.filter_cons_of_neg (by simpa using h1), ← ihb]
        simp only [refsOf, findRef]
        rw [List.find?_cons_of_neg (by simp; omega)]

/-! ### the session tree (in-order list) -/

/-- in-order sequence of the rb-tree: by pid, then by start time -/
def SessSorted (ss : List Sess) : Prop :=
  ss.Pairwise (fun a b => a.pid < b.pid ∨ (a.pid = b.pid ∧ a.start ≤ b.start))

theorem insertSess_eq (x : Sess) (ss : List Sess) :
    insertSess x ss = insertBefore (fun s => sessAfter s x.pid x.start) x ss := by
  induction ss with
  | nil => rfl
  | cons s r ih => simp only [insertSess, insertBefore, ih]

theorem insertSess_sorted (x : Sess) (ss : List Sess) (h : SessSorted ss) :
    SessSorted (insertSess x ss) := by
  rw [insertSess_eq]
  refine insertBefore_pairwise _ _ x (fun s hs => ?_) (fun s hs => ?_) ss h
  · simp only [sessAfter, Bool.or_eq_true, decide_eq_true_eq, Bool.and_eq_true, beq_iff_eq] at hs
    refine ⟨by omega, fun y hy => ?_⟩
    omega
  · have hs' : ¬ sessAfter s x.pid x.start = true := by simp [hs]
    simp only [sessAfter, Bool.or_eq_true, decide_eq_true_eq, Bool.and_eq_true, beq_iff_eq] at hs'
    omega

/-! ### dlopen list -/

theorem addDlopen_eq (libs : List DlLib) (x : DlLib) :
    addDlopen libs x = insertBefore (fun l => decide (l.time > x.time)) x libs := by
  induction libs with
  | nil => rfl
  | cons l r ih => simp only [addDlopen, insertBefore, ih, decide_eq_true_eq]

theorem mem_addDlopen (libs : List DlLib) (x y : DlLib) :
    y ∈ addDlopen libs x ↔ y = x ∨ y ∈ libs := by
  rw [addDlopen_eq, (insertBefore_perm _ x libs).mem_iff, List.mem_cons]

theorem addDlopen_sorted (libs : List DlLib) (x : DlLib)
    (h : libs.Pairwise (fun a b => a.time ≤ b.time)) :
    (addDlopen libs x).Pairwise (fun a b => a.time ≤ b.time) := by
  rw [addDlopen_eq]
  refine insertBefore_pairwise _ _ x (fun l hl => ?_) (fun l hl => ?_) libs h
  · have : l.time > x.time := by simpa using hl
    exact ⟨Nat.le_of_lt this, fun y hy => Nat.le_trans (Nat.le_of_lt this) hy⟩
  · have : ¬ l.time > x.time := by simpa using hl
    exact Nat.le_of_not_lt this

theorem foldl_addDlopen_sorted (xs init : List DlLib)
    (h : init.Pairwise (fun a b => a.time ≤ b.time)) :
    (xs.foldl addDlopen init).Pairwise (fun a b => a.time ≤ b.time) := by
  induction xs generalizing init with
  | nil => exact h
  | cons x r ih => exact ih _ (addDlopen_sorted init x h)

theorem mem_foldl_addDlopen (xs init : List DlLib) (l : DlLib) :
    l ∈ xs.foldl addDlopen init ↔ l ∈ init ∨ l ∈ xs := by
  induction xs generalizing init with
  | nil => simp
  | cons x r ih => rw [List.foldl_cons, ih, mem_addDlopen, List.mem_cons, or_comm (a := l = x), or_assoc]

theorem findSome?_filter_irrelevant {α β : Type} (f : α → Option β) (p : α → Bool) (l : List α)
    (h : ∀ x, p x = false → f x = none) : (l.filter p).findSome? f = l.findSome? f := by
  induction l with
  | nil => rfl
  | cons a r ih =>
    by_cases hp : p a = true
    · simp [List.filter_cons_of_pos hp, List.findSome?_cons, ih]
    · have hp' : p a = false := by simpa using hp
      rw [List.filter_cons_of_neg (by simp [hp']), List.findSome?_cons, h a hp', ih]

end Uft.Session

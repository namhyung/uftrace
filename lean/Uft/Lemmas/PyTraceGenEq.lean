/-
C19 — the definitions generated from python/trace-python.c by translators/c2lean.py
(`Uft.Gen.PyTraceC.can_trace`, `match_filter`, …) compute what the hand-written model
`Uft/Model/PyTrace.lean` computes.

Mapping: `filter_state.count_in/count_out`, `libcall_count` are the model's `St.cin/cout/lib` (all `Int` on both
sides); `libcall_mode` encodes `Cfg.lmode`; `sym->flag & UFT_PYSYM_F_LIBCALL` is `Cfg.isLib name`.
What the model abstracts (names are an arbitrary type, pattern matching is a predicate per filter) enters as
hypotheses on the encoding, never as an assumption about the control flow.
This file has the mapping and `apply_filters`; `can_trace` and `match_filter` are proved in `Uft/Props/C19Gen.lean`.
-/
import Uft.Model.PyTrace
import Uft.Gen.PyTraceC
import Uft.Lemmas.CommonGenEq
namespace Uft.PyTraceGenEq
open Uft.PyTrace Uft.Gen.C Uft.GenEq
open Uft.Gen.PyTraceC (Oracles can_trace match_filter apply_filters match_filter__elem__sym_name Elem_uftrace_python_filter)
/-- the generated field structure (the model's own state record is `Uft.PyTrace.St`) -/
abbrev GSt := Uft.Gen.PyTraceC.St

/-- `libcall_mode` holds the model's `lmode`: the two values `can_trace` tests for (UFT_PY_LIBCALL_NONE = 0,
    UFT_PY_LIBCALL_NESTED = 2, as they appear in the generated file); every other value is the single mode -/
structure LibEnc (m : LibMode) (code : Nat) : Prop where
  none : (code == 0) = (m == .none)
  nested : (code == 2) = (m == .nested)

/-! ### apply_filters: the `list_for_each_entry … break` loop is the model's `firstMatch`

The generated loop is `for filter_e in s0.filters_elems do …` with the mutable tuple
(count_in, count_out, cursor, broke-out flag).  `forIn_first` is the induction over the list, stated for any loop
body that skips an element whose filter does not match and stops at the first one that does; the concrete body is
supplied by unification and only has to be shown to have that shape (no induction there). -/

abbrev Elem := Elem_uftrace_python_filter
abbrev LSt := Int × Int × Option Elem × Bool

/-- two lists related element by element -/
inductive All₂ {α β : Type} (R : α → β → Prop) : List α → List β → Prop
  | nil : All₂ R [] []
  | cons {a b as bs} : R a b → All₂ R as bs → All₂ R (a :: as) (b :: bs)

/-- the first filter that matches, with its list element -/
def firstHit {α : Type} (n : α) : List (Filter α) → List Elem → Option (Filter α × Elem)
  | f :: fs, e :: es => if f.hit n then some (f, e) else firstHit n fs es
  | _, _ => none

/-- the last element visited when nothing matches -/
def lastOr (x : Option Elem) : List Elem → Option Elem
  | [] => x
  | e :: es => lastOr (some e) es

theorem forIn_first {α : Type} (n : α) (R : Filter α → Elem → Prop)
    (body : Elem → LSt → Id (ForInStep LSt)) (upd : Filter α → Elem → Int × Int → Int × Int)
    (hskip : ∀ f e st, R f e → f.hit n = false → body e st = ForInStep.yield (st.1, st.2.1, some e, st.2.2.2))
    (hhit : ∀ f e st, R f e → f.hit n = true →
      body e st = ForInStep.done ((upd f e (st.1, st.2.1)).1, (upd f e (st.1, st.2.1)).2, some e, true)) :
    ∀ fl es, All₂ R fl es → ∀ st : LSt,
      forIn (m := Id) es st body =
        match firstHit n fl es with
        | none => (st.1, st.2.1, lastOr st.2.2.1 es, st.2.2.2)
        | some (f, e) => ((upd f e (st.1, st.2.1)).1, (upd f e (st.1, st.2.1)).2, some e, true) := by
  intro fl es h
  induction h with
  | nil => intro st; simp [firstHit, lastOr]; rfl
  | @cons f e fs es hr _ ih =>
    intro st
    rw [List.forIn_cons]
    cases hh : f.hit n
    · rw [hskip f e st hr hh]
      simp only [firstHit, hh, lastOr]
      exact ih _
    · rw [hhit f e st hr hh]
      simp [firstHit, hh]
      rfl

theorem firstHit_spec {α : Type} (n : α) (R : Filter α → Elem → Prop) :
    ∀ fl es, All₂ R fl es →
      firstMatch fl n = (firstHit n fl es).map (fun p => p.1.mode) ∧
      ∀ f e, firstHit n fl es = some (f, e) → R f e := by
  intro fl es h
  induction h with
  | nil => simp [firstMatch, firstHit]
  | @cons f e fs es hr _ ih =>
    cases hh : f.hit n
    · simp only [firstMatch, firstHit, hh]; simpa using ih
    · simp [firstMatch, firstHit, hh]; exact hr

structure ElemRel {α : Type} (o : Oracles) (n : α) (sname : Ptr) (f : Filter α) (e : Elem) : Prop where
  modeIn : (e.mode == 1) = (f.mode == .fin)
  modeOut : (e.mode == 2) = (f.mode == .fout)
  hit : ∀ st, (match_filter__elem__sym_name o e.self e sname st).2 = f.hit n

structure GEnc (g : GMode) (code : Nat) : Prop where
  fin : (code == 1) = (g == .fin)
  fout : (code == 2) = (g == .fout)

def isEntryOf (o : Oracles) (event : Ptr) : Bool :=
  (o.strcmp "apply_filters:1" event (Ptr.str "call") == 0) || (o.strcmp "apply_filters:2" event (Ptr.str "c_call") == 0)

/-- the `return`s of apply_filters after the loop are the model's `skipDecision`: `cin` / `cout` are the counters the
    loop leaves, `fo` its cursor (`none` when no filter matched), `X` the state they are stored in -/
theorem skip_eq (g : GMode) (code : Nat) (hg : GEnc g code) (m : Option FMode) (fo : Option Elem) (X : GSt)
    (cin cout : Int) (ent : Bool)
    (h1 : (fo.isSome && (fo.getD default).mode == 1) = (m == some .fin))
    (h2 : (fo.isSome && (fo.getD default).mode == 2) = (m == some .fout)) :
    (if decide (cout > 0) = true then (X, true)
     else if (code == 1) = true then
       if (fo.isSome && (fo.getD default).mode == 2 && !ent) = true then (X, true)
       else if decide (cin > 0) = true then (X, false)
       else if (fo.isSome && (fo.getD default).mode == 1 && !ent) = true then (X, false)
       else (X, true)
     else if (code == 2) = true then
       if (fo.isSome && (fo.getD default).mode == 2 && !ent) = true then (X, true) else (X, false)
     else (X, false)) = (X, skipDecision true g m cin cout ent) := by
  obtain ⟨g1, g2⟩ := hg
  cases g <;> simp_all [← apply_ite (Prod.mk X), skipDecision]
  rcases m with _ | _ | _ <;> rfl

/-- **apply_filters.**  For every configuration (filter list in option order, each filter a match predicate and a
    mode), name, event and counter values: the generated `apply_filters` leaves the model's `cinAfter` / `coutAfter`
    in `filter_state.count_in` / `count_out`, changes nothing else, and returns the model's `skipDecision` with
    `fixed = true` (the code has the repair of finding F2).  Hypotheses: the list `filters` holds, element by
    element, the model's filters (`ElemRel`: mode, and match_filter on the element is the filter's predicate);
    `filter_state.mode` encodes `Cfg.gmode`. -/
theorem apply_filters_eq {α : Type} (c : Cfg α) (n : α) (o : Oracles) (event sym : Ptr) (isPy : Bool) (s : GSt)
    (hel : All₂ (ElemRel o n s.sym_name) c.flist s.filters_elems) (hmode : GEnc c.gmode s.filter_state_mode) :
    apply_filters o event sym isPy s =
      ({ s with filter_state_count_in := cinAfter (firstMatch c.flist n) s.filter_state_count_in (isEntryOf o event)
                filter_state_count_out := coutAfter (firstMatch c.flist n) s.filter_state_count_out (isEntryOf o event) },
       skipDecision true c.gmode (firstMatch c.flist n)
         (cinAfter (firstMatch c.flist n) s.filter_state_count_in (isEntryOf o event))
         (coutAfter (firstMatch c.flist n) s.filter_state_count_out (isEntryOf o event)) (isEntryOf o event)) := by
  have hent : (!o.strcmp "apply_filters:1" event (Ptr.str "call") != 0 ||
               !o.strcmp "apply_filters:2" event (Ptr.str "c_call") != 0) = isEntryOf o event := by
    simp [isEntryOf, bne]
  unfold apply_filters
  simp only [Id.run, pure, bind, hent]
  rw [forIn_first n (ElemRel o n s.sym_name) _
    (fun _ e p => (if e.mode == 1 then p.1 + (if isEntryOf o event then 1 else -1) else p.1,
                   if (!(e.mode == 1) && e.mode == 2) then p.2 + (if isEntryOf o event then 1 else -1) else p.2))
    ?hskip ?hhit c.flist s.filters_elems hel]
  case hskip => intro f e st hr hh; simp [hr.hit, hh]
  case hhit => intro f e st hr hh; simp [hr.hit, hh]
  obtain ⟨hm, hR⟩ := firstHit_spec n (ElemRel o n s.sym_name) c.flist s.filters_elems hel
  rw [hm]
  rcases hfh : firstHit n c.flist s.filters_elems with _ | ⟨f, e⟩
  · simp only [Bool.not_false, ↓reduceIte]
    refine (skip_eq c.gmode _ hmode none none _ _ _ _ rfl rfl).trans ?_
    simp [cinAfter, coutAfter]
  · obtain ⟨r1, r2, _⟩ := hR f e hfh
    simp only [Bool.not_true, Bool.false_eq_true, ↓reduceIte]
    refine (skip_eq c.gmode _ hmode (some f.mode) (some e) _ _ _ _ ?_ ?_).trans ?_
    · simpa using r1
    · simpa using r2
    · cases hf : f.mode <;> cases he : isEntryOf o event <;> simp [cinAfter, coutAfter, r1, r2, hf, Int.sub_eq_add_neg]

/-! the hypotheses can be met: for every filter list there are a linked list and opaque callees as assumed -/

/-- opaque callees for which a PATT_SIMPLE filter matches every name and nothing else matches -/
def demoOracles : Oracles :=
  { fnmatch := fun _ _ _ _ => 1, regexec := fun _ _ _ _ _ _ => 1, strcmp := fun _ _ _ => 0 }

/-- the list element of a model filter: PATT_SIMPLE (1) when the filter matches the name, no pattern type otherwise -/
def encElem {α : Type} (n : α) (f : Filter α) : Elem :=
  { self := Ptr.obj 1, mode := if f.mode == .fin then 1 else 2, p_type := if f.hit n then 1 else 0 }

theorem all₂_demo {α : Type} (n : α) (sname : Ptr) (fl : List (Filter α)) :
    All₂ (ElemRel demoOracles n sname) fl (fl.map (encElem n)) := by
  induction fl with
  | nil => exact .nil
  | cons f fs ih =>
    refine .cons ⟨?_, ?_, ?_⟩ ih
    · cases hf : f.mode <;> simp [encElem, hf]
    · cases hf : f.mode <;> simp [encElem, hf]
    · intro st
      cases hh : f.hit n <;>
        simp [match_filter__elem__sym_name, encElem, hh, Id.run, demoOracles, pure]

end Uft.PyTraceGenEq

import Uft.Lemmas.Events
/-
C17 — calls dropped by the time filter on *filtered* stacks: frames that are not recorded
(MCOUNT_FL_NORECORD: outside the -F region, the -N function, beyond -D) lie below, between and
above the recorded ones, so the return-stack index of a frame (`rest.length`, what save_watchpoint
tags its events with and what mcount_exit_filter_record compares with `mtdp->idx`) differs from its
record depth (`Frame.depth`, `mtdp->record_idx` at entry).  The model carries both; nothing here
depends on the record depth.
-/
namespace Uft.Events
open Uft.Mcount

/-! ### a whole call dropped by the time filter, on a filtered stack -/

/-- option sets with filters: any `filter` (-F / -N), `depth` (-D and depth=), `loc` (-L), `size` (-Z and size=)
    and `caller` actions on any function, any -t; no `time=`, `trace`, `finish`, `trace_on`, `trace_off` action and
    no caller mode (-C) -/
structure FiltT (cfg : ECfg) : Prop where
  caller : cfg.base.callerMode = false
  time : ∀ f, (cfg.base.trig f).time = none
  trace : ∀ f, (cfg.base.trig f).trace = false
  finish : ∀ f, (cfg.base.trig f).finish = false
  ton : ∀ f, (cfg.base.trig f).traceOn = false
  toff : ∀ f, (cfg.base.trig f).traceOff = false
  maxs : cfg.base.maxStack < ASYNC_IDX

/-- the thread state between hooks, whatever the filter counters, the record depth and the kinds of frames on
    the stack are: tracing is on, no `time=` trigger is in force, no asynchronous event is pending and the
    pending watch events were saved by hooks of frames that are on the stack -/
structure InvF (s : ESt) : Prop where
  over : s.over = 0
  en : s.enabled = true
  ftime : s.filt.time = noTime
  pend : ∀ e ∈ s.pend, e.idx < s.frames.length + 1

/-- mcount_entry_filter_check below the stack limit: only the filter state changes, and not the time threshold
    in force -/
theorem entryFilterCheckE_F (cfg : ECfg) (hp : FiltT cfg) (s : ESt) (addr : Nat) (hm : s.idx < cfg.base.maxStack) :
    ∃ r F tr, entryFilterCheckE cfg s addr = (r, { s with warned := false, filt := F }, tr) ∧ r ≠ .rstack ∧
      F.time = s.filt.time ∧ F.svTime = s.filt.time ∧
      tr.finish = false ∧ tr.trace = false ∧ tr.traceOn = false ∧ tr.traceOff = false := by
  have hidx : ¬ (s.idx ≥ cfg.base.maxStack) := Nat.not_le_of_lt hm
  have h1 := hp.time addr
  have h2 := hp.trace addr
  have h3 := hp.finish addr
  have h4 := hp.ton addr
  have h5 := hp.toff addr
  have hen : trigEnabled (cfg.base.trig addr) s.enabled = s.enabled := by simp [trigEnabled, h4, h5]
  have hm1 : ∀ f : Filt, (matchFilt (cfg.base.trig addr) f).time = f.time ∧
      (matchFilt (cfg.base.trig addr) f).svTime = f.svTime := by
    intro f
    unfold matchFilt
    split <;> exact ⟨rfl, rfl⟩
  have hm3 : ∀ f : Filt, (trigFilt (cfg.base.trig addr) f).time = f.time ∧
      (trigFilt (cfg.base.trig addr) f).svTime = f.svTime := by
    intro f
    unfold trigFilt
    rw [h1]
    split <;> exact ⟨rfl, rfl⟩
  unfold entryFilterCheckE checkRstackE
  simp only [hidx, ↓reduceIte, Bool.false_eq_true, traceOffFlushE_of_traceOff_false _ _ _ h5, hen]
  by_cases c1 : (saveFilt s.filt).outCount > 0
  · simp only [c1, ↓reduceIte]
    exact ⟨.out, _, _, rfl, by simp, rfl, rfl, rfl, rfl, rfl, rfl⟩
  · simp only [c1, ↓reduceIte]
    by_cases c2 : earlyOut cfg.base (cfg.base.trig addr) (saveFilt s.filt) = true
    · simp only [c2, ↓reduceIte]
      exact ⟨.out, _, _, rfl, by simp, (hm1 _).1, (hm1 _).2, h3, h2, h4, h5⟩
    · simp only [c2, ↓reduceIte, Bool.false_eq_true]
      by_cases c3 : (trigFilt (cfg.base.trig addr) (matchFilt (cfg.base.trig addr) (saveFilt s.filt))).depth ≥
          depthLimit cfg.base (cfg.base.trig addr) (saveFilt s.filt)
      · simp only [c3, ↓reduceIte]
        exact ⟨.out, _, _, rfl, by simp, (hm3 _).1.trans (hm1 _).1, (hm3 _).2.trans (hm1 _).2, h3, h2, h4, h5⟩
      · simp only [c3, ↓reduceIte]
        exact ⟨.in_, _, _, rfl, by simp, (hm3 _).1.trans (hm1 _).1, (hm3 _).2.trans (hm1 _).2, h3, h2, h4, h5⟩

/-- what the entry hook leaves behind, relative to the state `s1` it was called in (frame `f` just pushed on
    `rest`): the frame stays on top — recorded or not —, nothing is written, and only a recorded frame's hook
    appends watch events, tagged with the frame's rstack index + 1 -/
def EntryOk (r s1 : ESt) (f : EFrame) (rest : List EFrame) : Prop :=
  r.out = s1.out ∧ r.over = s1.over ∧ r.enabled = true ∧ r.filt = s1.filt ∧
  ∃ F W, r.frames = F :: rest ∧ r.pend = s1.pend ++ W ∧
    F.b.written = false ∧ F.b.trace = false ∧ F.b.sTime = s1.filt.svTime ∧ F.b.start = f.b.start ∧ F.b.cyg = f.b.cyg ∧
    (F.b.norecord = true → W = []) ∧ (F.b.norecord = false → f.b.norecord = false) ∧
    (∀ e ∈ W, e.idx = rest.length + 1)

/-- the end of the entry hook for a recorded frame: `F` is the frame pushed for `f` after mcount_entry_filter_record's
    updates, `sB` the state handed on, `s1` the state the hook was called in -/
theorem entryFinish_ok (cfg : ECfg) (hfix : cfg.fixIdx = true) (sB s1 : ESt) (F f : EFrame) (rest : List EFrame) (o : Obs)
    (hs : sB.out = s1.out ∧ sB.over = s1.over ∧ sB.enabled = true ∧ sB.filt = s1.filt ∧ sB.pend = s1.pend)
    (hF : F.b.written = false ∧ F.b.trace = false ∧ F.b.sTime = s1.filt.svTime ∧ F.b.start = f.b.start ∧
      F.b.cyg = f.b.cyg ∧ F.b.norecord = false)
    (hf : f.b.norecord = false) (hp : ∀ e ∈ s1.pend, e.idx < rest.length + 1) (hmax : rest.length + 1 < ASYNC_IDX) :
    EntryOk (entryFinish cfg sB F rest o) s1 f rest := by
  have htag : watchTag cfg rest.length = rest.length + 1 := if_pos hfix
  rw [entryFinish_eq cfg sB F rest o (fun e he => Nat.lt_trans (hp e (hs.2.2.2.2 ▸ he)) hmax) (by rw [htag]; exact hmax)]
  obtain ⟨a, W, a7, a8⟩ := watchStep_spec cfg sB F.b rest.length o
  exact ⟨a.out.trans hs.1, a.over.trans hs.2.1, a.enabled.trans hs.2.2.1, a.filt.trans hs.2.2.2.1, F, W, rfl,
    by rw [← hs.2.2.2.2]; exact a7,
    hF.1, hF.2.1, hF.2.2.1, hF.2.2.2.1, hF.2.2.2.2.1, fun h => Bool.noConfusion (hF.2.2.2.2.2.symm.trans h), fun _ => hf,
    fun e he => (a8 e he).2.1.trans htag⟩

/-- mcount_entry_filter_record on the frame just pushed, for a trigger without `finish` / `trace` while tracing
    is on -/
theorem entryFilterRecordE_F (cfg : ECfg) (hfix : cfg.fixIdx = true) (s1 : ESt) (f : EFrame) (rest : List EFrame)
    (tr : Trigger) (matched argok : Bool) (o : Obs)
    (hfr : s1.frames = f :: rest) (hfin : tr.finish = false) (htr : tr.trace = false) (hen : s1.enabled = true)
    (hw : f.b.written = false) (hp : ∀ e ∈ s1.pend, e.idx < rest.length + 1) (hmax : rest.length + 1 < ASYNC_IDX) :
    EntryOk (entryFilterRecordE cfg s1 tr matched argok o) s1 f rest := by
  unfold entryFilterRecordE
  simp only [hfr, hfin, Bool.false_eq_true, ↓reduceIte, hen, Bool.not_true]
  split
  · -- not recorded
    rename_i hnr
    refine ⟨rfl, rfl, rfl, rfl, _, [], rfl, by simp, hw, htr, rfl, rfl, rfl, fun _ => rfl, ?_, by simp⟩
    intro h
    simp only [hnr] at h
    cases h
  · rename_i hnr
    have hfn : f.b.norecord = false := by
      cases hn : f.b.norecord
      · rfl
      · simp [hn] at hnr
    unfold entryEvents
    exact entryFinish_ok cfg hfix _ s1 _ f rest o ⟨rfl, rfl, rfl, rfl, rfl⟩
      (by rw [entryArea_b]; exact ⟨hw, htr, rfl, rfl, rfl, by simpa using hnr⟩) hfn hp hmax

/-- the entry hook in a state between hooks, on any stack below the stack limit -/
theorem entryE_F (cfg : ECfg) (hp : FiltT cfg) (hfix : cfg.fixIdx = true) (k : Kind) (s : ESt) (f t0 : Nat) (o : Obs)
    (hg : InvF s) (hm : s.frames.length < cfg.base.maxStack) :
    (entryE cfg k s f t0 o).1.out = s.out ∧ (entryE cfg k s f t0 o).1.over = 0 ∧
    (entryE cfg k s f t0 o).1.enabled = true ∧ (entryE cfg k s f t0 o).1.filt.time = noTime ∧
    (((entryE cfg k s f t0 o).2 = false ∧ (entryE cfg k s f t0 o).1.frames = s.frames ∧
        (entryE cfg k s f t0 o).1.pend = s.pend) ∨
     ((entryE cfg k s f t0 o).2 = true ∧ ∃ F W, (entryE cfg k s f t0 o).1.frames = F :: s.frames ∧
        (entryE cfg k s f t0 o).1.pend = s.pend ++ W ∧ F.b.written = false ∧ F.b.trace = false ∧ F.b.sTime = noTime ∧
        (F.b.norecord = false → F.b.start = t0) ∧ (F.b.norecord = true → W = []) ∧
        ∀ e ∈ W, e.idx = s.frames.length + 1)) := by
  obtain ⟨hover, hen, hft, hpend⟩ := hg
  have hidx : s.idx < cfg.base.maxStack := by
    unfold ESt.idx
    rw [hover]
    exact hm
  obtain ⟨r, Fl, tr, heq, hr, hFt, hFs, c9, c10, c11, c12⟩ := entryFilterCheckE_F cfg hp s f hidx
  have hmax : s.frames.length + 1 < ASYNC_IDX := by
    have := hp.maxs
    omega
  -- the frame the hook pushes and what mcount_entry_filter_record makes of it
  have push : ∀ (F0 : EFrame) (matched argok : Bool), F0.b.written = false →
      EntryOk (entryFilterRecordE cfg { s with warned := false, filt := Fl, frames := F0 :: s.frames } tr matched argok o)
        { s with warned := false, filt := Fl, frames := F0 :: s.frames } F0 s.frames :=
    fun F0 matched argok hw =>
      entryFilterRecordE_F cfg hfix _ F0 s.frames tr matched argok o rfl c9 c10 hen hw hpend hmax
  unfold entryE
  simp only [heq]
  cases k with
  | pg =>
    dsimp only
    by_cases hc : (r == .rstack || (r != .in_ && !(cfg.base.f4fixed && tr.changesState))) = true
    · rw [if_pos hc]
      exact ⟨rfl, hover, hen, hFt.trans hft, Or.inl ⟨rfl, rfl, rfl⟩⟩
    · rw [if_neg hc]
      obtain ⟨e1, e2, e3, e4, F, W, e5, e6, e7, e8, e9, e10, e11, e12, e13, e14⟩ := push
        { b := { addr := f, start := t0, depth := s.recordIdx, norecord := r != .in_ } } (r == .in_) (r == .in_) rfl
      exact ⟨e1, e2.trans hover, e3, by rw [e4]; exact hFt.trans hft,
        Or.inr ⟨rfl, F, W, e5, e6, e7, e8, by rw [e9]; exact hFs.trans hft, fun _ => e10, e12, e14⟩⟩
  | cyg =>
    have hrs : (r == FR.rstack) = false := by simpa using hr
    dsimp only
    rw [if_neg (by rw [hrs]; exact Bool.false_ne_true)]
    · obtain ⟨e1, e2, e3, e4, F, W, e5, e6, e7, e8, e9, e10, e11, e12, e13, e14⟩ := push
        { b := { addr := f, start := if r == .in_ then t0 else 0, depth := s.recordIdx, cyg := true,
                 norecord := !(r == .in_) } } (r == .in_) false rfl
      refine ⟨e1, e2.trans hover, e3, by rw [e4]; exact hFt.trans hft,
        Or.inr ⟨rfl, F, W, e5, e6, e7, e8, by rw [e9]; exact hFs.trans hft, ?_, e12, e14⟩⟩
      intro hn
      have := e13 hn
      rw [e10]
      simp only [Bool.not_eq_false'] at this
      simp [this]

/-- the exit hook for a top frame that is not recorded: the filter state it saved is restored, the frame is
    popped, nothing else happens (the hook returns before it looks at events) -/
theorem exitE_norecord (cfg : ECfg) (s2 : ESt) (top : EFrame) (rest : List EFrame) (t1 : Nat) (o : Obs)
    (hfr : s2.frames = top :: rest) (hover : s2.over = 0) (hnr : top.b.norecord = true) :
    (exitE cfg s2 t1 o).out = s2.out ∧ (exitE cfg s2 t1 o).pend = s2.pend ∧ (exitE cfg s2 t1 o).frames = rest ∧
    (exitE cfg s2 t1 o).over = 0 ∧ (exitE cfg s2 t1 o).enabled = s2.enabled ∧
    (exitE cfg s2 t1 o).filt.time = top.b.sTime := by
  unfold exitE
  rw [if_neg (by rw [hover]; exact Nat.lt_irrefl 0), hfr]
  dsimp only
  -- the frame the hook works on is `top`, with or without the end time: either way it is not recorded
  generalize hf1 : (if (top.b.cyg && top.b.norecord) = true then top else setEnd top t1) = f1
  have hn1 : f1.b.norecord = true := by
    rw [← hf1]
    split
    · exact hnr
    · exact hnr
  have hs1 : f1.b.sTime = top.b.sTime := by
    rw [← hf1]
    split <;> rfl
  unfold exitFilterRecordE
  dsimp only
  rw [if_pos hn1]
  exact ⟨rfl, rfl, rfl, hover, rfl, hs1⟩

mutual
/-- a call the time filter drops — with everything it calls, recorded or not — leaves no trace on any stack:
    nothing is written, the pending events and the frames are as before -/
theorem droppedF_call (cfg : ECfg) (hp : FiltT cfg) (hfix : cfg.fixIdx = true) (k : Kind) :
    ∀ (c : ECall) (s : ESt), InvF s → s.frames.length + c.height ≤ cfg.base.maxStack →
      c.short cfg.base cfg.base.threshold →
      (runECall cfg k s c).out = s.out ∧ (runECall cfg k s c).pend = s.pend ∧
      (runECall cfg k s c).frames = s.frames ∧ InvF (runECall cfg k s c)
  | .node f t0 t1 oE oX kids, s, hg, hm, hs => by
    simp only [ECall.height] at hm
    simp only [ECall.short] at hs
    have hmax := hp.maxs
    obtain ⟨e1, e2, e3, e4, e5⟩ := entryE_F cfg hp hfix k s f t0 oE hg (by omega)
    simp only [runECall]
    generalize entryE cfg k s f t0 oE = r at *
    rcases e5 with ⟨e6, e7, e8⟩ | ⟨e6, F, W, e7, e8, e9, e10, e11, e12, e13, e14⟩
    · -- no frame: the callees run in the caller's state
      obtain ⟨k1, k2, k3, k4⟩ := droppedF_calls cfg hp hfix k kids r.1 ⟨e2, e3, e4, by rw [e8, e7]; exact hg.pend⟩
        (by rw [e7]; omega) hs.2
      simp only [e6, Bool.false_eq_true, ↓reduceIte]
      exact ⟨k1.trans e1, k2.trans e8, k3.trans e7, k4⟩
    · have hi : InvF r.1 := by
        refine ⟨e2, e3, e4, ?_⟩
        intro e he
        rw [e7, List.length_cons]
        rcases List.mem_append.mp (e8 ▸ he) with he | he
        · exact Nat.lt_succ_of_lt (hg.pend e he)
        · exact e14 e he ▸ Nat.lt_succ_self _
      obtain ⟨k1, k2, k3, k4⟩ := droppedF_calls cfg hp hfix k kids r.1 hi
        (by rw [e7, List.length_cons]; omega) hs.2
      simp only [e6, ↓reduceIte]
      generalize runECalls cfg k r.1 kids = s2 at *
      cases hn : F.b.norecord
      · -- a recorded frame: the time filter drops it
        have hthr : effThreshold cfg s2 = cfg.base.threshold := by
          simp [effThreshold, k4.ftime]
        obtain ⟨x1, x2, x3, x4, x5, x6⟩ := exitE_drop_filtered cfg hfix s2 F s.frames t1 oX s.pend W (by rw [k3, e7])
          k4.over hn k4.en (by rw [hthr, e12 hn]; exact hs.1) e9 e10 (by rw [k2, e8]) hg.pend e14 (by omega)
        exact ⟨x2.trans (k1.trans e1), x1, x3, ⟨x4, x5, by rw [x6, e11], by rw [x1, x3]; exact hg.pend⟩⟩
      · obtain ⟨x1, x2, x3, x4, x5, x6⟩ := exitE_norecord cfg s2 F s.frames t1 oX (by rw [k3, e7]) k4.over hn
        have hpd : (exitE cfg s2 t1 oX).pend = s.pend := by
          rw [x2, k2, e8, e13 hn, List.append_nil]
        exact ⟨x1.trans (k1.trans e1), hpd, x3, ⟨x4, by rw [x5]; exact k4.en, by rw [x6, e11], by rw [hpd, x3]; exact hg.pend⟩⟩
theorem droppedF_calls (cfg : ECfg) (hp : FiltT cfg) (hfix : cfg.fixIdx = true) (k : Kind) :
    ∀ (cs : ECalls) (s : ESt), InvF s → s.frames.length + cs.height ≤ cfg.base.maxStack →
      cs.short cfg.base cfg.base.threshold →
      (runECalls cfg k s cs).out = s.out ∧ (runECalls cfg k s cs).pend = s.pend ∧
      (runECalls cfg k s cs).frames = s.frames ∧ InvF (runECalls cfg k s cs)
  | .nil, s, hg, _, _ => by simp [runECalls, hg]
  | .cons c rest, s, hg, hm, hs => by
    simp only [ECalls.height] at hm
    simp only [ECalls.short] at hs
    obtain ⟨c1, c2, c3, c4⟩ := droppedF_call cfg hp hfix k c s hg (by omega) hs.1
    obtain ⟨r1, r2, r3, r4⟩ := droppedF_calls cfg hp hfix k rest (runECall cfg k s c) c4 (by rw [c3]; omega) hs.2
    simp only [runECalls]
    exact ⟨by rw [r1, c1], by rw [r2, c2], by rw [r3, c3], r4⟩
end

end Uft.Events

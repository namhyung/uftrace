import Uft.Model.Events
import Uft.Lemmas.Mcount
import Uft.Model.CallTree
/- C17: what save_trigger_read and save_watchpoint leave alone and add, what record_trace_data owes for the open
   frames (`owed`), the two hooks of an unfiltered call as equations, the stream of a history without watchpoints,
   and calls dropped by the time filter -/
namespace Uft.Events
open Uft.Mcount

/-! ### uint64 durations -/

theorem subU64_of_le (a b : Nat) (h : b ≤ a) (ha : a < u64) : subU64 a b = a - b := by
  unfold subU64
  rw [Nat.mod_eq_of_lt ha, Nat.mod_eq_of_lt (Nat.lt_of_le_of_lt h ha), Nat.sub_add_comm h, Nat.add_mod_right,
    Nat.mod_eq_of_lt (Nat.lt_of_le_of_lt (Nat.sub_le a b) ha)]

/-- a call that takes measurable time on the 64-bit clock passes a zero threshold (for the code
    before the repair of S4 as well) -/
theorem durOk_sub_of_lt (cfg : Cfg) (t0 t1 : Nat) (h : t0 < t1) (h1 : t1 < u64) : durOk cfg (subU64 t1 t0) 0 = true := by
  rw [subU64_of_le t1 t0 (Nat.le_of_lt h) h1]
  exact durOk_of_lt cfg t0 t1 h

/-! ### takeAsync -/

theorem takeAsync_append (p : List Ev) (ts : Nat) :
    (takeAsync p ts).1 ++ (takeAsync p ts).2 = p := by
  induction p with
  | nil => rfl
  | cons e r ih =>
    simp only [takeAsync]
    split
    · simp [ih]
    · simp

@[simp] theorem takeAsync_nil (ts : Nat) : takeAsync [] ts = ([], []) := rfl

theorem takeAsync_all (p : List Ev) (ts : Nat) (h : ∀ e ∈ p, e.time < ts) :
    takeAsync p ts = (p, []) := by
  induction p with
  | nil => rfl
  | cons e r ih =>
    have he := h e (by simp)
    have hr := ih (fun x hx => h x (by simp [hx]))
    simp [takeAsync, he, hr]

theorem takeAsync_written_lt (p : List Ev) (ts : Nat) : ∀ e ∈ (takeAsync p ts).1, e.time < ts := by
  induction p with
  | nil => simp
  | cons e r ih =>
    simp only [takeAsync]
    split
    · rename_i h
      intro x hx
      simp only [List.mem_cons] at hx
      rcases hx with rfl | hx
      · exact h
      · exact ih x hx
    · simp

/-! ### save_trigger_read: what it leaves alone, and the events it adds -/

theorem saveReadOne_cases (pair : Bool) (off now midx : Nat) (diff : Bool) (o : Obs) (mask : Nat) (f : EFrame) (s : ReadSrc) :
    saveReadOne pair off now midx diff o mask f s = f ∨
    ∃ v, o.reads s.bit = some v ∧
      saveReadOne pair off now midx diff o mask f s =
        { f with evs := mkReadEv f now midx diff s v :: f.evs, eventIdx := f.eventIdx - s.evsize } := by
  unfold saveReadOne
  by_cases h1 : (mask &&& s.bit == 0) = true
  · exact .inl (if_pos h1)
  · rw [if_neg h1]
    by_cases h0 : (pair && diff && !hasRead f s) = true
    · exact .inl (if_pos h0)
    · rw [if_neg h0]
      by_cases h2 : f.eventIdx < s.evsize + off
      · exact .inl (if_pos h2)
      · rw [if_neg h2]
        cases h3 : o.reads s.bit with
        | none => exact .inl rfl
        | some v => exact .inr ⟨v, rfl, rfl⟩

theorem saveReadL_induct (P : EFrame → Prop) (pair : Bool) (off now midx : Nat) (diff : Bool) (o : Obs) (mask : Nat)
    (srcs : List ReadSrc) (h : ∀ f, ∀ s ∈ srcs, P f → P (saveReadOne pair off now midx diff o mask f s)) :
    ∀ f : EFrame, P f → P (saveReadL pair off now midx diff o mask srcs f) := by
  induction srcs with
  | nil => exact fun f hf => hf
  | cons s r ih =>
    intro f hf
    exact ih (fun g x hx => h g x (List.mem_cons_of_mem s hx)) _ (h f s List.mem_cons_self hf)

theorem saveRead_b (cfg : ECfg) (f : EFrame) (mask midx : Nat) (diff : Bool) (o : Obs) :
    (saveRead cfg f mask midx diff o).b = f.b ∧
    (saveRead cfg f mask midx diff o).argFl = f.argFl ∧
    (saveRead cfg f mask midx diff o).argSz = f.argSz ∧
    (saveRead cfg f mask midx diff o).retFl = f.retFl ∧
    (saveRead cfg f mask midx diff o).readFl = f.readFl := by
  unfold saveRead
  split
  · exact ⟨rfl, rfl, rfl, rfl, rfl⟩
  · refine saveReadL_induct (fun g => g.b = f.b ∧ g.argFl = f.argFl ∧ g.argSz = f.argSz ∧ g.retFl = f.retFl ∧
      g.readFl = f.readFl) _ _ _ _ _ _ _ _ ?_ f ⟨rfl, rfl, rfl, rfl, rfl⟩
    intro g s _ hg
    rcases saveReadOne_cases cfg.fixPair (argDataOff cfg f o.probe) (hookTime f.b) midx diff o mask g s with h | ⟨v, _, h⟩
    · rw [h]
      exact hg
    · rw [h]
      exact hg

theorem mkReadEv_time (f : EFrame) (now midx : Nat) (diff : Bool) (src : ReadSrc) (v : List Nat) :
    (mkReadEv f now midx diff src v).time = now := by
  unfold mkReadEv
  split <;> rfl

/-- the events a hook adds to a frame's area are made by `mkReadEv` from readings of the table's sources -/
theorem saveRead_new (cfg : ECfg) (f : EFrame) (mask midx : Nat) (diff : Bool) (o : Obs) (Q : Ev → Prop)
    (hQ : ∀ g : EFrame, ∀ s ∈ readEvents, ∀ v, o.reads s.bit = some v → Q (mkReadEv g (hookTime f.b) midx diff s v)) :
    ∃ new, (saveRead cfg f mask midx diff o).evs = new ++ f.evs ∧ ∀ e ∈ new, Q e := by
  unfold saveRead
  split
  · exact ⟨[], rfl, nofun⟩
  · refine saveReadL_induct (fun g => ∃ new, g.evs = new ++ f.evs ∧ ∀ e ∈ new, Q e)
      _ _ _ _ _ _ _ _ ?_ f ⟨[], rfl, nofun⟩
    intro g s hs ⟨new, h1, h2⟩
    rcases saveReadOne_cases cfg.fixPair (argDataOff cfg f o.probe) (hookTime f.b) midx diff o mask g s with h | ⟨v, hv, h⟩
    · rw [h]
      exact ⟨new, h1, h2⟩
    · rw [h]
      exact ⟨mkReadEv g (hookTime f.b) midx diff s v :: new, congrArg (_ :: ·) h1,
        List.forall_mem_cons.2 ⟨hQ g s hs v hv, h2⟩⟩

/-- an event that holds the reading `o` gave for its source -/
def HoldsReading (o : Obs) (tbl : List ReadSrc) (e : Ev) : Prop :=
  ∃ s ∈ tbl, ∃ v, o.reads s.bit = some v ∧ e.id = s.idRead ∧ e.data = v.map (· % u64)

/-! ### frames: owed ENTRY records, written marks -/

/-- ENTRY records (with their read events) still owed for the open frames -/
def pendingE : List EFrame → List Out
  | [] => []
  | f :: r => if f.b.written then [] else pendingE r ++ ([entryOut f] ++ (entryEvs f).map .event)

def markToE : List EFrame → List EFrame
  | [] => []
  | f :: r => if f.b.written then f :: r else setWritten f :: markToE r

def NoSkipE (fs : List EFrame) : Prop := ∀ f ∈ fs, f.b.norecord = false ∧ f.b.disabled = false

@[simp] theorem setWritten_b_written (f : EFrame) : (setWritten f).b.written = true := rfl

theorem flushBelowE_noskip (fs : List EFrame) (h : NoSkipE fs) :
    flushBelowE fs [] = (markToE fs, [], pendingE fs) := by
  induction fs with
  | nil => rfl
  | cons f r ih =>
    have hf := h f (by simp)
    have hr : NoSkipE r := fun g hg => h g (by simp [hg])
    simp only [flushBelowE, markToE, pendingE]
    split
    · rfl
    · simp [Frame.skip, hf.1, hf.2, ih hr, recEntry]

theorem pendingE_markToE (fs : List EFrame) : pendingE (markToE fs) = [] := by
  cases fs with
  | nil => rfl
  | cons f r =>
    simp only [markToE]
    split
    · rename_i h; simp [pendingE, h]
    · simp [pendingE]

theorem markToE_markToE (fs : List EFrame) : markToE (markToE fs) = markToE fs := by
  cases fs with
  | nil => rfl
  | cons f r =>
    simp only [markToE]
    split
    · rename_i h; simp [markToE, h]
    · simp [markToE]

theorem markToE_length (fs : List EFrame) : (markToE fs).length = fs.length := by
  induction fs with
  | nil => rfl
  | cons f r ih => simp only [markToE]; split <;> simp [ih]

theorem markToE_noskip (fs : List EFrame) (h : NoSkipE fs) : NoSkipE (markToE fs) := by
  induction fs with
  | nil => exact h
  | cons f r ih =>
    have hf := h f (by simp)
    have hr : NoSkipE r := fun g hg => h g (by simp [hg])
    simp only [markToE]
    split
    · exact h
    · intro g hg
      simp only [List.mem_cons] at hg
      rcases hg with rfl | hg
      · simpa [setWritten] using hf
      · exact ih hr g hg

theorem markToE_start (fs : List EFrame) : ∀ g ∈ markToE fs, ∃ g' ∈ fs, g.b.start = g'.b.start := by
  induction fs with
  | nil => simp [markToE]
  | cons f r ih =>
    intro g hg
    simp only [markToE] at hg
    split at hg
    · exact ⟨g, hg, rfl⟩
    · simp only [List.mem_cons] at hg
      rcases hg with rfl | hg
      · exact ⟨f, by simp, rfl⟩
      · obtain ⟨g', h1, h2⟩ := ih g hg
        exact ⟨g', by simp [h1], h2⟩

/-! ### the frame of a call: pushed, after the entry hook, after the exit hook -/

/-- the frame the entry hook pushes for a call of `f` at depth `d` before save_argument /
    save_trigger_read -/
def freshFrame (cfg : ECfg) (k : Kind) (f t0 d : Nat) : EFrame :=
  { b := plainFrame k f t0 d, retFl := (k == .pg) && (cfg.retSize f).isSome }

/-- … and after them -/
def entryFrame (cfg : ECfg) (k : Kind) (f t0 d : Nat) (o : Obs) : EFrame :=
  entryArea cfg (freshFrame cfg k f t0 d) true (k == .pg) (d + 1) o

@[simp] theorem setEnd_endT (F : EFrame) (t : Nat) : (setEnd F t).b.endT = t := rfl
@[simp] theorem setEnd_start (F : EFrame) (t : Nat) : (setEnd F t).b.start = F.b.start := rfl
@[simp] theorem setEnd_addr (F : EFrame) (t : Nat) : (setEnd F t).b.addr = F.b.addr := rfl
@[simp] theorem setEnd_depth (F : EFrame) (t : Nat) : (setEnd F t).b.depth = F.b.depth := rfl
@[simp] theorem setEnd_cyg (F : EFrame) (t : Nat) : (setEnd F t).b.cyg = F.b.cyg := rfl
@[simp] theorem setEnd_norecord (F : EFrame) (t : Nat) : (setEnd F t).b.norecord = F.b.norecord := rfl
@[simp] theorem setEnd_disabled (F : EFrame) (t : Nat) : (setEnd F t).b.disabled = F.b.disabled := rfl
@[simp] theorem setEnd_filtered (F : EFrame) (t : Nat) : (setEnd F t).b.filtered = F.b.filtered := rfl
@[simp] theorem setEnd_notrace (F : EFrame) (t : Nat) : (setEnd F t).b.notrace = F.b.notrace := rfl
@[simp] theorem setEnd_trace (F : EFrame) (t : Nat) : (setEnd F t).b.trace = F.b.trace := rfl
@[simp] theorem setEnd_caller (F : EFrame) (t : Nat) : (setEnd F t).b.caller = F.b.caller := rfl
@[simp] theorem setEnd_written (F : EFrame) (t : Nat) : (setEnd F t).b.written = F.b.written := rfl
@[simp] theorem setEnd_sDepth (F : EFrame) (t : Nat) : (setEnd F t).b.sDepth = F.b.sDepth := rfl
@[simp] theorem setEnd_sMaxDepth (F : EFrame) (t : Nat) : (setEnd F t).b.sMaxDepth = F.b.sMaxDepth := rfl
@[simp] theorem setEnd_sTime (F : EFrame) (t : Nat) : (setEnd F t).b.sTime = F.b.sTime := rfl
@[simp] theorem setEnd_sSize (F : EFrame) (t : Nat) : (setEnd F t).b.sSize = F.b.sSize := rfl
@[simp] theorem setEnd_evs (F : EFrame) (t : Nat) : (setEnd F t).evs = F.evs := rfl
@[simp] theorem setEnd_retFl (F : EFrame) (t : Nat) : (setEnd F t).retFl = F.retFl := rfl
@[simp] theorem setEnd_readFl (F : EFrame) (t : Nat) : (setEnd F t).readFl = F.readFl := rfl
@[simp] theorem setEnd_argFl (F : EFrame) (t : Nat) : (setEnd F t).argFl = F.argFl := rfl
@[simp] theorem setEnd_argSz (F : EFrame) (t : Nat) : (setEnd F t).argSz = F.argSz := rfl

/-- the same frame after the exit hook's save_trigger_read -/
def exitFrame (cfg : ECfg) (F : EFrame) (t1 d : Nat) (o : Obs) : EFrame :=
  exitArea cfg (setEnd F t1) (d + 1) o

theorem saveArgument_b (cfg : ECfg) (f : EFrame) :
    (saveArgument cfg f).b = f.b ∧ (saveArgument cfg f).evs = f.evs ∧ (saveArgument cfg f).retFl = f.retFl ∧
    (saveArgument cfg f).readFl = f.readFl := by
  unfold saveArgument
  split
  · split <;> simp
  · simp

theorem entryArea_spec (cfg : ECfg) (f : EFrame) (matched argok : Bool) (midx : Nat) (o : Obs) :
    (entryArea cfg f matched argok midx o).b = f.b ∧
    (entryArea cfg f matched argok midx o).argFl = (if argok then saveArgument cfg f else f).argFl ∧
    (entryArea cfg f matched argok midx o).argSz = (if argok then saveArgument cfg f else f).argSz ∧
    (entryArea cfg f matched argok midx o).retFl = f.retFl ∧
    ∃ new, (entryArea cfg f matched argok midx o).evs = new ++ f.evs ∧
      ∀ e ∈ new, e.time = hookTime f.b ∧ HoldsReading o readEvents e := by
  have hg : (if argok then saveArgument cfg f else f).b = f.b ∧ (if argok then saveArgument cfg f else f).evs = f.evs ∧
      (if argok then saveArgument cfg f else f).retFl = f.retFl := by
    have h := saveArgument_b cfg f
    cases argok
    · exact ⟨rfl, rfl, rfl⟩
    · exact ⟨h.1, h.2.1, h.2.2.1⟩
  unfold entryArea
  simp only []
  generalize (if argok = true then saveArgument cfg f else f) = g at hg ⊢
  generalize (if matched = true then cfg.read f.b.addr else 0) = mask
  by_cases hm : (mask != 0) = true
  · rw [if_pos hm]
    have hb := saveRead_b cfg g mask midx false o
    obtain ⟨new, h1, h2⟩ := saveRead_new cfg g mask midx false o
      (fun e => e.time = hookTime g.b ∧ HoldsReading o readEvents e)
      (fun g' s hs v hv => ⟨mkReadEv_time g' _ midx false s v, s, hs, v, hv, rfl, rfl⟩)
    rw [hg.1] at h2
    rw [hg.2.1] at h1
    unfold setReadFl
    exact ⟨hb.1.trans hg.1, hb.2.1, hb.2.2.1, hb.2.2.2.1.trans hg.2.2, new, h1, h2⟩
  · rw [if_neg hm]
    exact ⟨hg.1, rfl, rfl, hg.2.2, [], hg.2.1, nofun⟩

theorem entryArea_b (cfg : ECfg) (f : EFrame) (matched argok : Bool) (midx : Nat) (o : Obs) :
    (entryArea cfg f matched argok midx o).b = f.b :=
  (entryArea_spec cfg f matched argok midx o).1

theorem entryFrame_b (cfg : ECfg) (k : Kind) (f t0 d : Nat) (o : Obs) :
    (entryFrame cfg k f t0 d o).b = plainFrame k f t0 d := by
  simp [entryFrame, entryArea_b, freshFrame]

theorem entryFrame_evs (cfg : ECfg) (k : Kind) (f t0 d : Nat) (o : Obs) :
    ∀ e ∈ (entryFrame cfg k f t0 d o).evs, e.time = t0 ∧ HoldsReading o readEvents e := by
  obtain ⟨_, _, _, _, new, h1, h2⟩ := entryArea_spec cfg (freshFrame cfg k f t0 d) true (k == .pg) (d + 1) o
  intro e he
  unfold entryFrame at he
  rw [h1] at he
  exact h2 e (by simpa [freshFrame] using he)

theorem entryFrame_evs_time (cfg : ECfg) (k : Kind) (f t0 d : Nat) (o : Obs) :
    ∀ e ∈ (entryFrame cfg k f t0 d o).evs, e.time = t0 :=
  fun e he => (entryFrame_evs cfg k f t0 d o e he).1

theorem entryFrame_holds (cfg : ECfg) (k : Kind) (f t0 d : Nat) (o : Obs) :
    ∀ e ∈ (entryFrame cfg k f t0 d o).evs, HoldsReading o readEvents e :=
  fun e he => (entryFrame_evs cfg k f t0 d o e he).2

def withW (F : EFrame) (w : Bool) : EFrame := { F with b := { F.b with written := w } }

@[simp] theorem withW_b_written (F : EFrame) (w : Bool) : (withW F w).b.written = w := rfl
@[simp] theorem withW_evs (F : EFrame) (w : Bool) : (withW F w).evs = F.evs := rfl
@[simp] theorem withW_retFl (F : EFrame) (w : Bool) : (withW F w).retFl = F.retFl := rfl
@[simp] theorem withW_readFl (F : EFrame) (w : Bool) : (withW F w).readFl = F.readFl := rfl
@[simp] theorem withW_argFl (F : EFrame) (w : Bool) : (withW F w).argFl = F.argFl := rfl
@[simp] theorem withW_argSz (F : EFrame) (w : Bool) : (withW F w).argSz = F.argSz := rfl
@[simp] theorem withW_eventIdx (F : EFrame) (w : Bool) : (withW F w).eventIdx = F.eventIdx := rfl
@[simp] theorem withW_addr (F : EFrame) (w : Bool) : (withW F w).b.addr = F.b.addr := rfl
@[simp] theorem withW_start (F : EFrame) (w : Bool) : (withW F w).b.start = F.b.start := rfl
@[simp] theorem withW_endT (F : EFrame) (w : Bool) : (withW F w).b.endT = F.b.endT := rfl
@[simp] theorem withW_withW (F : EFrame) (w v : Bool) : withW (withW F w) v = withW F v := rfl
theorem setWritten_eq (F : EFrame) : setWritten F = withW F true := rfl
theorem setEnd_withW (F : EFrame) (w : Bool) (t : Nat) : setEnd (withW F w) t = withW (setEnd F t) w := rfl

theorem withW_self (F : EFrame) (w : Bool) (h : F.b.written = w) : withW F w = F := by
  cases F with
  | mk b evs ei af asz rf rdf =>
    cases b
    simp_all [withW]

@[simp] theorem entryOut_withW (F : EFrame) (w : Bool) : entryOut (withW F w) = entryOut F := rfl
@[simp] theorem entryEvs_withW (F : EFrame) (w : Bool) : entryEvs (withW F w) = entryEvs F := rfl
@[simp] theorem exitEvs_withW (F : EFrame) (w : Bool) : exitEvs (withW F w) = exitEvs F := rfl
@[simp] theorem hookTime_withW (F : EFrame) (w : Bool) : hookTime (withW F w).b = hookTime F.b := rfl
@[simp] theorem argDataOff_withW (cfg : ECfg) (F : EFrame) (w : Bool) (p : Nat) :
    argDataOff cfg (withW F w) p = argDataOff cfg F p := rfl

@[simp] theorem hasRead_withW (F : EFrame) (w : Bool) (src : ReadSrc) : hasRead (withW F w) src = hasRead F src := rfl

theorem pendingE_cons_unwritten (F : EFrame) (fs : List EFrame) (h : F.b.written = false) :
    pendingE (F :: fs) = pendingE fs ++ ([entryOut F] ++ (entryEvs F).map .event) := by
  simp [pendingE, h]

theorem saveReadOne_withW (pair : Bool) (off now midx : Nat) (diff : Bool) (o : Obs) (mask : Nat) (f : EFrame) (src : ReadSrc)
    (w : Bool) :
    saveReadOne pair off now midx diff o mask (withW f w) src = withW (saveReadOne pair off now midx diff o mask f src) w := by
  unfold saveReadOne
  simp only [withW_eventIdx, hasRead_withW]
  by_cases h1 : (mask &&& src.bit == 0) = true
  · simp [h1]
  · by_cases h0 : (pair && diff && !hasRead f src) = true
    · simp only [h1, h0, ↓reduceIte, Bool.false_eq_true]
    · by_cases h2 : f.eventIdx < src.evsize + off
      · simp only [h1, h0, h2, ↓reduceIte, Bool.false_eq_true]
      · cases h3 : o.reads src.bit with
        | none => simp only [h1, h0, h2, ↓reduceIte, Bool.false_eq_true]
        | some v => simp only [h1, h0, h2, ↓reduceIte, Bool.false_eq_true]; rfl

theorem saveReadL_withW (pair : Bool) (off now midx : Nat) (diff : Bool) (o : Obs) (mask : Nat) (srcs : List ReadSrc) (w : Bool) :
    ∀ f : EFrame, saveReadL pair off now midx diff o mask srcs (withW f w) =
      withW (saveReadL pair off now midx diff o mask srcs f) w := by
  induction srcs with
  | nil => intro f; rfl
  | cons s r ih => intro f; simp only [saveReadL, saveReadOne_withW, ih]

/-- at exit (`diff`) there is no up-front test -/
theorem saveRead_exit (cfg : ECfg) (f : EFrame) (mask midx : Nat) (o : Obs) :
    saveRead cfg f mask midx true o =
      saveReadL cfg.fixPair (argDataOff cfg f o.probe) (hookTime f.b) midx true o mask readEvents f := by
  simp [saveRead]

theorem saveRead_withW (cfg : ECfg) (F : EFrame) (w : Bool) (mask midx : Nat) (diff : Bool) (o : Obs) :
    saveRead cfg (withW F w) mask midx diff o = withW (saveRead cfg F mask midx diff o) w := by
  unfold saveRead
  simp only [argDataOff_withW, hookTime_withW, withW_eventIdx, saveReadL_withW]
  exact (apply_ite (fun x => withW x w) _ _ _).symm

theorem exitArea_withW (cfg : ECfg) (F : EFrame) (w : Bool) (n : Nat) (o : Obs) :
    exitArea cfg (withW F w) n o = withW (exitArea cfg F n o) w := by
  unfold exitArea
  simp only [withW_readFl]
  by_cases h : F.readFl = true
  · simp only [h, ↓reduceIte, withW_addr, saveRead_withW]
  · simp [h]

theorem exitArea_b (cfg : ECfg) (F : EFrame) (n : Nat) (o : Obs) :
    (exitArea cfg F n o).b = F.b ∧ (exitArea cfg F n o).argFl = F.argFl ∧ (exitArea cfg F n o).argSz = F.argSz ∧
    (exitArea cfg F n o).retFl = F.retFl := by
  unfold exitArea
  split
  · have h := saveRead_b cfg F (cfg.read F.b.addr) n true o
    exact ⟨h.1, h.2.1, h.2.2.1, h.2.2.2.1⟩
  · simp

theorem hookTime_setEnd (F : EFrame) (t1 : Nat) (h : t1 ≠ 0) : hookTime (setEnd F t1).b = t1 := by
  simp [hookTime, h]

theorem takeWhile_all {α : Type} (p : α → Bool) (l : List α) (h : ∀ a ∈ l, p a = true) : l.takeWhile p = l := by
  rw [← List.append_nil l, List.takeWhile_append_of_pos h]
  rfl

theorem takeWhile_none {α : Type} (p : α → Bool) (l : List α) (h : ∀ a ∈ l, p a = false) : l.takeWhile p = [] := by
  cases l with
  | nil => rfl
  | cons a r => rw [List.takeWhile_cons, h a List.mem_cons_self]; rfl

theorem entryEvs_of_all (F : EFrame) (hev : ∀ e ∈ F.evs, e.time = F.b.start) : entryEvs F = F.evs.reverse := by
  unfold entryEvs
  apply takeWhile_all
  intro e he
  simp only [List.mem_reverse] at he
  simp [hev e he]

theorem exitFrame_b (cfg : ECfg) (F : EFrame) (t1 d : Nat) (o : Obs) :
    (exitFrame cfg F t1 d o).b = { F.b with endT := t1 } :=
  (exitArea_b cfg (setEnd F t1) (d + 1) o).1

/-! ### values: what the exit hook's events are made from -/

/-- the ids of a source table do not collide -/
def DistinctIds (srcs : List ReadSrc) : Prop :=
  (srcs.map (·.idRead)).Nodup ∧ ∀ s ∈ srcs, ∀ s' ∈ srcs, s.idDiff ≠ s'.idRead

theorem readEvents_distinct : DistinctIds readEvents := by
  constructor
  · decide
  · decide

/-- what an event of the exit hook is made from: the reading `o` gave for its source and, if the
    frame already held a READ event of that source (`base`), the difference to that one -/
def FromExit (o : Obs) (tbl : List ReadSrc) (base : List Ev) (e : Ev) : Prop :=
  ∃ s ∈ tbl, ∃ vX, o.reads s.bit = some vX ∧
    match base.find? (fun x => x.id == s.idRead) with
    | some old => e.id = s.idDiff ∧ e.data = zipSub vX old.data
    | none => e.id = s.idRead ∧ e.data = vX.map (· % u64)

theorem find_pre_none (pre : List Ev) (id : Nat) (h : ∀ e ∈ pre, e.id ≠ id) :
    pre.find? (fun x => x.id == id) = none := by
  apply List.find?_eq_none.mpr
  intro x hx
  simp [h x hx]

/-- the exit hook's loop: `pre` are the events stored so far, above the events `base` of the entry hook; the
    sources still to come have ids that differ from each other and from every id stored so far, so each lookup of a
    READ event falls through `pre` into `base`.  `Q`: anything else that holds of whatever `mkReadEv` makes. -/
theorem saveReadL_exit_events (pair : Bool) (off now midx : Nat) (o : Obs) (mask : Nat) (tbl : List ReadSrc) (base : List Ev)
    (Q : Ev → Prop) (hQ : ∀ g s v, Q (mkReadEv g now midx true s v)) (srcs : List ReadSrc) :
    (∀ x ∈ srcs, x ∈ tbl) → (srcs.map (·.idRead)).Nodup → (∀ s ∈ srcs, ∀ s' ∈ srcs, s.idDiff ≠ s'.idRead) →
    ∀ (f : EFrame) (pre : List Ev), f.evs = pre ++ base → (∀ e ∈ pre, ∀ s ∈ srcs, e.id ≠ s.idRead) →
      (∀ e ∈ pre, FromExit o tbl base e ∧ Q e) →
      ∃ new, (saveReadL pair off now midx true o mask srcs f).evs = new ++ base ∧
        ∀ e ∈ new, FromExit o tbl base e ∧ Q e := by
  induction srcs with
  | nil => exact fun _ _ _ f pre h1 _ h3 => ⟨pre, h1, h3⟩
  | cons s r ih =>
    intro hsub hnd hdr f pre hf hpre hfrom
    obtain ⟨hnd1, hnd2⟩ := List.nodup_cons.mp hnd
    have ih' := ih (fun x hx => hsub x (List.mem_cons_of_mem s hx)) hnd2
      (fun a ha b hb => hdr a (List.mem_cons_of_mem s ha) b (List.mem_cons_of_mem s hb))
    have hpre' : ∀ e ∈ pre, ∀ s' ∈ r, e.id ≠ s'.idRead := fun e he s' hs' => hpre e he s' (List.mem_cons_of_mem s hs')
    show ∃ new, (saveReadL pair off now midx true o mask r (saveReadOne pair off now midx true o mask f s)).evs = _ ∧ _
    rcases saveReadOne_cases pair off now midx true o mask f s with h | ⟨v, hv, h⟩
    · rw [h]
      exact ih' f pre hf hpre' hfrom
    · rw [h]
      have hfind : f.evs.find? (fun x => x.id == s.idRead) = base.find? (fun x => x.id == s.idRead) := by
        rw [hf, List.find?_append, find_pre_none pre s.idRead (fun e he => hpre e he s List.mem_cons_self)]
        rfl
      refine ih' _ (mkReadEv f now midx true s v :: pre) (congrArg (_ :: ·) hf) ?_ ?_
      · intro e he
        rcases List.mem_cons.1 he with rfl | he
        · intro s' hs'
          unfold mkReadEv
          split
          · exact hdr s List.mem_cons_self s' (List.mem_cons_of_mem s hs')
          · exact fun heq => hnd1 (List.mem_map.mpr ⟨s', hs', heq.symm⟩)
        · exact hpre' e he
      · intro e he
        rcases List.mem_cons.1 he with rfl | he
        · refine ⟨⟨s, hsub s List.mem_cons_self, v, hv, ?_⟩, hQ f s v⟩
          unfold mkReadEv
          simp only [↓reduceIte, hfind]
          cases base.find? (fun x => x.id == s.idRead) <;> exact ⟨rfl, rfl⟩
        · exact hfrom e he

/-- the events the exit hook adds to the frame `F`, oldest first, are what is written before EXIT -/
theorem exitFrame_events (cfg : ECfg) (F : EFrame) (t1 d : Nat) (o : Obs)
    (hev : ∀ e ∈ F.evs, e.time = F.b.start) (ht : F.b.start ≠ t1) (ht1 : t1 ≠ 0) :
    ∃ new, (exitFrame cfg F t1 d o).evs = new ++ F.evs ∧ (∀ e ∈ new, e.time = t1) ∧
      (∀ e ∈ new, FromExit o readEvents F.evs e) ∧
      exitEvs (exitFrame cfg F t1 d o) = new.reverse := by
  have hex : ∃ new, (exitFrame cfg F t1 d o).evs = new ++ F.evs ∧
      ∀ e ∈ new, FromExit o readEvents F.evs e ∧ e.time = t1 := by
    unfold exitFrame exitArea
    split
    · rw [saveRead_exit, hookTime_setEnd F t1 ht1]
      exact saveReadL_exit_events _ _ t1 _ o _ readEvents F.evs (·.time = t1) (fun g s v => mkReadEv_time g t1 _ true s v)
        readEvents (fun x hx => hx) readEvents_distinct.1 readEvents_distinct.2 (setEnd F t1) [] rfl nofun nofun
    · exact ⟨[], rfl, nofun⟩
  obtain ⟨new, h1, h2⟩ := hex
  refine ⟨new, h1, fun e he => (h2 e he).2, fun e he => (h2 e he).1, ?_⟩
  unfold exitEvs
  rw [h1, exitFrame_b, List.reverse_append, List.filter_append, List.filter_eq_nil_iff.mpr, List.filter_eq_self.mpr]
  · rfl
  · intro e he
    rw [(h2 e (List.mem_reverse.1 he)).2]
    exact beq_self_eq_true t1
  · intro e he
    rw [hev e (List.mem_reverse.1 he)]
    exact fun h => ht (eq_of_beq h)

theorem entryEvs_exitFrame (cfg : ECfg) (F : EFrame) (t1 d : Nat) (o : Obs)
    (hev : ∀ e ∈ F.evs, e.time = F.b.start) (ht : F.b.start ≠ t1) (ht1 : t1 ≠ 0) :
    entryEvs (exitFrame cfg F t1 d o) = F.evs.reverse := by
  obtain ⟨new, h1, h2, _⟩ := exitFrame_events cfg F t1 d o hev ht ht1
  unfold entryEvs
  rw [h1, exitFrame_b, List.reverse_append, List.takeWhile_append_of_pos, takeWhile_none, List.append_nil]
  · intro e he
    rw [h2 e (List.mem_reverse.1 he)]
    exact beq_eq_false_iff_ne.2 (Ne.symm ht)
  · intro e he
    rw [hev e (List.mem_reverse.1 he)]
    exact beq_self_eq_true _

/-! ### record_trace_data: what is owed for the open frames and the pending events -/

theorem takeAsync_append_ge (a b : List Ev) (ts : Nat) (hb : ∀ e ∈ b, ¬ e.time < ts) :
    takeAsync (a ++ b) ts = ((takeAsync a ts).1, (takeAsync a ts).2 ++ b) := by
  induction a with
  | nil =>
    cases b with
    | nil => rfl
    | cons x r => simp [takeAsync, hb x (by simp)]
  | cons x r ih =>
    simp only [List.cons_append, takeAsync]
    split
    · simp [ih]
    · simp

theorem flushBelowE_append (fs : List EFrame) : ∀ (p E : List Ev),
    (∀ e ∈ E, ∀ g ∈ fs, ¬ e.time < g.b.start) →
    flushBelowE fs (p ++ E) = ((flushBelowE fs p).1, (flushBelowE fs p).2.1 ++ E, (flushBelowE fs p).2.2) := by
  induction fs with
  | nil => intro p E _; rfl
  | cons f r ih =>
    intro p E h
    have hr : ∀ e ∈ E, ∀ g ∈ r, ¬ e.time < g.b.start := fun e he g hg => h e he g (by simp [hg])
    have hf : ∀ e ∈ E, ¬ e.time < f.b.start := fun e he => h e he f (by simp)
    simp only [flushBelowE]
    split
    · rfl
    · rw [ih p E hr]
      split
      · rfl
      · simp only [recEntry, takeAsync_append_ge _ E f.b.start hf]

/-- what is owed for the open frames and the pending events: the ENTRY records of the unwritten
    frames, each preceded by the pending events older than it, then the events still pending -/
def owed (fs : List EFrame) (p : List Ev) : List Out :=
  (flushBelowE fs p).2.2 ++ (flushBelowE fs p).2.1.map .event

theorem owed_marked (fs : List EFrame) : owed (markToE fs) [] = [] := by
  cases fs with
  | nil => rfl
  | cons f r =>
    simp only [markToE]
    split
    · rename_i h
      simp [owed, flushBelowE, h]
    · simp [owed, flushBelowE]

theorem flushBelowE_frames (fs : List EFrame) (hns : NoSkipE fs) : ∀ p, (flushBelowE fs p).1 = markToE fs := by
  induction fs with
  | nil => intro p; rfl
  | cons f r ih =>
    intro p
    have hf := hns f (by simp)
    have hr : NoSkipE r := fun g hg => hns g (by simp [hg])
    simp only [flushBelowE, markToE]
    split
    · rfl
    · simp [Frame.skip, hf.1, hf.2, ih hr]

theorem owed_nil (fs : List EFrame) (h : NoSkipE fs) : owed fs [] = pendingE fs := by
  rw [owed, flushBelowE_noskip fs h]
  exact List.append_nil _

theorem takeAsync_left_mem (p : List Ev) (ts : Nat) : ∀ e ∈ (takeAsync p ts).2, e ∈ p := by
  intro e he
  have h := takeAsync_append p ts
  rw [← h]
  simp [he]

theorem flushBelowE_left_mem (fs : List EFrame) : ∀ (p : List Ev), ∀ e ∈ (flushBelowE fs p).2.1, e ∈ p := by
  induction fs with
  | nil => intro p e he; simpa [flushBelowE] using he
  | cons f r ih =>
    intro p e he
    simp only [flushBelowE] at he
    split at he
    · exact he
    · split at he
      · exact ih p e he
      · simp only [recEntry] at he
        exact ih p e (takeAsync_left_mem _ _ e he)

theorem owed_exitFrame (cfg : ECfg) (F : EFrame) (rest : List EFrame) (p : List Ev) (t1 d : Nat) (o : Obs)
    (hev : ∀ e ∈ F.evs, e.time = F.b.start) (ht : F.b.start ≠ t1) (ht1 : t1 ≠ 0) :
    owed (exitFrame cfg F t1 d o :: rest) p = owed (F :: rest) p := by
  have hb := exitArea_b cfg (setEnd F t1) (d + 1) o
  have ho : entryOut (exitFrame cfg F t1 d o) = entryOut F := by
    unfold entryOut exitFrame
    rw [hb.1, hb.2.1, hb.2.2.1]
    rfl
  simp only [owed, flushBelowE, recEntry, ho, entryEvs_exitFrame cfg F t1 d o hev ht ht1, entryEvs_of_all F hev,
    exitFrame_b, Frame.skip]
  split
  · rfl
  · split <;> rfl

/-- record_trace_data for a recorded top frame that has returned: the downward walk from the top frame, then what
    record_ret_stack(EXIT) writes -/
theorem recordTraceE_flush (cfg : ECfg) (retv : Bool) (top : EFrame) (rest : List EFrame) (p : List Ev)
    (hsk : top.b.skip = false) (hend : top.b.endT ≠ 0) :
    (recordTraceE cfg retv (top :: rest) p).2.2 = (flushBelowE (top :: rest) p).2.2 ++
      (recExit (flushBelowE (top :: rest) p).2.1 top (retPayload cfg retv top)).2 ∧
    (recordTraceE cfg retv (top :: rest) p).2.1 =
      (recExit (flushBelowE (top :: rest) p).2.1 top (retPayload cfg retv top)).1 ∧
    (recordTraceE cfg retv (top :: rest) p).1.tail = (flushBelowE (top :: rest) p).1.tail := by
  have he : (top.b.endT != 0) = true := by simp [hend]
  cases hw : top.b.written <;> simp [recordTraceE, flushBelowE, hw, hsk, he]

/-- record_trace_data at the exit hook: everything owed, the exit hook's watch events, its frame
    events, EXIT; nothing stays pending -/
theorem recordTraceE_exit (cfg : ECfg) (retv : Bool) (X : EFrame) (rest : List EFrame) (P WX : List Ev) (t1 : Nat)
    (hns : NoSkipE (X :: rest)) (hend : X.b.endT = t1) (ht1 : t1 ≠ 0)
    (hP : ∀ e ∈ P, e.time < t1) (hWX : ∀ e ∈ WX, e.time < t1)
    (hlow : ∀ e ∈ WX, ∀ g ∈ X :: rest, ¬ e.time < g.b.start) :
    (recordTraceE cfg retv (X :: rest) (P ++ WX)).2.2 =
      owed (X :: rest) P ++ WX.map .event ++
        ((exitEvs X).map .event ++ [.record (exitRec X.b) (retPayload cfg retv X)]) ∧
    (recordTraceE cfg retv (X :: rest) (P ++ WX)).2.1 = [] ∧
    (recordTraceE cfg retv (X :: rest) (P ++ WX)).1.tail = (markToE (X :: rest)).tail := by
  have hsk : X.b.skip = false := by simp [Frame.skip, hns X List.mem_cons_self]
  obtain ⟨r1, r2, r3⟩ := recordTraceE_flush cfg retv X rest (P ++ WX) hsk (hend ▸ ht1)
  have hall : ∀ e ∈ (flushBelowE (X :: rest) P).2.1 ++ WX, e.time < t1 := by
    intro e he
    rcases List.mem_append.mp he with he | he
    · exact hP e (flushBelowE_left_mem _ P e he)
    · exact hWX e he
  rw [flushBelowE_append (X :: rest) P WX hlow] at r1 r2 r3
  simp only [recExit, hend, takeAsync_all _ t1 hall] at r1 r2
  refine ⟨?_, r2, ?_⟩
  · rw [r1]
    simp [owed, List.append_assoc]
  · rw [r3, flushBelowE_frames _ hns]

/-- what the exit hook writes for the frame `F` once its ENTRY is out -/
def exitOut (cfg : ECfg) (F : EFrame) (t1 d : Nat) (o : Obs) : List Out :=
  (exitEvs (exitFrame cfg F t1 d o)).map .event ++
    [.record (exitRec (exitFrame cfg F t1 d o).b) (retPayload cfg (!F.b.cyg && F.retFl) (exitFrame cfg F t1 d o))]

theorem exitOut_withW (cfg : ECfg) (F : EFrame) (w : Bool) (t1 d : Nat) (o : Obs) :
    exitOut cfg (withW F w) t1 d o = exitOut cfg F t1 d o := by
  unfold exitOut exitFrame
  rw [setEnd_withW, exitArea_withW, exitEvs_withW]
  rfl

/-! ### save_watchpoint -/

/-- `s'` differs from `s` at most in the pending events and the watch state -/
structure SameBut (s s' : ESt) : Prop where
  frames : s'.frames = s.frames
  over : s'.over = s.over
  recordIdx : s'.recordIdx = s.recordIdx
  warned : s'.warned = s.warned
  filt : s'.filt = s.filt
  enabled : s'.enabled = s.enabled
  enableCached : s'.enableCached = s.enableCached
  finished : s'.finished = s.finished
  out : s'.out = s.out

theorem SameBut.refl (s : ESt) : SameBut s s := by constructor <;> rfl

theorem SameBut.trans {a b c : ESt} (h1 : SameBut a b) (h2 : SameBut b c) : SameBut a c :=
  ⟨h2.frames.trans h1.frames, h2.over.trans h1.over, h2.recordIdx.trans h1.recordIdx, h2.warned.trans h1.warned,
    h2.filt.trans h1.filt, h2.enabled.trans h1.enabled, h2.enableCached.trans h1.enableCached,
    h2.finished.trans h1.finished, h2.out.trans h1.out⟩

/-- a watch event saved at time `t` with tag `ridx` -/
def IsWatchEv (t ridx : Nat) (e : Ev) : Prop :=
  e.time = t ∧ e.idx = ridx ∧ (e.id = EVENT_ID_WATCH_CPU ∨ e.id = EVENT_ID_WATCH_VAR)

theorem SameBut.upd (s : ESt) (p : List Ev) (wi : Bool) (c : Option Nat) (wc : List Nat) (g : List (Option Nat)) :
    SameBut s { s with pend := p, winited := wi, wcpu := c, wcopy := wc, glob := g } :=
  ⟨rfl, rfl, rfl, rfl, rfl, rfl, rfl, rfl, rfl⟩

/-- `s'` is `s` with watch events of time `t` and tag `ridx` stored behind the pending ones and the watch state
    updated, `watch.inited` apart -/
structure WatchAdds (t ridx : Nat) (s s' : ESt) : Prop where
  same : SameBut s s'
  winited : s'.winited = s.winited
  pend : ∃ W, s'.pend = s.pend ++ W ∧ ∀ e ∈ W, IsWatchEv t ridx e

theorem WatchAdds.refl (t ridx : Nat) (s : ESt) : WatchAdds t ridx s s :=
  ⟨SameBut.refl s, rfl, [], (List.append_nil _).symm, nofun⟩

theorem WatchAdds.trans {t ridx : Nat} {a b c : ESt} (h1 : WatchAdds t ridx a b) (h2 : WatchAdds t ridx b c) :
    WatchAdds t ridx a c := by
  obtain ⟨W1, p1, e1⟩ := h1.pend
  obtain ⟨W2, p2, e2⟩ := h2.pend
  refine ⟨h1.same.trans h2.same, h2.winited.trans h1.winited, W1 ++ W2, ?_, ?_⟩
  · rw [p2, p1, List.append_assoc]
  · intro e he
    rcases List.mem_append.1 he with he | he
    · exact e1 e he
    · exact e2 e he

theorem saveWatchCpu_adds (s : ESt) (t ridx cpu : Nat) (init : Bool) :
    WatchAdds t ridx s (saveWatchCpu s t ridx cpu init) := by
  unfold saveWatchCpu
  simp only []
  split
  · exact ⟨SameBut.upd s _ _ _ _ _, rfl, [cpuEv t ridx cpu], rfl, by simp [IsWatchEv, cpuEv]⟩
  · exact ⟨SameBut.upd s _ _ _ _ _, rfl, [], (List.append_nil _).symm, nofun⟩

/-- save_watchpoint's step for one variable in one piece: nothing happens without room or without a change; the thread's
    copy is refreshed only by the repaired code; the event is stored unless the global item already holds the value -/
theorem saveWatchVar_eq (cfg : ECfg) (t ridx : Nat) (s : ESt) (k size v : Nat) :
    saveWatchVar cfg t ridx s k size v =
      if s.pend.length < MAX_EVENT ∧ s.wcopy[k]? ≠ some v then
        { s with
          wcopy := if cfg.fixVar then s.wcopy.set k v else s.wcopy,
          glob := if s.glob[k]? = some (some v) then s.glob else s.glob.set k (some v),
          pend := if s.glob[k]? = some (some v) then s.pend else s.pend ++ [varEv t ridx k size v] }
      else s := by
  unfold saveWatchVar
  by_cases h1 : s.pend.length ≥ MAX_EVENT
  · rw [if_pos h1, if_neg (fun h => Nat.not_lt_of_le h1 h.1)]
  · rw [if_neg h1]
    by_cases h2 : s.wcopy[k]? = some v
    · rw [if_pos (beq_iff_eq.2 h2), if_neg (fun h => h.2 h2)]
    · have hc : s.pend.length < MAX_EVENT ∧ s.wcopy[k]? ≠ some v := ⟨Nat.lt_of_not_le h1, h2⟩
      rw [if_neg (fun h => h2 (beq_iff_eq.1 h)), if_pos hc]
      by_cases h3 : s.glob[k]? = some (some v)
      · simp only [h3, beq_self_eq_true, ↓reduceIte]
        cases cfg.fixVar <;> rfl
      · simp only [h3, beq_iff_eq, ↓reduceIte]
        cases cfg.fixVar <;> rfl

theorem saveWatchVar_adds (cfg : ECfg) (t ridx : Nat) (s : ESt) (k size v : Nat) :
    WatchAdds t ridx s (saveWatchVar cfg t ridx s k size v) := by
  rw [saveWatchVar_eq]
  split
  · refine ⟨SameBut.upd s _ _ _ _ _, rfl, ?_⟩
    split
    · exact ⟨[], (List.append_nil _).symm, nofun⟩
    · exact ⟨[varEv t ridx k size v], rfl, by simp [IsWatchEv, varEv]⟩
  · exact WatchAdds.refl t ridx s

theorem saveWatchVar_pend (cfg : ECfg) (t ridx : Nat) (s : ESt) (k size v : Nat) :
    (saveWatchVar cfg t ridx s k size v).pend =
      if s.pend.length < MAX_EVENT ∧ s.wcopy[k]? ≠ some v ∧ s.glob[k]? ≠ some (some v) then
        s.pend ++ [varEv t ridx k size v] else s.pend := by
  rw [saveWatchVar_eq]
  by_cases hc : s.pend.length < MAX_EVENT ∧ s.wcopy[k]? ≠ some v
  · by_cases h3 : s.glob[k]? = some (some v)
    · simp only [hc, h3, ↓reduceIte, ne_eq, not_true_eq_false, and_false, not_false_eq_true, and_self]
    · simp only [hc, h3, ↓reduceIte, ne_eq, not_false_eq_true, and_self]
  · rw [if_neg hc, if_neg (fun hh => hc ⟨hh.1, hh.2.1⟩)]

theorem saveWatchCpu_pend (s : ESt) (t ridx cpu : Nat) (init : Bool) :
    (saveWatchCpu s t ridx cpu init).pend =
      if (init = true ∨ s.wcpu ≠ some cpu) ∧ s.pend.length < MAX_EVENT then s.pend ++ [cpuEv t ridx cpu] else s.pend := by
  unfold saveWatchCpu
  simp only [Bool.and_eq_true, Bool.or_eq_true, bne_iff_ne, decide_eq_true_eq, ne_eq, Or.comm]

theorem saveWatchVars_adds (cfg : ECfg) (t ridx : Nat) : ∀ (szs vs : List Nat) (s : ESt) (k : Nat),
    WatchAdds t ridx s (saveWatchVars cfg t ridx s k szs vs)
  | [], _, s, _ => by
    unfold saveWatchVars
    exact WatchAdds.refl t ridx s
  | _ :: _, [], s, _ => by
    unfold saveWatchVars
    exact WatchAdds.refl t ridx s
  | size :: szs, v :: vs, s, k => by
    unfold saveWatchVars
    exact (saveWatchVar_adds cfg t ridx s k size v).trans (saveWatchVars_adds cfg t ridx szs vs _ (k + 1))

/-- the time stamp save_watchpoint gives its events: one behind the hook's record, or one ahead
    of it for the thread's very first observation -/
def watchTime (b : Frame) (inited : Bool) : Nat := hookTime b + (if !inited then 2 else 0) - 1

/-- the tag save_watchpoint gives its events -/
def watchTag (cfg : ECfg) (ri : Nat) : Nat := if cfg.fixIdx then ri + 1 else ri

theorem saveWatch_spec (cfg : ECfg) (s : ESt) (b : Frame) (ri : Nat) (o : Obs) :
    SameBut s (saveWatch cfg s b ri o) ∧
    (saveWatch cfg s b ri o).winited = true ∧
    ∃ W, (saveWatch cfg s b ri o).pend = s.pend ++ W ∧
      ∀ e ∈ W, IsWatchEv (watchTime b s.winited) (watchTag cfg ri) e := by
  have h1 : WatchAdds (watchTime b s.winited) (watchTag cfg ri) { s with winited := true }
      (if cfg.watchCpu then saveWatchCpu { s with winited := true } (watchTime b s.winited) (watchTag cfg ri) o.cpu
        (!s.winited) else { s with winited := true }) := by
    split
    · exact saveWatchCpu_adds _ _ _ _ _
    · exact WatchAdds.refl _ _ _
  have h := h1.trans (saveWatchVars_adds cfg (watchTime b s.winited) (watchTag cfg ri) cfg.varSizes o.vars _ 0)
  exact ⟨(SameBut.upd s _ _ _ _ _).trans h.same, h.winited, h.pend⟩

theorem watchStep_spec (cfg : ECfg) (s : ESt) (b : Frame) (ri : Nat) (o : Obs) :
    SameBut s (watchStep cfg s b ri o) ∧
    ∃ W, (watchStep cfg s b ri o).pend = s.pend ++ W ∧
      ∀ e ∈ W, IsWatchEv (watchTime b s.winited) (watchTag cfg ri) e := by
  unfold watchStep
  split
  · obtain ⟨a, _, c⟩ := saveWatch_spec cfg s b ri o
    exact ⟨a, c⟩
  · exact ⟨SameBut.refl s, [], by simp, by simp⟩

/-! ### the hooks of an unfiltered call, unfolded up to save_watchpoint -/

/-- the thread state mcount_entry_filter_record hands to save_watchpoint for an unfiltered call -/
def entryBase (s : ESt) (d : Nat) (F0 : EFrame) : ESt :=
  { frames := F0 :: s.frames, over := s.over, recordIdx := d + 1,
    filt := { depth := d + 1, svDepth := d, svMaxDepth := noMaxDepth, svTime := noTime },
    enableCached := s.enableCached, finished := s.finished, pend := s.pend, winited := s.winited,
    wcpu := s.wcpu, wcopy := s.wcopy, glob := s.glob, out := s.out }

/-- the state mcount_exit_filter_record hands to save_watchpoint -/
def exitBase (s2 : ESt) (top : EFrame) (rest : List EFrame) : ESt :=
  { s2 with
    frames := top :: rest,
    filt := { s2.filt with
      inCount := if top.b.filtered then s2.filt.inCount - 1 else s2.filt.inCount,
      outCount := if !top.b.filtered && top.b.notrace then s2.filt.outCount - 1 else s2.filt.outCount,
      depth := top.b.sDepth, maxDepth := top.b.sMaxDepth, time := top.b.sTime, size := top.b.sSize },
    recordIdx := s2.recordIdx - 1 }

/-- the filter-free part of the state between hooks at depth `d` -/
structure GoodB (s : ESt) (d : Nat) : Prop where
  over : s.over = 0
  len : s.frames.length = d
  ridx : s.recordIdx = d
  en : s.enabled = true
  inc : s.filt.inCount = 0
  outc : s.filt.outCount = 0
  fdepth : s.filt.depth = d
  fmax : s.filt.maxDepth = noMaxDepth
  ftime : s.filt.time = noTime
  fsize : s.filt.size = 0
  noskip : NoSkipE s.frames

/-- `s'` has the counters and the filter state of `s`: what `GoodB` looks at besides the frames -/
structure SameCtl (s s' : ESt) : Prop where
  over : s'.over = s.over
  recordIdx : s'.recordIdx = s.recordIdx
  filt : s'.filt = s.filt
  enabled : s'.enabled = s.enabled

/-- `SameBut`, whatever is then done to frames, pending events and output -/
theorem SameBut.ctl {s ws : ESt} (h : SameBut s ws) (fs : List EFrame) (p : List Ev) (out : List Out) :
    SameCtl s { ws with frames := fs, pend := p, out := out } :=
  ⟨h.over, h.recordIdx, h.filt, h.enabled⟩

theorem SameCtl.ite {s a b : ESt} {c : Prop} [Decidable c] (ha : SameCtl s a) (hb : SameCtl s b) :
    SameCtl s (if c then a else b) := by
  split
  · exact ha
  · exact hb

theorem watchStep_off (cfg : ECfg) (h : cfg.watch = false) (s : ESt) (b : Frame) (ri : Nat) (o : Obs) :
    watchStep cfg s b ri o = s :=
  if_neg (by simp [h])

theorem watchStep_hookTime (cfg : ECfg) (s : ESt) (b b' : Frame) (ri : Nat) (o : Obs) (h : hookTime b = hookTime b') :
    watchStep cfg s b ri o = watchStep cfg s b' ri o := by
  unfold watchStep saveWatch
  simp only [h]

theorem hasAsync_false (p : List Ev) (h : ∀ e ∈ p, e.idx < ASYNC_IDX) : hasAsync p = false := by
  unfold hasAsync
  apply List.any_eq_false.mpr
  intro e he
  exact fun hb => Nat.ne_of_lt (h e he) (eq_of_beq hb)

/-- the end of the entry hook when no asynchronous event is pending, as an equation -/
theorem entryFinish_eq (cfg : ECfg) (sB : ESt) (F : EFrame) (rest : List EFrame) (o : Obs)
    (hp : ∀ e ∈ sB.pend, e.idx < ASYNC_IDX) (htag : watchTag cfg rest.length < ASYNC_IDX) :
    entryFinish cfg sB F rest o = { watchStep cfg sB F.b rest.length o with frames := F :: rest } := by
  obtain ⟨hs, W, hW, hWe⟩ := watchStep_spec cfg sB F.b rest.length o
  have hna : hasAsync (watchStep cfg sB F.b rest.length o).pend = false := by
    apply hasAsync_false
    intro e he
    rw [hW] at he
    rcases List.mem_append.1 he with he | he
    · exact hp e he
    · rw [(hWe e he).2.1]
      exact htag
  unfold entryFinish
  simp only [hna, Bool.false_eq_true, ↓reduceIte]

theorem entryFinish_off (cfg : ECfg) (hw : cfg.watch = false) (sB : ESt) (F : EFrame) (rest : List EFrame) (o : Obs)
    (hp : sB.pend = []) : entryFinish cfg sB F rest o = { sB with frames := F :: rest } := by
  unfold entryFinish
  simp only [watchStep_off cfg hw, hp, hasAsync, List.any_nil, Bool.false_eq_true, ↓reduceIte]

/-- the exit hook of a call that passes the time filter: record_trace_data -/
theorem exitFinish_record (cfg : ECfg) (sB : ESt) (f f1 : EFrame) (rest : List EFrame) (tf : Nat) (retv : Bool) (o : Obs)
    (hc : durOk cfg.base (subU64 f.b.endT f.b.start) tf = true) (hcm : cfg.base.callerMode = false) :
    exitFinish cfg sB f f1 rest tf retv o =
      ({ watchStep cfg sB f1.b rest.length o with frames := f1 :: rest } : ESt).recorded
        (recordTraceE cfg retv (f1 :: rest) (watchStep cfg sB f1.b rest.length o).pend) := by
  unfold exitFinish
  simp [hc, hcm]

/-- record, flush or drop: the end of the exit hook leaves counters and filter state alone -/
theorem exitFinish_ctl (cfg : ECfg) (sB : ESt) (f f1 : EFrame) (rest : List EFrame) (tf : Nat) (retv : Bool) (o : Obs) :
    SameCtl sB (exitFinish cfg sB f f1 rest tf retv o) :=
  have hs := (watchStep_spec cfg sB f1.b rest.length o).1
  .ite (hs.ctl _ _ _) (.ite (.ite (hs.ctl _ _ _) (hs.ctl _ _ _)) (hs.ctl _ _ _))

/-- the entry hook of an unfiltered call up to save_watchpoint: no filter, no trigger, room on the stack -/
theorem entryE_unfold (cfg : ECfg) (hoi : cfg.base.optIn = false) (hli : cfg.base.locIn = false)
    (htr : ∀ f, cfg.base.trig f = {}) (k : Kind) (s : ESt) (d f t0 : Nat) (o : Obs)
    (hg : GoodB s d) (hm : d < cfg.base.maxStack) (hd : d < cfg.base.depthOpt) :
    entryE cfg k s f t0 o =
      (entryFinish cfg (entryBase s d { b := { addr := f, start := t0, depth := d, cyg := k == .cyg } })
        (entryFrame cfg k f t0 d o) s.frames o, true) := by
  obtain ⟨h1, h2, h3, h4, h5, h6, h7, h8, h9, h10, h11⟩ := hg
  have hidx : ¬ (s.idx ≥ cfg.base.maxStack) := by
    unfold ESt.idx
    rw [h1, h2]
    exact Nat.not_le_of_lt hm
  have hnd : ¬ (d ≥ cfg.base.depthOpt) := Nat.not_le_of_lt hd
  cases k <;>
  simp [entryE, entryFilterCheckE, checkRstackE, hidx, hoi, hli, htr,
    saveFilt, matchFilt, earlyOut, trigFilt, depthLimit, trigEnabled,
    entryFilterRecordE, entryEvents, h3, h4, h5, h6, h7, h8, h9, h10, hnd, h2, entryBase, entryFrame, freshFrame,
    plainFrame, show (Kind.pg == Kind.cyg) = false from rfl, show (Kind.cyg == Kind.pg) = false from rfl]

/-- the threshold mcount_exit_filter_record compares with: a `time=` trigger in force, or -t -/
def effThreshold (cfg : ECfg) (s : ESt) : Nat := if s.filt.time = noTime then cfg.base.threshold else s.filt.time

/-- the exit hook of a recorded frame while tracing is on, up to save_watchpoint (any filter state) -/
theorem exitE_unfoldF (cfg : ECfg) (s2 : ESt) (top : EFrame) (rest : List EFrame) (t1 : Nat) (o : Obs)
    (hfr : s2.frames = top :: rest) (hover : s2.over = 0) (hnr : top.b.norecord = false)
    (hen : s2.enabled = true) :
    exitE cfg s2 t1 o =
      { exitFinish cfg (exitBase s2 (setEnd top t1) rest) (setEnd top t1)
          (exitArea cfg (setEnd top t1) (rest.length + 1) o) rest (effThreshold cfg s2) (!top.b.cyg && top.retFl) o with
        frames := (exitFinish cfg (exitBase s2 (setEnd top t1) rest) (setEnd top t1)
          (exitArea cfg (setEnd top t1) (rest.length + 1) o) rest (effThreshold cfg s2) (!top.b.cyg && top.retFl) o).frames.tail } := by
  simp only [exitE, hover, hfr, hnr, exitFilterRecordE, exitEvents, hen, exitBase, effThreshold, Nat.lt_irrefl, gt_iff_lt,
    ↓reduceIte, Bool.and_false, Bool.false_eq_true, setEnd_norecord, Bool.not_true]
  rfl

theorem exitE_ctl (cfg : ECfg) (s2 : ESt) (top : EFrame) (rest : List EFrame) (t1 : Nat) (o : Obs)
    (hfr : s2.frames = top :: rest) (hover : s2.over = 0) (hnr : top.b.norecord = false)
    (hen : s2.enabled = true) :
    SameCtl (exitBase s2 (setEnd top t1) rest) (exitE cfg s2 t1 o) := by
  rw [exitE_unfoldF cfg s2 top rest t1 o hfr hover hnr hen]
  have h := exitFinish_ctl cfg (exitBase s2 (setEnd top t1) rest) (setEnd top t1)
    (exitArea cfg (setEnd top t1) (rest.length + 1) o) rest (effThreshold cfg s2) (!top.b.cyg && top.retFl) o
  exact ⟨h.over, h.recordIdx, h.filt, h.enabled⟩

theorem GoodB.entry {s s' : ESt} {d : Nat} {F0 F : EFrame} (hg : GoodB s d)
    (hF : F.b.norecord = false ∧ F.b.disabled = false) (hc : SameCtl (entryBase s d F0) s')
    (hfr : s'.frames = F :: s.frames) : GoodB s' (d + 1) := by
  constructor
  · rw [hc.over]; exact hg.over
  · rw [hfr, List.length_cons, hg.len]
  · exact hc.recordIdx
  · rw [hc.enabled]; rfl
  · rw [hc.filt]; rfl
  · rw [hc.filt]; rfl
  · rw [hc.filt]; rfl
  · rw [hc.filt]; rfl
  · rw [hc.filt]; rfl
  · rw [hc.filt]; rfl
  · rw [hfr]
    intro g hg'
    rcases List.mem_cons.1 hg' with rfl | hg'
    · exact hF
    · exact hg.noskip g hg'

theorem GoodB.exit {s2 s' : ESt} {d : Nat} {top : EFrame} {rest : List EFrame} (hg : GoodB s2 (d + 1))
    (k : Kind) (f t0 : Nat) (w : Bool) (hb : top.b = { plainFrame k f t0 d with written := w }) (t1 : Nat)
    (hc : SameCtl (exitBase s2 (setEnd top t1) rest) s') (hl : s'.frames.length = d) (hn : NoSkipE s'.frames) :
    GoodB s' d := by
  -- `hb`: nothing was counted for the frame, and it saved the filter state of depth `d`
  have hf : s'.filt =
      { s2.filt with inCount := 0, outCount := 0, depth := d, maxDepth := noMaxDepth, time := noTime, size := 0 } := by
    rw [hc.filt]
    simp only [exitBase, setEnd, hb, plainFrame, hg.inc, hg.outc, Bool.false_eq_true, ↓reduceIte, Bool.not_false,
      Bool.and_false]
  constructor
  · rw [hc.over]; exact hg.over
  · exact hl
  · rw [hc.recordIdx]; show s2.recordIdx - 1 = d; rw [hg.ridx]; rfl
  · rw [hc.enabled]; exact hg.en
  · rw [hf]
  · rw [hf]
  · rw [hf]
  · rw [hf]
  · rw [hf]
  · rw [hf]
  · exact hn

/-- the exit hook of a frame pushed without filters, no -t: `sW` is the state after save_watchpoint, `WX` the watch
    events it stored, all older than the EXIT record and none older than an open frame.  Everything owed, then `WX`,
    then the frame's exit events and EXIT are written; nothing stays pending -/
theorem exitE_emits (cfg : ECfg) (hthr : cfg.base.threshold = 0) (hcm : cfg.base.callerMode = false) (k : Kind)
    (s2 sW : ESt) (d f t0 t1 : Nat) (w : Bool) (top : EFrame) (rest : List EFrame) (o : Obs) (WX : List Ev)
    (hfr : s2.frames = top :: rest) (hb : top.b = { plainFrame k f t0 d with written := w })
    (hev : ∀ e ∈ top.evs, e.time = t0) (hg : GoodB s2 (d + 1)) (ht : t0 < t1) (htu : t1 < u64)
    (hsW : watchStep cfg (exitBase s2 (setEnd top t1) rest) (exitFrame cfg top t1 d o).b d o = sW)
    (hW : sW.pend = s2.pend ++ WX) (hP : ∀ e ∈ s2.pend, e.time < t1) (hWX : ∀ e ∈ WX, e.time < t1)
    (hlow : ∀ e ∈ WX, ∀ g ∈ top :: rest, ¬ e.time < g.b.start) :
    exitE cfg s2 t1 o =
      { sW with
        frames := (markToE (top :: rest)).tail, pend := [],
        out := s2.out ++ owed (top :: rest) s2.pend ++ WX.map .event ++ exitOut cfg top t1 d o } ∧
    GoodB (exitE cfg s2 t1 o) d := by
  have hlen : rest.length = d := Nat.succ.inj (show (top :: rest).length = d + 1 from hfr ▸ hg.len)
  have hns : NoSkipE (top :: rest) := hfr ▸ hg.noskip
  have hnr := (hns top List.mem_cons_self).1
  have hst : top.b.start = t0 := by rw [hb]; rfl
  have ht1 : t1 ≠ 0 := Nat.ne_of_gt (Nat.zero_lt_of_lt ht)
  have hXb := exitFrame_b cfg top t1 d o
  have hso : sW.out = s2.out := hsW ▸ (watchStep_spec cfg _ _ d o).1.out
  -- record_trace_data on the frame after save_trigger_read: as far as it looks, that frame is `top`
  obtain ⟨r1, r2, r3⟩ := recordTraceE_exit cfg (!top.b.cyg && top.retFl) (exitFrame cfg top t1 d o) rest s2.pend WX t1
    (List.forall_mem_cons.2 ⟨by rw [hXb]; exact hns top List.mem_cons_self, (List.forall_mem_cons.1 hns).2⟩)
    (by rw [hXb]) ht1 hP hWX
    (fun e he => List.forall_mem_cons.2 ⟨by rw [hXb]; exact (List.forall_mem_cons.1 (hlow e he)).1,
      (List.forall_mem_cons.1 (hlow e he)).2⟩)
  rw [← hW, owed_exitFrame cfg top rest s2.pend t1 d o (by rw [hst]; exact hev) (hst ▸ Nat.ne_of_lt ht) ht1] at r1
  rw [← hW] at r2 r3
  have hm : (markToE (exitFrame cfg top t1 d o :: rest)).tail = (markToE (top :: rest)).tail := by
    simp only [markToE, hXb]
    split <;> rfl
  have hu := exitE_unfoldF cfg s2 top rest t1 o hfr hg.over hnr hg.en
  rw [effThreshold, if_pos hg.ftime, hthr, exitFinish_record cfg _ (setEnd top t1) _ rest _ _ o
      (by rw [setEnd_endT, setEnd_start, hst]; exact durOk_sub_of_lt cfg.base t0 t1 ht htu) hcm, hlen,
    show exitArea cfg (setEnd top t1) (d + 1) o = exitFrame cfg top t1 d o from rfl, hsW] at hu
  generalize recordTraceE cfg (!top.b.cyg && top.retFl) (exitFrame cfg top t1 d o :: rest) sW.pend = R at hu r1 r2 r3
  have he : exitE cfg s2 t1 o =
      { sW with
        frames := (markToE (top :: rest)).tail, pend := [],
        out := s2.out ++ owed (top :: rest) s2.pend ++ WX.map .event ++ exitOut cfg top t1 d o } := by
    rw [hu]
    show ({ sW with frames := R.1.tail, pend := R.2.1, out := sW.out ++ R.2.2 } : ESt) = _
    rw [r3, hm, r2, r1, hso]
    simp only [exitOut, List.append_assoc]
  refine ⟨he, hg.exit k f t0 w hb t1 (exitE_ctl cfg s2 top rest t1 o hfr hg.over hnr hg.en) ?_ ?_⟩
  · rw [he]
    show (markToE (top :: rest)).tail.length = d
    rw [List.length_tail, markToE_length, List.length_cons, hlen]
    rfl
  · rw [he]
    exact fun g hg' => markToE_noskip _ hns g (List.mem_of_mem_tail hg')

/-! ### hooks without filters and without watchpoints -/

/-- no filter, trigger or threshold in the underlying hook configuration; read triggers,
    arguments and return values are free; no watchpoints -/
structure PlainE (cfg : ECfg) : Prop where
  plain : Plain cfg.base
  nocpu : cfg.watchCpu = false
  novars : cfg.varSizes = []

/-- the thread state between hooks, at nesting depth `d`, when nothing is filtered and no
    asynchronous event is pending -/
structure GoodE (s : ESt) (d : Nat) : Prop where
  over : s.over = 0
  len : s.frames.length = d
  ridx : s.recordIdx = d
  en : s.enabled = true
  inc : s.filt.inCount = 0
  outc : s.filt.outCount = 0
  fdepth : s.filt.depth = d
  fmax : s.filt.maxDepth = noMaxDepth
  ftime : s.filt.time = noTime
  fsize : s.filt.size = 0
  noskip : NoSkipE s.frames
  pend : s.pend = []

theorem GoodE.toB {s : ESt} {d : Nat} (h : GoodE s d) : GoodB s d :=
  ⟨h.over, h.len, h.ridx, h.en, h.inc, h.outc, h.fdepth, h.fmax, h.ftime, h.fsize, h.noskip⟩

theorem GoodB.toE {s : ESt} {d : Nat} (h : GoodB s d) (hp : s.pend = []) : GoodE s d :=
  ⟨h.over, h.len, h.ridx, h.en, h.inc, h.outc, h.fdepth, h.fmax, h.ftime, h.fsize, h.noskip, hp⟩

theorem PlainE.watch {cfg : ECfg} (hp : PlainE cfg) : cfg.watch = false := by
  simp [ECfg.watch, hp.nocpu, hp.novars]

/-- the exit hook of a frame pushed without filters, nothing pending: the ENTRY records still owed, then the
    frame's exit events and EXIT -/
theorem exitE_plain (cfg : ECfg) (hp : PlainE cfg) (k : Kind) (s2 : ESt) (d f t0 t1 : Nat) (w : Bool) (top : EFrame)
    (rest : List EFrame) (o : Obs)
    (hfr : s2.frames = top :: rest) (hb : top.b = { plainFrame k f t0 d with written := w })
    (hev : ∀ e ∈ top.evs, e.time = t0)
    (hg : GoodE s2 (d + 1)) (ht : t0 < t1) (htu : t1 < u64) :
    (exitE cfg s2 t1 o).out = s2.out ++ pendingE (top :: rest) ++ exitOut cfg top t1 d o ∧
    (exitE cfg s2 t1 o).frames = (markToE (top :: rest)).tail ∧
    GoodE (exitE cfg s2 t1 o) d := by
  obtain ⟨hu, hG⟩ := exitE_emits cfg hp.plain.thr hp.plain.caller k s2 _ d f t0 t1 w top rest o [] hfr hb hev hg.toB ht htu
    (watchStep_off cfg hp.watch _ _ d o) (List.append_nil _).symm (by rw [hg.pend]; exact nofun) nofun nofun
  rw [hg.pend, owed_nil _ (hfr ▸ hg.noskip)] at hu
  refine ⟨?_, ?_, hG.toE ?_⟩
  · rw [hu]
    exact congrArg (· ++ exitOut cfg top t1 d o) (List.append_nil _)
  · rw [hu]
  · rw [hu]

/-! ### the specified stream of a call history (no watchpoints, no asynchronous events) -/

mutual
  def ECall.height : ECall → Nat
    | .node _ _ _ _ _ kids => kids.height + 1
  def ECalls.height : ECalls → Nat
    | .nil => 0
    | .cons c rest => max c.height rest.height
end

/-- room on the stack for a call of height `h + 1` at depth `d`: for its frame and, one deeper, for its callees -/
theorem room_node {d h m : Nat} (hm : d + (h + 1) ≤ m) : d < m ∧ d + 1 + h ≤ m := by
  omega

theorem room_cons {d a b m : Nat} (hm : d + max a b ≤ m) : d + a ≤ m ∧ d + b ≤ m :=
  ⟨Nat.le_trans (Nat.add_le_add_left (Nat.le_max_left a b) d) hm,
    Nat.le_trans (Nat.add_le_add_left (Nat.le_max_right a b) d) hm⟩

mutual
  /-- every call takes measurable time on the (64-bit) clock: t0 < t1 < 2^64 -/
  def ECall.timed : ECall → Prop
    | .node _ t0 t1 _ _ kids => t0 < t1 ∧ t1 < u64 ∧ kids.timed
  def ECalls.timed : ECalls → Prop
    | .nil => True
    | .cons c rest => c.timed ∧ rest.timed
end

mutual
  /-- the stream the property specifies for a call executed at nesting depth `d`:
      ENTRY (with its argument payload), the read events of the entry hook, the callees,
      the events of the exit hook, EXIT (with the return value payload) -/
  def specCall (cfg : ECfg) (k : Kind) (d : Nat) : ECall → List Out
    | .node f t0 t1 oE oX kids =>
      ([entryOut (entryFrame cfg k f t0 d oE)] ++ (entryEvs (entryFrame cfg k f t0 d oE)).map .event) ++
        specCalls cfg k (d + 1) kids ++ exitOut cfg (entryFrame cfg k f t0 d oE) t1 d oX
  def specCalls (cfg : ECfg) (k : Kind) (d : Nat) : ECalls → List Out
    | .nil => []
    | .cons c rest => specCall cfg k d c ++ specCalls cfg k d rest
end

/-- the frames above a call's frame `F` after its callees: marked, with `F`, iff one of them was recorded -/
theorem markToE_cons_ite (F : EFrame) (fs : List EFrame) (m : Bool) (h : F.b.written = false) :
    (if m then markToE (F :: fs) else F :: fs) = withW F m :: (if m then markToE fs else fs) := by
  cases m
  · exact congrArg (· :: fs) (withW_self _ _ h).symm
  · simp [markToE, h, setWritten_eq]

theorem markToE_withW_tail (F : EFrame) (fs : List EFrame) (m : Bool) :
    (markToE (withW F m :: if m then markToE fs else fs)).tail = markToE fs := by
  cases m
  · simp [markToE, withW]
  · simp [markToE]

mutual
theorem emitE_call (cfg : ECfg) (hp : PlainE cfg) (k : Kind) :
    ∀ (c : ECall) (s : ESt) (d : Nat), GoodE s d → d + c.height ≤ cfg.base.maxStack →
      d + c.height ≤ cfg.base.depthOpt → c.timed →
      (runECall cfg k s c).out = s.out ++ pendingE s.frames ++ specCall cfg k d c ∧
      (runECall cfg k s c).frames = markToE s.frames ∧
      GoodE (runECall cfg k s c) d
  | .node f t0 t1 oE oX kids, s, d, hg, hm, hd, ht => by
    simp only [ECall.height] at hm hd
    simp only [ECall.timed] at ht
    have hFb := entryFrame_b cfg k f t0 d oE
    have hFev := entryFrame_evs_time cfg k f t0 d oE
    have hFw : (entryFrame cfg k f t0 d oE).b.written = false := by rw [hFb]; rfl
    -- the entry hook pushes the frame and writes nothing
    have hu := entryE_unfold cfg hp.plain.optIn hp.plain.locIn hp.plain.trig k s d f t0 oE hg.toB (room_node hm).1
      (room_node hd).1
    rw [entryFinish_off cfg hp.watch (entryBase s d _) _ _ oE hg.pend] at hu
    have e3 : (entryE cfg k s f t0 oE).1.frames = entryFrame cfg k f t0 d oE :: s.frames := by
      rw [hu]
    have e4 : GoodE (entryE cfg k s f t0 oE).1 (d + 1) := by
      refine (hg.toB.entry (F0 := entryFrame cfg k f t0 d oE) (by rw [hFb]; exact ⟨rfl, rfl⟩) ?_ e3).toE ?_
      · rw [hu]
        exact ⟨rfl, rfl, rfl, rfl⟩
      · rw [hu]
        exact hg.pend
    obtain ⟨k1, ⟨m, k2⟩, k3⟩ := emitE_calls cfg hp k kids (entryE cfg k s f t0 oE).1 (d + 1) e4 (room_node hm).2
      (room_node hd).2 ht.2.2
    rw [e3, show (entryE cfg k s f t0 oE).1.out = s.out by rw [hu]; rfl, pendingE_cons_unwritten _ _ hFw] at k1
    rw [e3, markToE_cons_ite _ _ m hFw] at k2
    simp only [runECall, congrArg Prod.snd hu, ↓reduceIte]
    -- the exit hook writes what is owed, whether or not a callee has flushed the ENTRY records up to this frame
    obtain ⟨x1, x2, x3⟩ := exitE_plain cfg hp k _ d f t0 t1 m _ _ oX k2
      (by show { (entryFrame cfg k f t0 d oE).b with written := m } = _; rw [hFb]) hFev k3 ht.1 ht.2.1
    refine ⟨?_, ?_, x3⟩
    · rw [x1, ← k2, k1, exitOut_withW]
      simp only [specCall, List.append_assoc]
    · rw [x2, markToE_withW_tail]
theorem emitE_calls (cfg : ECfg) (hp : PlainE cfg) (k : Kind) :
    ∀ (cs : ECalls) (s : ESt) (d : Nat), GoodE s d → d + cs.height ≤ cfg.base.maxStack →
      d + cs.height ≤ cfg.base.depthOpt → cs.timed →
      (runECalls cfg k s cs).out ++ pendingE (runECalls cfg k s cs).frames =
        s.out ++ pendingE s.frames ++ specCalls cfg k d cs ∧
      (∃ m : Bool, (runECalls cfg k s cs).frames = if m then markToE s.frames else s.frames) ∧
      GoodE (runECalls cfg k s cs) d
  | .nil, s, d, hg, _, _, _ => ⟨(List.append_nil _).symm, ⟨false, rfl⟩, hg⟩
  | .cons c rest, s, d, hg, hm, hd, ht => by
    simp only [ECalls.height] at hm hd
    simp only [ECalls.timed] at ht
    obtain ⟨c1, c2, c3⟩ := emitE_call cfg hp k c s d hg (room_cons hm).1 (room_cons hd).1 ht.1
    obtain ⟨r1, ⟨m', r2⟩, r3⟩ := emitE_calls cfg hp k rest (runECall cfg k s c) d c3 (room_cons hm).2 (room_cons hd).2 ht.2
    simp only [runECalls]
    refine ⟨?_, ⟨true, ?_⟩, r3⟩
    · rw [r1, c1, c2, pendingE_markToE, List.append_nil, specCalls, List.append_assoc]
    · rw [r2, c2]
      cases m'
      · rfl
      · exact markToE_markToE _
end

/-! ### the records of one call, spelled out -/

/-- the `more` payload of an ENTRY record: -A on a -pg/fentry hook, if save_to_argbuf accepted the size -/
def argPayload (cfg : ECfg) (k : Kind) (f : Nat) : Option Nat :=
  if k == .pg then (match cfg.argSize f with | some n => if n ≤ ARG_MAX then some n else none | none => none) else none

/-- the `more` payload of an EXIT record -/
def retPayloadOf (cfg : ECfg) (k : Kind) (f : Nat) : Option Nat :=
  if k == .pg then (match cfg.retSize f with | some n => if n ≤ ARG_MAX then some n else none | none => none) else none

theorem entryOut_entryFrame (cfg : ECfg) (k : Kind) (f t0 d : Nat) (o : Obs) :
    entryOut (entryFrame cfg k f t0 d o) =
      .record { time := t0, type := 0, depth := d, addr := f } (argPayload cfg k f) := by
  have hb := entryFrame_b cfg k f t0 d o
  have ha := (entryArea_spec cfg (freshFrame cfg k f t0 d) true (k == .pg) (d + 1) o).2
  unfold entryOut
  rw [hb]
  unfold entryFrame
  rw [ha.1, ha.2.1]
  cases k <;> simp [entryRec, plainFrame, argPayload, saveArgument, freshFrame]
  cases cfg.argSize f with
  | none => simp
  | some n => by_cases h : n ≤ ARG_MAX <;> simp [h]

theorem exitRecord_exitFrame (cfg : ECfg) (k : Kind) (f t0 t1 d : Nat) (oE oX : Obs) :
    Out.record (exitRec (exitFrame cfg (entryFrame cfg k f t0 d oE) t1 d oX).b)
        (retPayload cfg (!(entryFrame cfg k f t0 d oE).b.cyg && (entryFrame cfg k f t0 d oE).retFl)
          (exitFrame cfg (entryFrame cfg k f t0 d oE) t1 d oX)) =
      .record { time := t1, type := 1, depth := d, addr := f } (retPayloadOf cfg k f) := by
  have hr : (entryFrame cfg k f t0 d oE).retFl = ((k == .pg) && (cfg.retSize f).isSome) :=
    (entryArea_spec cfg (freshFrame cfg k f t0 d) true (k == .pg) (d + 1) oE).2.2.2.1
  have hx : (exitFrame cfg (entryFrame cfg k f t0 d oE) t1 d oX).retFl = (entryFrame cfg k f t0 d oE).retFl :=
    (exitArea_b cfg (setEnd (entryFrame cfg k f t0 d oE) t1) (d + 1) oX).2.2.2
  unfold retPayload
  rw [hx, exitFrame_b, hr, entryFrame_b]
  cases k <;> simp [retPayloadOf, exitRec, plainFrame]
  cases cfg.retSize f with
  | none => simp
  | some n => by_cases h : n ≤ ARG_MAX <;> simp [h]

/-! ### events do not disturb the ENTRY/EXIT records -/

/-- the ENTRY/EXIT record of a stream element, if it is one -/
def recOf : Out → Option Rec
  | .record r _ => some r
  | .event _ => none

mutual
  /-- a call history without the observations -/
  def ECall.erase : ECall → Call
    | .node f t0 t1 _ _ kids => .node f t0 t1 kids.erase
  def ECalls.erase : ECalls → Calls
    | .nil => .nil
    | .cons c rest => .cons c.erase rest.erase
end

theorem filterMap_recOf_events (l : List Ev) : l.filterMap (recOf ∘ Out.event) = [] :=
  List.filterMap_eq_nil_iff.2 fun _ _ => rfl

mutual
theorem recs_specCall (cfg : ECfg) (k : Kind) : ∀ (d : Nat) (c : ECall),
    (specCall cfg k d c).filterMap recOf = evCall d c.erase
  | d, .node f t0 t1 oE oX kids => by
    have hk := recs_specCalls cfg k (d + 1) kids
    simp only [specCall, exitOut, entryOut_entryFrame, exitRecord_exitFrame, List.filterMap_append, List.filterMap_map,
      filterMap_recOf_events, hk, ECall.erase, evCall]
    simp [recOf]
theorem recs_specCalls (cfg : ECfg) (k : Kind) : ∀ (d : Nat) (cs : ECalls),
    (specCalls cfg k d cs).filterMap recOf = evCalls d cs.erase
  | d, .nil => by simp [specCalls, ECalls.erase, evCalls]
  | d, .cons c rest => by
    simp [specCalls, ECalls.erase, evCalls, recs_specCall cfg k d c, recs_specCalls cfg k d rest]
end

/-! ### calls dropped by the time filter -/

/-- no filter or trigger in the underlying hook configuration; any threshold (-t), any
    watchpoints, read triggers, arguments -/
structure PlainT (cfg : ECfg) : Prop where
  optIn : cfg.base.optIn = false
  locIn : cfg.base.locIn = false
  caller : cfg.base.callerMode = false
  trig : ∀ f, cfg.base.trig f = {}
  maxs : cfg.base.maxStack < ASYNC_IDX

/-- the thread state between hooks at nesting depth `d`: nothing filtered; the pending watch events
    belong to the open frames (tags below `d + 1`), none is asynchronous -/
structure GoodT (s : ESt) (d : Nat) : Prop where
  over : s.over = 0
  len : s.frames.length = d
  ridx : s.recordIdx = d
  en : s.enabled = true
  inc : s.filt.inCount = 0
  outc : s.filt.outCount = 0
  fdepth : s.filt.depth = d
  fmax : s.filt.maxDepth = noMaxDepth
  ftime : s.filt.time = noTime
  fsize : s.filt.size = 0
  noskip : NoSkipE s.frames
  pend : ∀ e ∈ s.pend, e.idx < d + 1

theorem GoodT.toB {s : ESt} {d : Nat} (h : GoodT s d) : GoodB s d :=
  ⟨h.over, h.len, h.ridx, h.en, h.inc, h.outc, h.fdepth, h.fmax, h.ftime, h.fsize, h.noskip⟩

theorem GoodB.toT {s : ESt} {d : Nat} (h : GoodB s d) (hp : ∀ e ∈ s.pend, e.idx < d + 1) : GoodT s d :=
  ⟨h.over, h.len, h.ridx, h.en, h.inc, h.outc, h.fdepth, h.fmax, h.ftime, h.fsize, h.noskip, hp⟩

theorem dropWhile_none {α : Type} (p : α → Bool) (b : List α) (h : ∀ x ∈ b, p x = false) : b.dropWhile p = b := by
  cases b with
  | nil => rfl
  | cons x r => simp [List.dropWhile, h x (by simp)]

/-- `mtdp->nr_events = k`: the events of the frame being left and of deeper frames go, the rest stays -/
theorem keepSync_split (p0 W : List Ev) (n : Nat) (h0 : ∀ e ∈ p0, e.idx < n) (hW : ∀ e ∈ W, ¬ e.idx < n) :
    keepSync (p0 ++ W) n = p0 := by
  unfold keepSync
  rw [List.reverse_append, List.dropWhile_append_of_pos (by
    intro x hx
    simp only [List.mem_reverse] at hx
    simpa using hW x hx), dropWhile_none _ _ (by
    intro x hx
    simp only [List.mem_reverse] at hx
    simpa using h0 x hx)]
  simp

/-- the tail of the exit hook for a call the time filter drops (repaired tag rule): the pending watch
    events of this call and of its callees go, everything older stays, nothing is written -/
theorem exitFinish_drop (cfg : ECfg) (sB : ESt) (f f1 : EFrame) (rest : List EFrame) (tf : Nat) (retv : Bool) (o : Obs)
    (hshort : durOk cfg.base (subU64 f.b.endT f.b.start) tf = false) (hw : f.b.written = false) (htr : f.b.trace = false)
    (p0 W0 : List Ev) (hpend : sB.pend = p0 ++ W0) (h0 : ∀ e ∈ p0, e.idx < rest.length + 1)
    (hW0 : ∀ e ∈ W0, e.idx = rest.length + 1) (hfix : cfg.fixIdx = true) (hmax : rest.length + 1 < ASYNC_IDX) :
    exitFinish cfg sB f f1 rest tf retv o = { watchStep cfg sB f1.b rest.length o with frames := f1 :: rest, pend := p0 } := by
  obtain ⟨_, W, hW, hWe⟩ := watchStep_spec cfg sB f1.b rest.length o
  have hWi : ∀ e ∈ W0 ++ W, e.idx = rest.length + 1 := by
    intro e he
    rcases List.mem_append.1 he with he | he
    · exact hW0 e he
    · rw [(hWe e he).2.1, watchTag, if_pos hfix]
  rw [hpend, List.append_assoc] at hW
  have hna : hasAsync (p0 ++ (W0 ++ W)) = false := by
    apply hasAsync_false
    intro e he
    rcases List.mem_append.1 he with he | he
    · exact Nat.lt_trans (h0 e he) hmax
    · rw [hWi e he]
      exact hmax
  have hks := keepSync_split p0 (W0 ++ W) (rest.length + 1) h0 (fun e he => by rw [hWi e he]; exact Nat.lt_irrefl _)
  unfold exitFinish
  simp only [hshort, hw, htr, hW, hna, Bool.false_and, Bool.or_self, Bool.false_eq_true, ↓reduceIte]
  split
  · rw [hks]
  · rename_i h
    have hnil : p0 ++ (W0 ++ W) = [] := List.isEmpty_iff.1 (by simpa using h)
    rw [hnil, (List.append_eq_nil_iff.1 hnil).1]

/-- One exit hook on an arbitrary stack.  `top` is a recorded frame whose call the time filter drops
    (shorter than the threshold in force, ENTRY not written, no `trace` trigger); `rest` — the frames
    below it — is *any* list of frames, recorded or not, in any order, and the record depth of `top` is
    whatever it is.  The pending events are `p0 ++ W0`: `p0` saved by the hooks of frames below
    (tags ≤ `rest.length`, i.e. rstack index + 1 of a caller's frame), `W0` by `top`'s own hooks.  Then
    the hook writes nothing, pops `top`, and keeps exactly `p0`: a pending event of a recorded caller
    survives the drop of the short call, whatever unrecorded frames are on the stack. -/
theorem exitE_drop_filtered (cfg : ECfg) (hfix : cfg.fixIdx = true) (s2 : ESt) (top : EFrame) (rest : List EFrame)
    (t1 : Nat) (o : Obs) (p0 W0 : List Ev)
    (hfr : s2.frames = top :: rest) (hover : s2.over = 0) (hnr : top.b.norecord = false) (hen : s2.enabled = true)
    (hshort : durOk cfg.base (subU64 t1 top.b.start) (effThreshold cfg s2) = false)
    (hw : top.b.written = false) (htr : top.b.trace = false)
    (hpend : s2.pend = p0 ++ W0) (h0 : ∀ e ∈ p0, e.idx < rest.length + 1) (hW0 : ∀ e ∈ W0, e.idx = rest.length + 1)
    (hmax : rest.length + 1 < ASYNC_IDX) :
    (exitE cfg s2 t1 o).pend = p0 ∧ (exitE cfg s2 t1 o).out = s2.out ∧ (exitE cfg s2 t1 o).frames = rest ∧
    (exitE cfg s2 t1 o).over = 0 ∧ (exitE cfg s2 t1 o).enabled = true ∧
    (exitE cfg s2 t1 o).filt.time = top.b.sTime := by
  rw [exitE_unfoldF cfg s2 top rest t1 o hfr hover hnr hen]
  rw [exitFinish_drop cfg (exitBase s2 (setEnd top t1) rest) (setEnd top t1) _ rest _ _ o hshort hw htr p0 W0 hpend h0 hW0
    hfix hmax]
  have hs := (watchStep_spec cfg (exitBase s2 (setEnd top t1) rest)
    (exitArea cfg (setEnd top t1) (rest.length + 1) o).b rest.length o).1
  exact ⟨rfl, hs.out, rfl, hs.over.trans hover, hs.enabled.trans hen, congrArg Filt.time hs.filt⟩

mutual
  /-- every call of the history is one the time filter -t thr drops: its duration on the 64-bit clock,
      `t1 - t0` modulo 2^64 as the exit hook computes it, is less than `thr` (not longer than `thr`
      for the code before the repair of finding S4, `base.s4fixed = false`).  A call whose exit time
      stamp lies before its entry time stamp is not short: its duration wraps to almost 2^64. -/
  def ECall.short (b : Cfg) (thr : Nat) : ECall → Prop
    | .node _ t0 t1 _ _ kids => durOk b (subU64 t1 t0) thr = false ∧ kids.short b thr
  def ECalls.short (b : Cfg) (thr : Nat) : ECalls → Prop
    | .nil => True
    | .cons c rest => c.short b thr ∧ rest.short b thr
end

mutual
/-- a call the time filter drops — with everything it calls — leaves no trace: nothing is written,
    the pending events and the open frames are as before (repaired tag rule, `fixIdx`) -/
theorem dropped_call (cfg : ECfg) (hp : PlainT cfg) (hfix : cfg.fixIdx = true) (k : Kind) :
    ∀ (c : ECall) (s : ESt) (d : Nat), GoodT s d → d + c.height ≤ cfg.base.maxStack →
      d + c.height ≤ cfg.base.depthOpt → c.short cfg.base cfg.base.threshold →
      (runECall cfg k s c).out = s.out ∧ (runECall cfg k s c).pend = s.pend ∧
      (runECall cfg k s c).frames = s.frames ∧ GoodT (runECall cfg k s c) d
  | .node f t0 t1 oE oX kids, s, d, hg, hm, hd, hs => by
    simp only [ECall.height] at hm hd
    simp only [ECall.short] at hs
    have hda : d + 1 < ASYNC_IDX := Nat.lt_of_le_of_lt (room_node hm).1 hp.maxs
    have htag : watchTag cfg d = d + 1 := by rw [watchTag, if_pos hfix]
    have hu := entryE_unfold cfg hp.optIn hp.locIn hp.trig k s d f t0 oE hg.toB (room_node hm).1 (room_node hd).1
    have hFb := entryFrame_b cfg k f t0 d oE
    generalize entryFrame cfg k f t0 d oE = F at hu hFb
    -- the entry hook pushes the frame; the watch events it stores are tagged `d + 1`
    rw [entryFinish_eq cfg (entryBase s d _) F s.frames oE (fun e he => Nat.lt_trans (hg.pend e he) hda)
      (by rw [hg.len, htag]; exact hda), hg.len] at hu
    obtain ⟨hsb, W, a7, a8⟩ := watchStep_spec cfg
      (entryBase s d { b := { addr := f, start := t0, depth := d, cyg := k == .cyg } }) F.b d oE
    rw [htag] at a8
    generalize watchStep cfg (entryBase s d _) F.b d oE = sW at hu hsb a7
    have a1 : (entryE cfg k s f t0 oE).1.frames = F :: s.frames := by rw [hu]
    have a2 : (entryE cfg k s f t0 oE).1.out = s.out := by rw [hu]; exact hsb.out
    replace a7 : (entryE cfg k s f t0 oE).1.pend = s.pend ++ W := by rw [hu]; exact a7
    have e6 : GoodT (entryE cfg k s f t0 oE).1 (d + 1) := by
      refine (hg.toB.entry (by rw [hFb]; exact ⟨rfl, rfl⟩)
        (by rw [hu]; exact ⟨hsb.over, hsb.recordIdx, hsb.filt, hsb.enabled⟩) a1).toT ?_
      intro e he
      rw [a7] at he
      rcases List.mem_append.1 he with he | he
      · exact Nat.lt_succ_of_lt (hg.pend e he)
      · rw [(a8 e he).2.1]
        exact Nat.lt_succ_self _
    -- the callees leave no trace
    obtain ⟨k1, k2, k3, k4⟩ := dropped_calls cfg hp hfix k kids (entryE cfg k s f t0 oE).1 (d + 1) e6
      (room_node hm).2 (room_node hd).2 hs.2
    rw [a2] at k1
    rw [a7] at k2
    rw [a1] at k3
    simp only [runECall, congrArg Prod.snd hu, ↓reduceIte]
    generalize runECalls cfg k (entryE cfg k s f t0 oE).1 kids = s2 at k1 k2 k3 k4 ⊢
    -- the exit hook drops the frame and, with it, the events tagged `d + 1`
    have hnr : F.b.norecord = false := by rw [hFb]; rfl
    obtain ⟨hp', x3, hf, _⟩ := exitE_drop_filtered cfg hfix s2 F s.frames t1 oX s.pend W k3 k4.over hnr k4.en
      (by rw [effThreshold, if_pos k4.ftime, hFb]; exact hs.1) (by rw [hFb]; rfl) (by rw [hFb]; rfl) k2
      (by rw [hg.len]; exact hg.pend) (by rw [hg.len]; exact fun e he => (a8 e he).2.1) (by rw [hg.len]; exact hda)
    exact ⟨x3.trans k1, hp', hf, (k4.toB.exit k f t0 false hFb t1
      (exitE_ctl cfg s2 F s.frames t1 oX k3 k4.over hnr k4.en) (by rw [hf]; exact hg.len)
      (by rw [hf]; exact hg.noskip)).toT (by rw [hp']; exact hg.pend)⟩
theorem dropped_calls (cfg : ECfg) (hp : PlainT cfg) (hfix : cfg.fixIdx = true) (k : Kind) :
    ∀ (cs : ECalls) (s : ESt) (d : Nat), GoodT s d → d + cs.height ≤ cfg.base.maxStack →
      d + cs.height ≤ cfg.base.depthOpt → cs.short cfg.base cfg.base.threshold →
      (runECalls cfg k s cs).out = s.out ∧ (runECalls cfg k s cs).pend = s.pend ∧
      (runECalls cfg k s cs).frames = s.frames ∧ GoodT (runECalls cfg k s cs) d
  | .nil, s, d, hg, _, _, _ => by simp [runECalls, hg]
  | .cons c rest, s, d, hg, hm, hd, hs => by
    simp only [ECalls.height] at hm hd
    simp only [ECalls.short] at hs
    obtain ⟨c1, c2, c3, c4⟩ := dropped_call cfg hp hfix k c s d hg (room_cons hm).1 (room_cons hd).1 hs.1
    obtain ⟨r1, r2, r3, r4⟩ := dropped_calls cfg hp hfix k rest (runECall cfg k s c) d c4 (room_cons hm).2
      (room_cons hd).2 hs.2
    simp only [runECalls]
    exact ⟨by rw [r1, c1], by rw [r2, c2], by rw [r3, c3], r4⟩
end

end Uft.Events

import Uft.Lemmas.FstackTop
import Uft.Lemmas.FstackSim
/- C07, record time = replay time for option sets with trace_off triggers (-F / -N / -D and trace_off on
   functions that are not -N functions; no trace_on, no -t), for the code with the repair of finding
   F-C07-TRACEOFF-FLUSH.  Both times show the documented selection up to the first trace_off trigger that is
   reached (`offCalls`): the analysis loop (`offA_calls`, FstackSpec) because fstack_entry switches
   fstack_enabled off and nothing is shown afterwards; the hooks (here) because the pending ENTRY records of
   the open callers are written at the TRACE_OFF update — also when the function is itself rejected — and
   nothing is written afterwards. -/

namespace Uft.Fstack
open Uft.Mcount (Rec Trigger Call Calls evCall evCalls)

/-- the trigger table without the trace switches -/
def quietOf (c : RCfg) : RCfg :=
  { c with trig := fun g => { c.trig g with traceOn := false, traceOff := false } }

theorem trig_quietOf (c : RCfg) (f : Nat) (h1 : (c.trig f).traceOn = false) (h2 : (c.trig f).traceOff = false) :
    (quietOf c).trig f = c.trig f := by
  show ({ c.trig f with traceOn := false, traceOff := false } : Trigger) = c.trig f
  cases hc : c.trig f
  simp_all

end Uft.Fstack

/-! ## the record-time hooks -/
namespace Uft.Fstack
open Uft.Mcount

/-- record-time option sets made of -F, -N, -D and trace_off triggers (not on -N functions); no -t, no trace_on;
    regular build with the repairs of F4, S4 and F-C07-TRACEOFF-FLUSH -/
structure FNDoff (cfg : Cfg) : Prop where
  fast : cfg.fast = false
  fixd : cfg.f4fixed = true
  f7 : cfg.f7fixed = true
  s4 : cfg.s4fixed = true
  locIn : cfg.locIn = false
  caller : cfg.callerMode = false
  minSize : cfg.minSize = 0
  thr : cfg.threshold = 0
  en : cfg.enabled0 = true
  trig : ∀ f, cfg.trig f = { filter := (cfg.trig f).filter, traceOff := (cfg.trig f).traceOff }
  offN : ∀ f, (cfg.trig f).traceOff = true → (cfg.trig f).filter ≠ some false

/-- the same options without the trace_off triggers -/
def quietCfg (cfg : Cfg) : Cfg := { cfg with trig := fun g => { filter := (cfg.trig g).filter } }

theorem exit_quietCfg (cfg : Cfg) (s : St) (t : Nat) : exit (quietCfg cfg) s t = exit cfg s t := rfl

/-! ### while tracing is off (no trace_on trigger) the hooks write nothing -/

/-- tracing is off and nothing is owed: every recordable frame on the shadow stack is written -/
structure OffI (s : St) : Prop where
  en : s.enabled = false
  aw : Flush.AllWritten s.frames
  over : s.over = 0

theorem flushBelow_allWritten : ∀ (fs : List Frame), Flush.AllWritten fs → flushBelow fs = (fs, [])
  | [], _ => rfl
  | F :: r, h => by
    have hr : Flush.AllWritten r := fun G hG => h G (by simp [hG])
    simp only [flushBelow]
    by_cases hw : F.written = true
    · simp [hw]
    · have hs : F.skip = true := by
        cases hsk : F.skip with
        | true => rfl
        | false => exact absurd (h F (by simp) hsk) hw
      simp [hw, hs, flushBelow_allWritten r hr]

/-- record_trace_data skips a DISABLED innermost frame -/
theorem recordTrace_disabled_top (G : Frame) (rest : List Frame) (hw : G.written = false) (hd : G.disabled = true)
    (he : G.endT = 0) (hm : flushBelow rest = (rest, [])) : recordTrace (G :: rest) = (G :: rest, []) := by
  simp [recordTrace, hw, hm, Frame.skip, hd, he]

/-- mcount_entry_filter_record on a fresh frame while tracing is off and nothing is owed below it -/
theorem entryFilterRecord_off (cfg : Cfg) (hfast : cfg.fast = false) (s : St) (F : Frame) (rest : List Frame)
    (tr : Trigger) (hfin : tr.finish = false) (hfr : s.frames = F :: rest) (hen : s.enabled = false)
    (hw : F.written = false) (hend : F.endT = 0) (hm : flushBelow rest = (rest, [])) :
    (entryFilterRecord cfg s tr).out = s.out ∧ (entryFilterRecord cfg s tr).enabled = false ∧
    (entryFilterRecord cfg s tr).over = s.over ∧
    ∃ F', F'.written = false ∧ F'.skip = true ∧ F'.addr = F.addr ∧
      (entryFilterRecord cfg s tr).frames = F' :: rest := by
  unfold entryFilterRecord
  simp only [hfr, hfast, hfin, Bool.false_eq_true, ↓reduceIte, hen, Bool.not_false, Bool.true_and, Bool.or_true]
  split
  · rename_i hnr
    refine ⟨rfl, rfl, rfl, _, ?_, ?_, ?_, rfl⟩
    · exact hw
    · simp only [Frame.skip]
      rw [hnr]
      rfl
    · rfl
  · split
    · rw [recordTrace_disabled_top _ rest ?_ ?_ ?_ hm]
      · refine ⟨by simp, rfl, rfl, _, ?_, ?_, ?_, rfl⟩
        · exact hw
        · simp [Frame.skip]
        · rfl
      · exact hw
      · rfl
      · exact hend
    · refine ⟨by simp, rfl, rfl, _, ?_, ?_, ?_, rfl⟩
      · exact hw
      · simp [Frame.skip]
      · rfl

/-- mcount_entry_filter_check while tracing is off -/
theorem check_off (cfg : Cfg) (hfast : cfg.fast = false) (hno : ∀ f, (cfg.trig f).traceOn = false)
    (hfin : ∀ f, (cfg.trig f).finish = false) (s : St) (f : Nat) (hen : s.enabled = false)
    (hidx : s.idx < cfg.maxStack) :
    (entryFilterCheck cfg s f).1 ≠ .rstack ∧ (entryFilterCheck cfg s f).2.2.finish = false ∧
    (entryFilterCheck cfg s f).2.1.frames = s.frames ∧ (entryFilterCheck cfg s f).2.1.out = s.out ∧
    (entryFilterCheck cfg s f).2.1.enabled = false ∧ (entryFilterCheck cfg s f).2.1.over = s.over := by
  have hidx' : ¬ (s.idx ≥ cfg.maxStack) := by omega
  have hte : trigEnabled (cfg.trig f) false = false := by simp [trigEnabled, hno f]
  have hfl : ∀ s' : St, s'.enabled = false → traceOffFlush cfg s' (cfg.trig f) = s' :=
    fun s' h => traceOffFlush_disabled cfg s' _ (hno f) h
  unfold entryFilterCheck checkRstack
  simp only [hidx', ↓reduceIte, hfast, Bool.false_eq_true]
  split
  · exact ⟨by simp, rfl, rfl, rfl, hen, rfl⟩
  · split
    · exact ⟨by simp, hfin f, rfl, rfl, hen, rfl⟩
    · rw [hfl { s with warned := false } hen]
      simp only [hen, hte]
      split
      · exact ⟨by simp, hfin f, rfl, rfl, rfl, rfl⟩
      · exact ⟨by simp, hfin f, rfl, rfl, rfl, rfl⟩

/-- the entry hook after a check that left tracing off with nothing owed: nothing is written, and the frame
    that may be pushed is one the lazy writer skips -/
theorem entry_check_off (cfg : Cfg) (hfast : cfg.fast = false) (k : Kind) (s : St) (f t0 : Nat) (v : FR) (s1 : St)
    (tr : Trigger) (hc : entryFilterCheck cfg s f = (v, s1, tr)) (hv : v ≠ .rstack) (hfin : tr.finish = false)
    (hen : s1.enabled = false) (hm : flushBelow s1.frames = (s1.frames, [])) :
    (entry cfg k s f t0).1.out = s1.out ∧ (entry cfg k s f t0).1.enabled = false ∧
    (entry cfg k s f t0).1.over = s1.over ∧
    (((entry cfg k s f t0).2 = false ∧ (entry cfg k s f t0).1.frames = s1.frames) ∨
     ((entry cfg k s f t0).2 = true ∧ ∃ F : Frame, F.written = false ∧ F.skip = true ∧ F.addr = f ∧
        (entry cfg k s f t0).1.frames = F :: s1.frames)) := by
  unfold entry
  rw [hc]
  have hvr : (v == FR.rstack) = false := by cases v <;> simp_all
  have hpush := fun (F0 : Frame) (hw : F0.written = false) (he : F0.endT = 0) =>
    entryFilterRecord_off cfg hfast { s1 with frames := F0 :: s1.frames } F0 s1.frames tr hfin rfl hen hw he hm
  cases k with
  | pg =>
    simp only [hvr, Bool.false_or]
    split
    · exact ⟨rfl, hen, rfl, Or.inl ⟨rfl, rfl⟩⟩
    · obtain ⟨o, e, ov, hF⟩ := hpush { addr := f, start := t0, depth := s1.recordIdx, norecord := v != FR.in_ } rfl rfl
      exact ⟨o, e, ov, Or.inr ⟨rfl, hF⟩⟩
  | cyg =>
    simp only [hvr, Bool.false_eq_true, ↓reduceIte]
    obtain ⟨o, e, ov, hF⟩ := hpush
      { addr := f, start := if (v == FR.in_) = true then t0 else 0, depth := s1.recordIdx, cyg := true,
        norecord := !(v == FR.in_) } rfl rfl
    exact ⟨o, e, ov, Or.inr ⟨trivial, hF⟩⟩

theorem exit_off (cfg : Cfg) (hfast : cfg.fast = false) (s : St) (t : Nat) (ho : OffI s) :
    (exit cfg s t).out = s.out ∧ OffI (exit cfg s t) ∧ (exit cfg s t).frames = s.frames.tail := by
  cases hfr : s.frames with
  | nil =>
    have hx : exit cfg s t = s := by simp [exit, ho.over, hfr]
    rw [hx, hfr]
    exact ⟨rfl, ho, rfl⟩
  | cons F rest =>
    have hrec : exitRecords cfg s { F with endT := t } = false := by simp [exitRecords, ho.en]
    have haw : Flush.AllWritten rest := fun G hG => ho.aw G (by simp [hfr, hG])
    rw [exit_cons cfg hfast s ho.over F rest hfr, hrec]
    exact ⟨rfl, ⟨ho.en, haw, ho.over⟩, rfl⟩

/-- one call whose entry hook finds tracing off, with nothing owed, after its check (`s1`), given that its callees
    write nothing while tracing is off: nothing is written and the shadow stack is `s1`'s again -/
theorem off_node (cfg : Cfg) (hfast : cfg.fast = false) (k : Kind) (f t0 t1 : Nat) (kids : Calls) (s : St) (v : FR)
    (s1 : St) (tr : Trigger) (hc : entryFilterCheck cfg s f = (v, s1, tr)) (hv : v ≠ .rstack) (hfin : tr.finish = false)
    (ho : OffI s1) (hh : s1.frames.length + 1 + kids.height ≤ cfg.maxStack)
    (ih : ∀ s' : St, OffI s' → s'.frames.length + kids.height ≤ cfg.maxStack →
      (runCalls cfg k s' kids).out = s'.out ∧ OffI (runCalls cfg k s' kids) ∧ (runCalls cfg k s' kids).frames = s'.frames) :
    (runCall cfg k s (.node f t0 t1 kids)).out = s1.out ∧ OffI (runCall cfg k s (.node f t0 t1 kids)) ∧
    (runCall cfg k s (.node f t0 t1 kids)).frames = s1.frames := by
  obtain ⟨eo, e, ov, sh⟩ := entry_check_off cfg hfast k s f t0 v s1 tr hc hv hfin ho.en (flushBelow_allWritten _ ho.aw)
  simp only [runCall]
  rcases sh with ⟨e2, ef⟩ | ⟨e2, F, _, hs, _, ef⟩
  · obtain ⟨ko, ki, kf⟩ := ih _ ⟨e, by rw [ef]; exact ho.aw, by rw [ov]; exact ho.over⟩ (by rw [ef]; omega)
    simp only [e2, Bool.false_eq_true, ↓reduceIte]
    exact ⟨by rw [ko, eo], ki, by rw [kf, ef]⟩
  · -- the pushed frame is one the lazy writer skips
    have haw : Flush.AllWritten (F :: s1.frames) := by
      intro G hG hsk
      simp only [List.mem_cons] at hG
      rcases hG with rfl | hG
      · rw [hs] at hsk
        exact absurd hsk (by decide)
      · exact ho.aw G hG hsk
    obtain ⟨ko, ki, kf⟩ := ih _ ⟨e, by rw [ef]; exact haw, by rw [ov]; exact ho.over⟩ (by rw [ef]; simp; omega)
    obtain ⟨xo, xi, xf⟩ := exit_off cfg hfast _ t1 ki
    simp only [e2, ↓reduceIte]
    exact ⟨by rw [xo, ko, eo], xi, by rw [xf, kf, ef]; rfl⟩

mutual
theorem off_call (cfg : Cfg) (hfast : cfg.fast = false) (hno : ∀ f, (cfg.trig f).traceOn = false)
    (hfin : ∀ f, (cfg.trig f).finish = false) (k : Kind) : ∀ (x : Call) (s : St), OffI s →
    s.frames.length + x.height ≤ cfg.maxStack →
    (runCall cfg k s x).out = s.out ∧ OffI (runCall cfg k s x) ∧ (runCall cfg k s x).frames = s.frames
  | .node f t0 t1 kids, s, ho, hh => by
    simp only [Call.height] at hh
    have hidx : s.idx < cfg.maxStack := by simp [St.idx, ho.over]; omega
    obtain ⟨c1, c2, c3, c4, c5, c6⟩ := check_off cfg hfast hno hfin s f ho.en hidx
    have hn := off_node cfg hfast k f t0 t1 kids s (entryFilterCheck cfg s f).1 (entryFilterCheck cfg s f).2.1
      (entryFilterCheck cfg s f).2.2 rfl c1 c2 ⟨c5, by rw [c3]; exact ho.aw, by rw [c6, ho.over]⟩
      (by rw [c3]; omega) (off_calls cfg hfast hno hfin k kids)
    rw [c3, c4] at hn
    exact hn
theorem off_calls (cfg : Cfg) (hfast : cfg.fast = false) (hno : ∀ f, (cfg.trig f).traceOn = false)
    (hfin : ∀ f, (cfg.trig f).finish = false) (k : Kind) : ∀ (xs : Calls) (s : St), OffI s →
    s.frames.length + xs.height ≤ cfg.maxStack →
    (runCalls cfg k s xs).out = s.out ∧ OffI (runCalls cfg k s xs) ∧ (runCalls cfg k s xs).frames = s.frames
  | .nil, s, ho, _ => ⟨rfl, ho, rfl⟩
  | .cons x rest, s, ho, hh => by
    simp only [Calls.height] at hh
    obtain ⟨xo, xi, xf⟩ := off_call cfg hfast hno hfin k x s ho (by omega)
    obtain ⟨ro, ri, rf⟩ := off_calls cfg hfast hno hfin k rest _ xi (by rw [xf]; omega)
    simp only [runCalls]
    exact ⟨by rw [ro, xo], ri, by rw [rf, xf]⟩
end

/-! ### the entry hook of a function whose trace_off trigger is reached while tracing is on -/

/-- mcount_entry_filter_check of the repaired code for a function whose trace_off trigger is reached (not inside
    a -N region, not rejected before the TRACE_OFF update) while tracing is on: whatever the verdict, the pending
    ENTRY records of the open callers are written and tracing is off -/
theorem check_traceoff (cfg : Cfg) (hfix : cfg.f7fixed = true) (hfast : cfg.fast = false) (s : St) (f : Nat)
    (hidx : s.idx < cfg.maxStack) (hout : s.filt.outCount = 0)
    (hearly : earlyOut cfg (cfg.trig f) (saveFilt s.filt) = false)
    (hoff : (cfg.trig f).traceOff = true) (hen : s.enabled = true) (hop : Flush.Open s.frames) :
    ∃ (v : FR) (flt : Filt), v ≠ .rstack ∧
      (v = .out ↔ (trigFilt (cfg.trig f) (matchFilt (cfg.trig f) (saveFilt s.filt))).depth ≥
                    depthLimit cfg (cfg.trig f) (saveFilt s.filt)) ∧
      entryFilterCheck cfg s f =
        (v, { s with warned := false, filt := flt, enabled := false, frames := mark s.frames,
                     out := s.out ++ pend s.frames }, cfg.trig f) := by
  have hidx' : ¬ (s.idx ≥ cfg.maxStack) := by omega
  have hrt : recordTrace s.frames = (mark s.frames, pend s.frames) := recordTrace_of_open s.frames hop
  have hso : ¬ ((saveFilt s.filt).outCount > 0) := by simp [saveFilt, hout]
  have hfl : traceOffFlush cfg { s with warned := false } (cfg.trig f) =
      { s with warned := false, frames := mark s.frames, out := s.out ++ pend s.frames } := by
    simp [traceOffFlush, hfix, hoff, hen, hrt]
  have hte : trigEnabled (cfg.trig f) s.enabled = false := by simp [trigEnabled, hoff]
  unfold entryFilterCheck checkRstack
  simp only [hidx', ↓reduceIte, hfast, Bool.false_eq_true, hso, hearly, hfl, hte]
  by_cases hd : (trigFilt (cfg.trig f) (matchFilt (cfg.trig f) (saveFilt s.filt))).depth ≥
      depthLimit cfg (cfg.trig f) (saveFilt s.filt)
  · simp only [hd, ↓reduceIte]
    exact ⟨.out, _, by decide, by simp, rfl⟩
  · simp only [hd, ↓reduceIte]
    exact ⟨.in_, _, by decide, by simp, rfl⟩

/-- the entry hook of the repaired code for a function whose trace_off trigger is reached while tracing is on —
    accepted or rejected by the filters, -pg / -mfentry or -finstrument-functions: the pending ENTRY records of
    the open callers are written (`pend`), nothing else; the callers' frames are marked (`mark`); tracing is off -/
theorem entry_traceoff (cfg : Cfg) (hfix : cfg.f7fixed = true) (hfast : cfg.fast = false) (k : Kind) (s : St)
    (f t0 : Nat) (hidx : s.idx < cfg.maxStack) (hout : s.filt.outCount = 0)
    (hearly : earlyOut cfg (cfg.trig f) (saveFilt s.filt) = false)
    (hoff : (cfg.trig f).traceOff = true) (hfin : (cfg.trig f).finish = false)
    (hen : s.enabled = true) (hop : Flush.Open s.frames) :
    (entry cfg k s f t0).1.out = s.out ++ pend s.frames ∧
    (entry cfg k s f t0).1.enabled = false ∧
    ((entry cfg k s f t0).1.frames = mark s.frames ∨
     ∃ F : Frame, F.written = false ∧ F.addr = f ∧ (entry cfg k s f t0).1.frames = F :: mark s.frames) := by
  obtain ⟨v, flt, hv, _, hc⟩ := check_traceoff cfg hfix hfast s f hidx hout hearly hoff hen hop
  obtain ⟨o, e, _, sh⟩ := entry_check_off cfg hfast k s f t0 v _ _ hc hv hfin rfl (flushBelow_idem s.frames)
  refine ⟨o, e, ?_⟩
  rcases sh with ⟨_, hf⟩ | ⟨_, F, hw, _, ha, hf⟩
  · exact Or.inl hf
  · exact Or.inr ⟨F, hw, ha, hf⟩

/-! ### the recorded stream of a forest, up to the first trace_off trigger that is reached -/

theorem fnoff_nofinish (cfg : Cfg) (h : FNDoff cfg) (f : Nat) : (cfg.trig f).finish = false := by
  rw [h.trig f]

theorem fnoff_noon (cfg : Cfg) (h : FNDoff cfg) (f : Nat) : (cfg.trig f).traceOn = false := by
  rw [h.trig f]

/-- under the correspondence of filter state and environment, the specification's `fires` is the hooks' -/
theorem fires_iff (cfg : Cfg) (h : FNDoff cfg) (s : St) (E : Env) (d : Nat) (hr : RRel cfg s E d) (f : Nat) :
    fires (RCfg.ofRecord cfg) E f = true ↔ firesR cfg s f := by
  have htr := h.trig f
  have hN := h.offN f
  unfold fires firesR earlyOut
  show (((cfg.trig f).traceOff && decide (E.outC = 0) && !((cfg.trig f).filter == some false) &&
      !(!((cfg.trig f).filter == some true) && cfg.optIn && decide (E.inC = 0)) &&
      !locReject (RCfg.ofRecord cfg) (cfg.trig f)) = true) ↔ _
  have hloc : locReject (RCfg.ofRecord cfg) (cfg.trig f) = false := by
    rw [htr]; simp [locReject, RCfg.ofRecord, h.locIn]
  have hl2 : (cfg.trig f).loc = none := by rw [htr]
  rw [hloc, hl2]
  simp only [saveFilt, hr.inC, hr.outC, h.locIn, Bool.or_false, Bool.not_false, Bool.and_true]
  cases hb : (cfg.trig f).traceOff with
  | false => simp
  | true =>
    have hne := hN hb
    rcases hm : (cfg.trig f).filter with _ | (_ | _)
    · simp
      intro _
      cases cfg.optIn <;> simp
    · exact absurd hm hne
    · simp

/-- tracing went off: everything owed was written at that point, nothing since -/
def OffPost (s s' : St) (recs : List Rec) : Prop :=
  s'.out = s.out ++ pend s.frames ++ recs ∧ OffI s' ∧ s'.frames.length = s.frames.length

mutual
theorem offR_call (cfg : Cfg) (h : FNDoff cfg) (k : Kind) : ∀ (x : Call) (s : St) (E : Env) (d : Nat),
    RRel cfg s E d → Flush.Inv s → s.frames.length + x.height ≤ cfg.maxStack → x.ended →
    ((offCall (RCfg.ofRecord cfg) E d x).2 = true →
      OnPost cfg s (runCall cfg k s x) E d (offCall (RCfg.ofRecord cfg) E d x).1) ∧
    ((offCall (RCfg.ofRecord cfg) E d x).2 = false →
      OffPost s (runCall cfg k s x) (offCall (RCfg.ofRecord cfg) E d x).1)
  | .node f t0 t1 kids, s, E, d, hr, hinv, hh, he => by
    simp only [Call.height] at hh
    simp only [Call.ended] at he
    have hlen : s.frames.length < cfg.maxStack := by omega
    have ht1 := he.1
    have ih := fun (s1 : St) (E1 : Env) (d1 : Nat) (hr1 : RRel cfg s1 E1 d1) (hi1 : Flush.Inv s1)
        (hl : s1.frames.length ≤ s.frames.length + 1) =>
      offR_calls cfg h k kids s1 E1 d1 hr1 hi1 (by omega) he.2
    have hfi := fires_iff cfg h s E d hr f
    by_cases hf : fires (RCfg.ofRecord cfg) E f = true
    · -- the trace_off trigger of f is reached
      obtain ⟨hoff, hout, hearly⟩ := hfi.mp hf
      have hidx : s.idx < cfg.maxStack := by simp [St.idx, hr.over]; exact hlen
      obtain ⟨v, flt, hv, _, hc⟩ := check_traceoff cfg h.f7 h.fast s f hidx hout hearly hoff hr.en hinv.2
      obtain ⟨no, ni, nf⟩ := off_node cfg h.fast k f t0 t1 kids s _ _ _ hc hv (fnoff_nofinish cfg h f)
        ⟨rfl, Flush.mark_allWritten _ hinv.1, hr.over⟩ (by rw [mark_length]; omega)
        (off_calls cfg h.fast (fnoff_noon cfg h) (fnoff_nofinish cfg h) k kids)
      simp only [offCall, hf, ↓reduceIte]
      refine ⟨fun hx => absurd hx (by decide), fun _ => ⟨?_, ni, ?_⟩⟩
      · rw [no]
        simp
      · rw [nf]
        exact mark_length _
    · -- not reached: the hooks behave as without the trigger
      have hf' : fires (RCfg.ofRecord cfg) E f = false := by simpa using hf
      obtain ⟨eo, erel, hp⟩ := entry_fnd cfg h.fast h.fixd h.locIn k s E d f t0 (h.trig f)
        (fun hx => hf (hfi.mpr hx)) hr hlen
      simp only [offCall, hf', Bool.false_eq_true, ↓reduceIte]
      generalize visit (RCfg.ofRecord cfg) E f = v at erel hp
      obtain ⟨vis, Ek⟩ := v
      simp only at erel hp ⊢
      obtain ⟨kon, koff⟩ := ih (entry cfg k s f t0).1 Ek (if vis then d + 1 else d) erel
        (Flush.inv_entry cfg k s f t0 hinv) hp.length
      cases hrk : (offCalls (RCfg.ofRecord cfg) Ek (if vis then d + 1 else d) kids).2 with
      | true =>
        -- the callees leave tracing on; without -t every call ran long enough
        have hdur : durOk cfg (t1 - t0) cfg.threshold = true := by
          rw [h.thr]
          exact durOk_fixed cfg h.s4 _
        have hon := node_on cfg h.fast h.caller h.fixd (fnoff_nofinish cfg h) k f t0 t1 kids s E Ek d vis _ hr ht1 eo hp
          (kon hrk)
          (fun hd => absurd (hdur.symm.trans hd) (by decide))
        rw [hdur] at hon
        cases vis
        · simp only [Bool.false_eq_true, ↓reduceIte] at hrk hon ⊢
          exact ⟨fun _ => hon, fun hx => absurd (hrk.symm.trans hx) (by decide)⟩
        · simp only [↓reduceIte] at hon ⊢
          exact ⟨fun _ => hon, fun hx => absurd hx (by decide)⟩
      | false =>
        -- tracing goes off in a callee
        obtain ⟨ko, ki, kl⟩ := koff hrk
        unfold Pushed at hp
        simp only [runCall]
        generalize (entry cfg k s f t0).1 = s1 at eo hp ko ki kl ⊢
        generalize (entry cfg k s f t0).2 = took at hp ⊢
        generalize runCalls cfg k s1 kids = s2 at ko ki kl ⊢
        rcases hp with ⟨htk, F, hfr, hnr, hw, hdis, htrc, haddr, hdep, hstart⟩ | ⟨htk, hfr, hvis⟩
        · subst htk
          obtain ⟨xo, xi, xf⟩ := exit_off cfg h.fast s2 t1 ki
          have hlen2 : (exit cfg s2 t1).frames.length = s.frames.length := by
            rw [xf]; simp only [List.length_tail, kl, hfr, List.length_cons]; omega
          cases vis with
          | false =>
            simp only [Bool.not_false] at hnr
            obtain ⟨p1, p2⟩ := pend_cons_skip F s.frames hw hnr
            simp only [Bool.false_eq_true, ↓reduceIte] at ko hrk ⊢
            refine ⟨fun hx => absurd hx (by simp [hrk]), fun _ => ?_⟩
            exact ⟨by rw [xo, ko, eo, hfr, p1], xi, hlen2⟩
          | true =>
            simp only [Bool.not_true] at hnr
            obtain ⟨p1, p2⟩ := pend_cons_vis F s.frames hw hnr hdis
            have hER : entryRec F = { time := t0, type := 0, depth := d, addr := f } := by
              simp [entryRec, hstart rfl, hdep, haddr]
            simp only [↓reduceIte] at ko hrk ⊢
            refine ⟨fun hx => absurd hx (by simp), fun _ => ?_⟩
            refine ⟨?_, xi, hlen2⟩
            rw [xo, ko, eo, hfr, p1, hER]
            simp [List.append_assoc]
        · -- -pg hook that did not take the call: no frame, nothing to undo
          subst htk
          subst hvis
          simp only [Bool.false_eq_true, ↓reduceIte] at ko hrk ⊢
          refine ⟨fun hx => absurd (hrk.symm.trans hx) (by decide), fun _ => ?_⟩
          exact ⟨by rw [ko, eo, hfr], ki, by rw [kl, hfr]⟩
theorem offR_calls (cfg : Cfg) (h : FNDoff cfg) (k : Kind) : ∀ (xs : Calls) (s : St) (E : Env) (d : Nat),
    RRel cfg s E d → Flush.Inv s → s.frames.length + xs.height ≤ cfg.maxStack → xs.ended →
    ((offCalls (RCfg.ofRecord cfg) E d xs).2 = true →
      OnPost cfg s (runCalls cfg k s xs) E d (offCalls (RCfg.ofRecord cfg) E d xs).1) ∧
    ((offCalls (RCfg.ofRecord cfg) E d xs).2 = false →
      OffPost s (runCalls cfg k s xs) (offCalls (RCfg.ofRecord cfg) E d xs).1)
  | .nil, s, E, d, hr, _, _, _ => by
    refine ⟨fun _ => ?_, fun hx => absurd hx (by simp [offCalls])⟩
    simp [OnPost, offCalls, runCalls, hr]
  | .cons x rest, s, E, d, hr, hinv, hh, he => by
    simp only [Calls.height] at hh
    simp only [Calls.ended] at he
    obtain ⟨xon, xoff⟩ := offR_call cfg h k x s E d hr hinv (by omega) he.1
    simp only [runCalls, offCalls]
    cases hx : (offCall (RCfg.ofRecord cfg) E d x).2 with
    | true =>
      have hxon := xon hx
      obtain ⟨ron, roff⟩ := offR_calls cfg h k rest (runCall cfg k s x) E d hxon.2.2 (Flush.inv_runCall cfg k x s hinv)
        (by rw [hxon.length]; omega) he.2
      simp only [↓reduceIte]
      refine ⟨fun hb => hxon.append (ron hb), fun hb => ?_⟩
      obtain ⟨ro, ri, rl⟩ := roff hb
      refine ⟨?_, ri, by rw [rl, hxon.length]⟩
      rw [ro, hxon.1, hxon.2.1]
      by_cases hxe : (offCall (RCfg.ofRecord cfg) E d x).1 = []
      · simp [hxe]
      · simp [hxe, pend_mark, List.append_assoc]
    | false =>
      obtain ⟨xo, xi, xl⟩ := xoff hx
      obtain ⟨ro, ri, rf⟩ := off_calls cfg h.fast (fnoff_noon cfg h) (fnoff_nofinish cfg h) k rest _ xi
        (by rw [xl]; omega)
      simp only [Bool.false_eq_true, ↓reduceIte, hx]
      refine ⟨fun hb => absurd hb (by decide), fun _ => ?_⟩
      exact ⟨by rw [ro, xo], ri, by rw [rf, xl]⟩
end

/-- C07, record side with trace_off triggers: what the hooks write for a forest under -F / -N / -D and
    trace_off triggers is the documented selection up to the first trace_off trigger that is reached -/
theorem record_out_off (cfg : Cfg) (h : FNDoff cfg) (k : Kind) (cs : Calls) (hh : cs.height ≤ cfg.maxStack)
    (he : cs.ended) :
    (runCalls cfg k (St.init cfg) cs).out =
      (offCalls (RCfg.ofRecord cfg) (Env.init (RCfg.ofRecord cfg)) 0 cs).1 := by
  obtain ⟨on, off⟩ := offR_calls cfg h k cs (St.init cfg) (Env.init (RCfg.ofRecord cfg)) 0
    (rrel_init cfg h.minSize h.en) (Flush.inv_init cfg)
    (by simp [St.init]; exact hh) he
  cases hb : (offCalls (RCfg.ofRecord cfg) (Env.init (RCfg.ofRecord cfg)) 0 cs).2 with
  | true =>
    obtain ⟨o, _, _⟩ := on hb
    rw [o]; simp [St.init, pend, flushBelow]
  | false =>
    obtain ⟨o, _, _⟩ := off hb
    rw [o]; simp [St.init, pend, flushBelow]

end Uft.Fstack

/-! ## both times -/
namespace Uft.Fstack
open Uft.Mcount (Rec Trigger Call Calls evCall evCalls)

/-- C07, replay side with trace_off triggers (no trace_on, no time filter of any kind): every command shows the
    documented selection up to the first trace_off trigger that is reached -/
theorem replay_out_off (c : RCfg) (hnl : c.noLibcall = false) (hr : NoRange c) (hen : c.enabled0 = true)
    (hno : NoOn c) (hnt : NoTimeFilter c) (xs : Calls) (ho : Calls.ordered xs) (cmd : Cmd) :
    cmdOut c cmd (evCalls 0 xs) = (offCalls c (Env.init c) 0 xs).1 := by
  rw [cmdOut_stepA c hnl hr xs ho cmd, lookahead_forest c hr xs ho, hnt.1, prune_id_calls c hnt,
    stepA_forest_off c hnl hr hen hno]

end Uft.Fstack

namespace Uft.Fstack
open Uft.Mcount

mutual
theorem ended_of_nestOK : ∀ (x : Call), Call.nestOK x → x.ended
  | .node _ _ _ kids, h => by
    simp only [Call.nestOK] at h
    simp only [Call.ended]
    exact ⟨h.2.1, ended_of_allDurLe kids _ h.2.2⟩
theorem ended_of_allDurLe : ∀ (xs : Calls) (n : Nat), Calls.allDurLe n xs → xs.ended
  | .nil, _, _ => trivial
  | .cons x rest, n, h => by
    simp only [Calls.allDurLe] at h
    simp only [Calls.ended]
    exact ⟨ended_of_nestOK x h.2.1, ended_of_allDurLe rest n h.2.2⟩
end

/-- record time = replay time for -F / -N / -D with trace_off triggers -/
theorem record_eq_replay_off (cfg : Cfg) (h : FNDoff cfg) (k : Kind) (cs : Calls) (n : Nat)
    (hh : cs.height ≤ cfg.maxStack) (hn : Calls.allDurLe n cs) (cmd : Cmd) :
    (runCalls cfg k (St.init cfg) cs).out = cmdOut (RCfg.ofRecord cfg) cmd (evCalls 0 cs) := by
  have hno : NoOn (RCfg.ofRecord cfg) := fun f => fnoff_noon cfg h f
  have hnt : NoTimeFilter (RCfg.ofRecord cfg) :=
    ⟨h.thr, h.caller, fun f => by show (cfg.trig f).time = none; rw [h.trig f]⟩
  rw [record_out_off cfg h k cs hh (ended_of_allDurLe cs n hn),
    replay_out_off (RCfg.ofRecord cfg) rfl ⟨rfl, rfl⟩ h.en hno hnt cs (ordered_of_allDurLe cs n hn) cmd]

end Uft.Fstack

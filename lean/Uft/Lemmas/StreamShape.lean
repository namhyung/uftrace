/-
C02 — shape of the eager trace `evCalls`: an independent stack-machine checker
(nesting, matching addresses, depth = number of open calls) accepts it, and its
time stamps never decrease when the clock readings of the execution do not.
These are facts about the specification side; `c02_emit_exact` transfers them to
what the hooks write.
-/
import Uft.Model.CallTree
import Uft.Lemmas.McountOverflow
namespace Uft.Mcount

/-- Independent checker of a record stream: a stack of the addresses of the open
    calls.  ENTRY must carry depth = number of open calls; EXIT must close the
    innermost open call (same address) and carry the depth it was opened at. -/
def nestStep : Option (List Nat) → Rec → Option (List Nat)
  | none, _ => none
  | some st, r =>
    if r.type = 0 then (if r.depth = st.length then some (r.addr :: st) else none)
    else if r.type = 1 then
      match st with
      | a :: rest => if a = r.addr ∧ r.depth = rest.length then some rest else none
      | [] => none
    else none

def nestRun (st : Option (List Nat)) (rs : List Rec) : Option (List Nat) := rs.foldl nestStep st

/-- the stream is a well-nested sequence of ENTRY/EXIT records that closes every call -/
def WellNested (rs : List Rec) : Prop := nestRun (some []) rs = some []

instance (rs : List Rec) : Decidable (WellNested rs) := by unfold WellNested; infer_instance

/-- the stream is a prefix of a well-nested one: the checker never rejects; `open` are the
    addresses of the calls still open, innermost first -/
def NestedPrefix (rs : List Rec) (opened : List Nat) : Prop := nestRun (some []) rs = some opened

theorem nestRun_append (st : Option (List Nat)) (a b : List Rec) :
    nestRun st (a ++ b) = nestRun (nestRun st a) b := by
  simp [nestRun, List.foldl_append]

theorem nestRun_wrap (st : List Nat) (f t0 t1 : Nat) (mid : List Rec)
    (h : nestRun (some (f :: st)) mid = some (f :: st)) :
    nestRun (some st) ([{ time := t0, type := 0, depth := st.length, addr := f }] ++ mid ++
      [{ time := t1, type := 1, depth := st.length, addr := f }]) = some st := by
  have h1 : nestRun (some st) [{ time := t0, type := 0, depth := st.length, addr := f }] = some (f :: st) := by
    simp [nestRun, nestStep]
  rw [nestRun_append, nestRun_append, h1, h]
  simp [nestRun, nestStep]

mutual
theorem nest_evCall : ∀ (c : Call) (st : List Nat),
    nestRun (some st) (evCall st.length c) = some st
  | .node f t0 t1 kids, st => nestRun_wrap st f t0 t1 _ (nest_evCalls kids (f :: st))
theorem nest_evCalls : ∀ (cs : Calls) (st : List Nat),
    nestRun (some st) (evCalls st.length cs) = some st
  | .nil, st => by simp [evCalls, nestRun]
  | .cons c rest, st => by
    simp only [evCalls, nestRun_append]
    rw [nest_evCall c st, nest_evCalls rest st]
end

mutual
theorem nest_evCallB : ∀ (c : Call) (st : List Nat) (b : Nat),
    nestRun (some st) (evCallB st.length b c) = some st
  | .node f t0 t1 kids, st, b => by
    by_cases hb : b = 0
    · simp [evCallB, hb, nestRun]
    · simp only [evCallB, hb, ↓reduceIte]
      exact nestRun_wrap st f t0 t1 _ (nest_evCallsB kids (f :: st) (b - 1))
theorem nest_evCallsB : ∀ (cs : Calls) (st : List Nat) (b : Nat),
    nestRun (some st) (evCallsB st.length b cs) = some st
  | .nil, st, _ => by simp [evCallsB, nestRun]
  | .cons c rest, st, b => by
    simp only [evCallsB, nestRun_append]
    rw [nest_evCallB c st b, nest_evCallsB rest st b]
end

theorem evCalls_wellNested (cs : Calls) : WellNested (evCalls 0 cs) := nest_evCalls cs []

/-- time stamps never decrease, starting from the reading `lo` -/
def TimeMono : Nat → List Rec → Prop
  | _, [] => True
  | lo, r :: rs => lo ≤ r.time ∧ TimeMono r.time rs

def lastTime : Nat → List Rec → Nat
  | lo, [] => lo
  | _, r :: rs => lastTime r.time rs

theorem timeMono_append : ∀ (a b : List Rec) (lo : Nat),
    TimeMono lo (a ++ b) ↔ TimeMono lo a ∧ TimeMono (lastTime lo a) b
  | [], b, lo => by simp [TimeMono, lastTime]
  | r :: a, b, lo => by simp [TimeMono, lastTime, timeMono_append a b r.time, and_assoc]

theorem lastTime_append : ∀ (a b : List Rec) (lo : Nat), lastTime lo (a ++ b) = lastTime (lastTime lo a) b
  | [], b, lo => by simp [lastTime]
  | r :: a, b, lo => by simp [lastTime, lastTime_append a b r.time]

theorem timeMono_lower : ∀ (rs : List Rec) (lo : Nat), TimeMono lo rs → ∀ r ∈ rs, lo ≤ r.time
  | [], _, _ => by simp
  | x :: rs, lo, h => by
    intro r hr
    simp only [TimeMono] at h
    rcases List.mem_cons.mp hr with rfl | hr
    · exact h.1
    · exact Nat.le_trans h.1 (timeMono_lower rs x.time h.2 r hr)

theorem timeMono_pairwise : ∀ (rs : List Rec) (lo : Nat), TimeMono lo rs →
    rs.Pairwise (fun a b => a.time ≤ b.time)
  | [], _, _ => List.Pairwise.nil
  | x :: rs, lo, h => by
    simp only [TimeMono] at h
    exact List.Pairwise.cons (timeMono_lower rs x.time h.2) (timeMono_pairwise rs x.time h.2)

def Call.t1 : Call → Nat
  | .node _ _ t1 _ => t1

mutual
  /-- the last clock reading of a forest executed after the reading `lo` -/
  def Calls.lastT (lo : Nat) : Calls → Nat
    | .nil => lo
    | .cons c rest => rest.lastT c.t1
end

mutual
  /-- the clock readings taken by the hooks along the execution never decrease
      (`lo` = the reading before): what CLOCK_MONOTONIC guarantees -/
  def Call.clocked (lo : Nat) : Call → Prop
    | .node _ t0 t1 kids => lo ≤ t0 ∧ kids.clocked t0 ∧ kids.lastT t0 ≤ t1
  def Calls.clocked (lo : Nat) : Calls → Prop
    | .nil => True
    | .cons c rest => c.clocked lo ∧ rest.clocked c.t1
end

mutual
theorem time_evCall : ∀ (c : Call) (d lo : Nat), c.clocked lo →
    TimeMono lo (evCall d c) ∧ lastTime lo (evCall d c) = c.t1
  | .node f t0 t1 kids, d, lo, h => by
    simp only [Call.clocked] at h
    obtain ⟨k1, k2⟩ := time_evCalls kids (d + 1) t0 h.2.1
    simp only [evCall, Call.t1]
    refine ⟨?_, ?_⟩
    · rw [timeMono_append, timeMono_append]
      refine ⟨⟨by simp [TimeMono, h.1], by simpa [lastTime] using k1⟩, ?_⟩
      rw [lastTime_append]
      simp only [lastTime, TimeMono, and_true]
      rw [k2]; exact h.2.2
    · rw [lastTime_append]; simp [lastTime]
theorem time_evCalls : ∀ (cs : Calls) (d lo : Nat), cs.clocked lo →
    TimeMono lo (evCalls d cs) ∧ lastTime lo (evCalls d cs) = cs.lastT lo
  | .nil, d, lo, _ => by simp [evCalls, TimeMono, lastTime, Calls.lastT]
  | .cons c rest, d, lo, h => by
    simp only [Calls.clocked] at h
    obtain ⟨c1, c2⟩ := time_evCall c d lo h.1
    obtain ⟨r1, r2⟩ := time_evCalls rest d c.t1 h.2
    simp only [evCalls, Calls.lastT]
    refine ⟨?_, ?_⟩
    · rw [timeMono_append, c2]; exact ⟨c1, r1⟩
    · rw [lastTime_append, c2, r2]
end

theorem evCalls_time_pairwise (cs : Calls) (lo : Nat) (h : cs.clocked lo) :
    (evCalls 0 cs).Pairwise (fun a b => a.time ≤ b.time) :=
  timeMono_pairwise _ lo (time_evCalls cs 0 lo h).1

end Uft.Mcount

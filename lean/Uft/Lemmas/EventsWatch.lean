import Uft.Lemmas.Events
/- C17: the stream of a history with watchpoints (the lazily written ENTRY records and the pending
   watch events come out in the order in which the hooks ran) -/
namespace Uft.Events
open Uft.Mcount

/-! ### save_watchpoint does not look at the pending events as long as there is room -/

/-- number of watch sources: each hook saves at most this many events -/
def nsrc (cfg : ECfg) : Nat := (if cfg.watchCpu then 1 else 0) + cfg.varSizes.length

structure SameWatch (s w : ESt) : Prop where
  winited : s.winited = w.winited
  wcpu : s.wcpu = w.wcpu
  wcopy : s.wcopy = w.wcopy
  glob : s.glob = w.glob

theorem SameWatch.refl (s : ESt) : SameWatch s s := ⟨rfl, rfl, rfl, rfl⟩
theorem SameWatch.symm {s w : ESt} (h : SameWatch s w) : SameWatch w s := ⟨h.1.symm, h.2.symm, h.3.symm, h.4.symm⟩

theorem saveWatchCpu_room (s w : ESt) (t ridx cpu : Nat) (init : Bool) (hsw : SameWatch s w)
    (hs : s.pend.length < MAX_EVENT) (hw : w.pend.length < MAX_EVENT) :
    ∃ W, (saveWatchCpu s t ridx cpu init).pend = s.pend ++ W ∧ (saveWatchCpu w t ridx cpu init).pend = w.pend ++ W ∧
      W.length ≤ 1 ∧ SameWatch (saveWatchCpu s t ridx cpu init) (saveWatchCpu w t ridx cpu init) := by
  unfold saveWatchCpu
  simp only [decide_eq_true hs, decide_eq_true hw, Bool.and_true, ← hsw.wcpu]
  split
  · exact ⟨[_], rfl, rfl, Nat.le_refl 1, ⟨hsw.1, rfl, hsw.3, hsw.4⟩⟩
  · exact ⟨[], (List.append_nil _).symm, (List.append_nil _).symm, Nat.zero_le 1, ⟨hsw.1, rfl, hsw.3, hsw.4⟩⟩

theorem saveWatchVar_room (cfg : ECfg) (t ridx : Nat) (s w : ESt) (k size v : Nat)
    (hsw : SameWatch s w) (hs : s.pend.length < MAX_EVENT) (hw : w.pend.length < MAX_EVENT) :
    ∃ W, (saveWatchVar cfg t ridx s k size v).pend = s.pend ++ W ∧
      (saveWatchVar cfg t ridx w k size v).pend = w.pend ++ W ∧ W.length ≤ 1 ∧
      SameWatch (saveWatchVar cfg t ridx s k size v) (saveWatchVar cfg t ridx w k size v) := by
  rw [saveWatchVar_eq, saveWatchVar_eq]
  simp only [hs, hw, true_and, ← hsw.wcopy, ← hsw.glob]
  by_cases h2 : s.wcopy[k]? = some v
  · simp only [h2, ne_eq, not_true_eq_false, ↓reduceIte]
    exact ⟨[], (List.append_nil _).symm, (List.append_nil _).symm, Nat.zero_le 1, hsw⟩
  · by_cases h3 : s.glob[k]? = some (some v)
    · simp only [h2, h3, ne_eq, not_false_eq_true, ↓reduceIte]
      exact ⟨[], (List.append_nil _).symm, (List.append_nil _).symm, Nat.zero_le 1, ⟨hsw.1, hsw.2, rfl, rfl⟩⟩
    · simp only [h2, h3, ne_eq, not_false_eq_true, ↓reduceIte]
      exact ⟨[varEv t ridx k size v], rfl, rfl, Nat.le_refl 1, ⟨hsw.1, hsw.2, rfl, rfl⟩⟩
theorem saveWatchVars_room (cfg : ECfg) (t ridx : Nat) : ∀ (szs vs : List Nat) (s w : ESt) (k : Nat),
    SameWatch s w → s.pend.length + szs.length ≤ MAX_EVENT → w.pend.length + szs.length ≤ MAX_EVENT →
    ∃ W, (saveWatchVars cfg t ridx s k szs vs).pend = s.pend ++ W ∧
      (saveWatchVars cfg t ridx w k szs vs).pend = w.pend ++ W ∧
      SameWatch (saveWatchVars cfg t ridx s k szs vs) (saveWatchVars cfg t ridx w k szs vs)
  | [], vs, s, w, k, h, _, _ => by
    simp only [saveWatchVars]
    exact ⟨[], (List.append_nil _).symm, (List.append_nil _).symm, h⟩
  | size :: szs, [], s, w, k, h, _, _ => by
    simp only [saveWatchVars]
    exact ⟨[], (List.append_nil _).symm, (List.append_nil _).symm, h⟩
  | size :: szs, v :: vs, s, w, k, h, hs, hw => by
    simp only [saveWatchVars]
    simp only [List.length_cons] at hs hw
    obtain ⟨W1, a1, b1, c1, d1⟩ := saveWatchVar_room cfg t ridx s w k size v h (by omega) (by omega)
    obtain ⟨W2, a2, b2, d2⟩ := saveWatchVars_room cfg t ridx szs vs (saveWatchVar cfg t ridx s k size v)
      (saveWatchVar cfg t ridx w k size v) (k + 1) d1 (by rw [a1, List.length_append]; omega)
      (by rw [b1, List.length_append]; omega)
    exact ⟨W1 ++ W2, by rw [a2, a1, List.append_assoc], by rw [b2, b1, List.append_assoc], d2⟩

theorem watchStep_room (cfg : ECfg) (s w : ESt) (b : Frame) (ri : Nat) (o : Obs)
    (hsw : SameWatch s w) (hs : s.pend.length + nsrc cfg ≤ MAX_EVENT) (hw : w.pend.length + nsrc cfg ≤ MAX_EVENT) :
    ∃ W, (watchStep cfg s b ri o).pend = s.pend ++ W ∧ (watchStep cfg w b ri o).pend = w.pend ++ W ∧
      SameWatch (watchStep cfg s b ri o) (watchStep cfg w b ri o) := by
  unfold watchStep
  split
  · unfold saveWatch
    simp only [← hsw.winited]
    generalize hookTime b + (if (!s.winited) = true then 2 else 0) - 1 = t
    generalize (if cfg.fixIdx = true then ri + 1 else ri) = ridx
    have h0 : SameWatch { s with winited := true } { w with winited := true } := ⟨rfl, hsw.2, hsw.3, hsw.4⟩
    unfold nsrc at hs hw
    split at hs
    · rename_i hc
      rw [if_pos hc] at hw
      simp only [hc, ↓reduceIte]
      obtain ⟨W1, a1, b1, c1, d1⟩ := saveWatchCpu_room { s with winited := true } { w with winited := true } t ridx o.cpu
        (!s.winited) h0 (show s.pend.length < MAX_EVENT by omega) (show w.pend.length < MAX_EVENT by omega)
      obtain ⟨W2, a2, b2, d2⟩ := saveWatchVars_room cfg t ridx cfg.varSizes o.vars _ _ 0 d1
        (by simp only [a1, List.length_append]; omega) (by simp only [b1, List.length_append]; omega)
      exact ⟨W1 ++ W2, by rw [a2, a1, List.append_assoc], by rw [b2, b1, List.append_assoc], d2⟩
    · rename_i hc
      rw [if_neg hc] at hw
      simp only [hc]
      exact saveWatchVars_room cfg t ridx cfg.varSizes o.vars _ _ 0 h0 (show s.pend.length + _ ≤ _ by omega)
        (show w.pend.length + _ ≤ _ by omega)
  · exact ⟨[], (List.append_nil _).symm, (List.append_nil _).symm, hsw⟩

/-! ### what the entry hook adds to what is owed -/

/-- the entry hook: a new unwritten frame `F` and its watch events `WE` -/
theorem owed_entry (fs : List EFrame) (p WE : List Ev) (F : EFrame) (t0 : Nat) (inited : Bool)
    (hFw : F.b.written = false) (hFs : F.b.skip = false) (hst : F.b.start = t0)
    (hp : ∀ e ∈ p, e.time < t0)
    (hWE : ∀ e ∈ WE, e.time = (if inited then t0 - 1 else t0 + 1))
    (hlow : ∀ g ∈ fs, g.b.start + 1 < t0) (ht0 : 0 < t0) :
    owed (F :: fs) (p ++ WE) = owed fs p ++
      (if inited then WE.map .event ++ ([entryOut F] ++ (entryEvs F).map .event)
       else [entryOut F] ++ (entryEvs F).map .event ++ WE.map .event) := by
  have hcond : ∀ e ∈ WE, ∀ g ∈ fs, ¬ e.time < g.b.start := by
    intro e he g hg
    have h1 := hWE e he
    have h2 := hlow g hg
    cases inited
    · simp only [Bool.false_eq_true, ↓reduceIte] at h1; omega
    · simp only [↓reduceIte] at h1; omega
  have hleft : ∀ e ∈ (flushBelowE fs p).2.1, e.time < t0 := fun e he => hp e (flushBelowE_left_mem fs p e he)
  unfold owed
  simp only [flushBelowE, hFw, hFs, Bool.false_eq_true, ↓reduceIte, recEntry, hst]
  rw [flushBelowE_append fs p WE hcond]
  simp only
  cases inited
  · -- first observation: the events carry t0 + 1 and stay pending
    have hge : ∀ e ∈ WE, ¬ e.time < t0 := by
      intro e he
      have h1 := hWE e he
      simp only [Bool.false_eq_true, ↓reduceIte] at h1
      omega
    rw [takeAsync_append_ge _ WE t0 hge, takeAsync_all _ t0 hleft]
    simp
  · have hall : ∀ e ∈ (flushBelowE fs p).2.1 ++ WE, e.time < t0 := by
      intro e he
      simp only [List.mem_append] at he
      rcases he with he | he
      · exact hleft e he
      · have h1 := hWE e he
        simp only [↓reduceIte] at h1
        omega
    rw [takeAsync_all _ t0 hall]
    simp

/-! ### the hooks with watchpoints, no filter, no time threshold -/

structure PlainW (cfg : ECfg) : Prop where
  t : PlainT cfg
  thr : cfg.base.threshold = 0

/-- the state between hooks at depth `d`; `tl` = time of the last hook -/
structure GoodW (s : ESt) (d tl : Nat) : Prop where
  b : GoodB s d
  starts : ∀ g ∈ s.frames, g.b.start ≤ tl
  ptime : ∀ e ∈ s.pend, e.time ≤ tl + 1
  pidx : ∀ e ∈ s.pend, e.idx < ASYNC_IDX

/-- the events a hook's save_watchpoint yields in watch state `w` (with room for them) -/
def wEvents (cfg : ECfg) (w : ESt) (b : Frame) (ri : Nat) (o : Obs) : List Ev :=
  (watchStep cfg { w with pend := [] } b ri o).pend
/-- … and the watch state afterwards -/
def wNext (cfg : ECfg) (w : ESt) (b : Frame) (ri : Nat) (o : Obs) : ESt :=
  watchStep cfg { w with pend := [] } b ri o

theorem nsrc_room (cfg : ECfg) (n : Nat) (h : n + nsrc cfg ≤ MAX_EVENT) : ([] : List Ev).length + nsrc cfg ≤ MAX_EVENT := by
  simp; omega

theorem wEvents_time (cfg : ECfg) (w : ESt) (b : Frame) (ri : Nat) (o : Obs) :
    ∀ e ∈ wEvents cfg w b ri o, e.time = watchTime b w.winited ∧ e.idx = watchTag cfg ri := by
  obtain ⟨_, W, hW, hWe⟩ := watchStep_spec cfg { w with pend := [] } b ri o
  intro e he
  unfold wEvents at he
  rw [hW] at he
  simp only [List.nil_append] at he
  exact ⟨(hWe e he).1, (hWe e he).2.1⟩

theorem watchStep_winited (cfg : ECfg) (s : ESt) (b : Frame) (ri : Nat) (o : Obs) (h : cfg.watch = true) :
    (watchStep cfg s b ri o).winited = true := by
  unfold watchStep
  simp only [h, ↓reduceIte]
  exact (saveWatch_spec cfg s b ri o).2.1

theorem exitFrame_endT (cfg : ECfg) (F : EFrame) (t1 d : Nat) (o : Obs) : (exitFrame cfg F t1 d o).b.endT = t1 := by
  rw [exitFrame_b]

theorem exitFrame_hookTime (cfg : ECfg) (F : EFrame) (t1 d : Nat) (o : Obs) (h : t1 ≠ 0) :
    hookTime (exitFrame cfg F t1 d o).b = t1 := by
  simp [hookTime, exitFrame_endT, h]

theorem wEvents_time_entry (cfg : ECfg) (k : Kind) (w : ESt) (f t0 d : Nat) (o : Obs) :
    ∀ e ∈ wEvents cfg w (entryFrame cfg k f t0 d o).b d o, e.time = (if w.winited then t0 - 1 else t0 + 1) := by
  intro e he
  rw [(wEvents_time cfg w _ d o e he).1, entryFrame_b]
  cases w.winited <;> simp [watchTime, hookTime, plainFrame]

theorem wEvents_time_inited (cfg : ECfg) (w : ESt) (b : Frame) (ri : Nat) (o : Obs)
    (hw : cfg.watch = true → w.winited = true) (ht : hookTime b ≠ 0) :
    ∀ e ∈ wEvents cfg w b ri o, e.time + 1 = hookTime b := by
  intro e he
  by_cases hc : cfg.watch = true
  · have h1 := (wEvents_time cfg w b ri o e he).1
    simp only [watchTime, hw hc, Bool.not_true, Bool.false_eq_true, ↓reduceIte, Nat.add_zero] at h1
    omega
  · simp [wEvents, watchStep, hc] at he

theorem entryE_W (cfg : ECfg) (hp : PlainW cfg) (k : Kind) (s w : ESt) (d tl f t0 : Nat) (o : Obs)
    (hg : GoodW s d tl) (hsw : SameWatch s w) (hm : d < cfg.base.maxStack) (hd : d < cfg.base.depthOpt)
    (ht : tl + 2 ≤ t0) (hroom : s.pend.length + nsrc cfg ≤ MAX_EVENT) :
    (entryE cfg k s f t0 o).2 = true ∧
    (entryE cfg k s f t0 o).1.out = s.out ∧
    (entryE cfg k s f t0 o).1.frames = entryFrame cfg k f t0 d o :: s.frames ∧
    (entryE cfg k s f t0 o).1.pend = s.pend ++ wEvents cfg w (entryFrame cfg k f t0 d o).b d o ∧
    SameWatch (entryE cfg k s f t0 o).1 (wNext cfg w (entryFrame cfg k f t0 d o).b d o) ∧
    GoodW (entryE cfg k s f t0 o).1 (d + 1) t0 ∧
    (cfg.watch = true → (entryE cfg k s f t0 o).1.winited = true) := by
  have hB := hg.b
  have hmax := hp.t.maxs
  have hlen := hB.len
  subst hlen
  have htag : watchTag cfg s.frames.length < ASYNC_IDX := by
    unfold watchTag
    split <;> omega
  have hFb := entryFrame_b cfg k f t0 s.frames.length o
  have hWt := wEvents_time_entry cfg k w f t0 s.frames.length o
  rw [entryE_unfold cfg hp.t.optIn hp.t.locIn hp.t.trig k s s.frames.length f t0 o hB hm hd]
  -- `F` the frame pushed, `sB` the state handed to save_watchpoint: `s` but for the counters and the filter state
  generalize entryFrame cfg k f t0 s.frames.length o = F at *
  generalize hsB : entryBase s s.frames.length _ = sB
  have hsw' : SameWatch sB { w with pend := [] } ∧ sB.pend = s.pend ∧ sB.out = s.out := by
    subst hsB
    exact ⟨⟨hsw.1, hsw.2, hsw.3, hsw.4⟩, rfl, rfl⟩
  rw [entryFinish_eq cfg sB F s.frames o (by rw [hsw'.2.1]; exact hg.pidx) htag]
  obtain ⟨W, a1, a2, a3⟩ := watchStep_room cfg sB { w with pend := [] } F.b s.frames.length o hsw'.1
    (by rw [hsw'.2.1]; exact hroom) (nsrc_room cfg _ hroom)
  obtain ⟨hs, _⟩ := watchStep_spec cfg sB F.b s.frames.length o
  have hwi := watchStep_winited cfg sB F.b s.frames.length o
  have hWE : wEvents cfg w F.b s.frames.length o = W := a2
  have hWi := fun e he => (wEvents_time cfg w F.b s.frames.length o e he).2
  rw [hWE] at hWt hWi
  generalize watchStep cfg sB F.b s.frames.length o = sW at a1 a3 hs hwi
  rw [hsw'.2.1] at a1
  refine ⟨rfl, hs.out.trans hsw'.2.2, rfl, by rw [hWE]; exact a1, ⟨a3.1, a3.2, a3.3, a3.4⟩, ⟨?_, ?_, ?_, ?_⟩, hwi⟩
  · exact hB.entry (by rw [hFb]; exact ⟨rfl, rfl⟩) (by rw [hsB]; exact ⟨hs.over, hs.recordIdx, hs.filt, hs.enabled⟩) rfl
  · intro g hg'
    rcases List.mem_cons.mp hg' with rfl | hg'
    · rw [hFb]
      exact Nat.le_refl t0
    · exact Nat.le_trans (hg.starts g hg') (Nat.le_trans (Nat.le_add_right tl 2) ht)
  · intro e he
    rcases List.mem_append.mp (a1 ▸ he) with h | h
    · exact Nat.le_trans (hg.ptime e h) (Nat.le_trans (Nat.le_of_succ_le ht) (Nat.le_succ t0))
    · have := hWt e h
      split at this <;> omega
  · intro e he
    rcases List.mem_append.mp (a1 ▸ he) with h | h
    · exact hg.pidx e h
    · rw [hWi e h]
      exact htag

theorem exitE_W (cfg : ECfg) (hp : PlainW cfg) (k : Kind) (s2 w2 : ESt) (d tl2 f t0 t1 : Nat) (wr : Bool)
    (top : EFrame) (rest : List EFrame) (o : Obs)
    (hfr : s2.frames = top :: rest) (hb : top.b = { plainFrame k f t0 d with written := wr })
    (hev : ∀ e ∈ top.evs, e.time = t0) (hg : GoodW s2 (d + 1) tl2) (hsw : SameWatch s2 w2)
    (ht0 : t0 ≤ tl2) (ht : tl2 + 2 ≤ t1) (htu : t1 < u64) (hroom : s2.pend.length + nsrc cfg ≤ MAX_EVENT)
    (hinit : cfg.watch = true → s2.winited = true) :
    (exitE cfg s2 t1 o).out =
      s2.out ++ owed (top :: rest) s2.pend ++
        (wEvents cfg w2 (exitFrame cfg top t1 d o).b d o).map .event ++ exitOut cfg top t1 d o ∧
    (exitE cfg s2 t1 o).frames = (markToE (top :: rest)).tail ∧
    (exitE cfg s2 t1 o).pend = [] ∧
    SameWatch (exitE cfg s2 t1 o) (wNext cfg w2 (exitFrame cfg top t1 d o).b d o) ∧
    GoodW (exitE cfg s2 t1 o) d t1 ∧
    (cfg.watch = true → (exitE cfg s2 t1 o).winited = true) := by
  have hlt : tl2 + 1 < t1 := ht
  have h01 : t0 < t1 := Nat.lt_of_le_of_lt ht0 (Nat.lt_of_succ_lt hlt)
  have ht2 : t1 ≠ 0 := Nat.ne_of_gt (Nat.zero_lt_of_lt h01)
  have hXt := exitFrame_hookTime cfg top t1 d o ht2
  -- the state after save_watchpoint
  obtain ⟨WX, a1, a2, a3⟩ := watchStep_room cfg (exitBase s2 (setEnd top t1) rest) { w2 with pend := [] }
    (exitFrame cfg top t1 d o).b d o ⟨hsw.1, hsw.2, hsw.3, hsw.4⟩ hroom (nsrc_room cfg _ hroom)
  have hWX : wEvents cfg w2 (exitFrame cfg top t1 d o).b d o = WX := a2
  have hWXt : ∀ e ∈ WX, e.time + 1 = t1 := by
    intro e he
    have := wEvents_time_inited cfg w2 _ d o (fun hw => hsw.1 ▸ hinit hw) (by rw [hXt]; exact ht2) e (hWX ▸ he)
    rw [hXt] at this
    exact this
  have hwi := watchStep_winited cfg (exitBase s2 (setEnd top t1) rest) (exitFrame cfg top t1 d o).b d o
  generalize hsW : watchStep cfg (exitBase s2 (setEnd top t1) rest) (exitFrame cfg top t1 d o).b d o = sW at a1 a3 hwi
  obtain ⟨hu, hG⟩ := exitE_emits cfg hp.thr hp.t.caller k s2 sW d f t0 t1 wr top rest o WX hfr hb hev hg.b h01 htu hsW a1
    (fun e he => Nat.lt_of_le_of_lt (hg.ptime e he) hlt) (fun e he => hWXt e he ▸ Nat.lt_succ_self e.time)
    (by
      intro e he g hg'
      have h1 := hWXt e he
      have := hg.starts g (hfr ▸ hg')
      omega)
  refine ⟨?_, ?_, ?_, ?_, ⟨hG, ?_, ?_, ?_⟩, ?_⟩
  · rw [hu, hWX]
  · rw [hu]
  · rw [hu]
  · rw [hu]
    exact ⟨a3.1, a3.2, a3.3, a3.4⟩
  · rw [hu]
    intro g hg'
    obtain ⟨g', h1, h2⟩ := markToE_start _ g (List.mem_of_mem_tail hg')
    have := hg.starts g' (hfr ▸ h1)
    omega
  · rw [hu]
    exact nofun
  · rw [hu]
    exact nofun
  · rw [hu]
    exact hwi

/-! ### the specified stream with watchpoints -/

mutual
  /-- time of the last hook of a history (`tl` if it is empty) -/
  def ECall.lastT : ECall → Nat
    | .node _ _ t1 _ _ _ => t1
  def ECalls.last (tl : Nat) : ECalls → Nat
    | .nil => tl
    | .cons c rest => rest.last c.lastT
end

mutual
  /-- consecutive hooks are at least 2 ns apart on the 64-bit clock; `tl` = time of the hook before
      the history -/
  def ECall.spaced (tl : Nat) : ECall → Prop
    | .node _ t0 t1 _ _ kids => tl + 2 ≤ t0 ∧ kids.spaced t0 ∧ kids.last t0 + 2 ≤ t1 ∧ t1 < u64
  def ECalls.spaced (tl : Nat) : ECalls → Prop
    | .nil => True
    | .cons c rest => c.spaced tl ∧ rest.spaced c.lastT
end

mutual
  /-- the specified stream of a call executed at depth `d` in watch state `w`, and the watch state
      afterwards: the watch events of the entry hook come before ENTRY (after ENTRY and its read
      events for the thread's first observation), those of the exit hook before the diff events -/
  def specWCall (cfg : ECfg) (k : Kind) (d : Nat) : ESt → ECall → List Out × ESt
    | w, .node f t0 t1 oE oX kids =>
      ((if w.winited then
          (wEvents cfg w (entryFrame cfg k f t0 d oE).b d oE).map .event ++
            ([entryOut (entryFrame cfg k f t0 d oE)] ++ (entryEvs (entryFrame cfg k f t0 d oE)).map .event)
        else
          [entryOut (entryFrame cfg k f t0 d oE)] ++ (entryEvs (entryFrame cfg k f t0 d oE)).map .event ++
            (wEvents cfg w (entryFrame cfg k f t0 d oE).b d oE).map .event) ++
        (specWCalls cfg k (d + 1) (wNext cfg w (entryFrame cfg k f t0 d oE).b d oE) kids).1 ++
        (wEvents cfg (specWCalls cfg k (d + 1) (wNext cfg w (entryFrame cfg k f t0 d oE).b d oE) kids).2
          (exitFrame cfg (entryFrame cfg k f t0 d oE) t1 d oX).b d oX).map .event ++
        exitOut cfg (entryFrame cfg k f t0 d oE) t1 d oX,
       wNext cfg (specWCalls cfg k (d + 1) (wNext cfg w (entryFrame cfg k f t0 d oE).b d oE) kids).2
          (exitFrame cfg (entryFrame cfg k f t0 d oE) t1 d oX).b d oX)
  def specWCalls (cfg : ECfg) (k : Kind) (d : Nat) : ESt → ECalls → List Out × ESt
    | w, .nil => ([], w)
    | w, .cons c rest =>
      ((specWCall cfg k d w c).1 ++ (specWCalls cfg k d (specWCall cfg k d w c).2 rest).1,
       (specWCalls cfg k d (specWCall cfg k d w c).2 rest).2)
end

mutual
  /-- no pending-event overflow during the run: at every hook there is room for one event per source -/
  def roomCall (cfg : ECfg) (k : Kind) : ESt → ECall → Prop
    | s, .node f t0 _ oE _ kids =>
      s.pend.length + nsrc cfg ≤ MAX_EVENT ∧ roomCalls cfg k (entryE cfg k s f t0 oE).1 kids ∧
      (runECalls cfg k (entryE cfg k s f t0 oE).1 kids).pend.length + nsrc cfg ≤ MAX_EVENT
  def roomCalls (cfg : ECfg) (k : Kind) : ESt → ECalls → Prop
    | _, .nil => True
    | s, .cons c rest => roomCall cfg k s c ∧ roomCalls cfg k (runECall cfg k s c) rest
end

theorem spaced_calls_le : ∀ (cs : ECalls) (tl : Nat), cs.spaced tl → tl ≤ cs.last tl
  | .nil, tl, _ => Nat.le_refl tl
  | .cons (.node f t0 t1 oE oX kids) rest, tl, h => by
    simp only [ECalls.spaced, ECall.spaced, ECall.lastT] at h
    have h1 := spaced_calls_le kids t0 h.1.2.1
    have h2 := spaced_calls_le rest t1 h.2
    simp only [ECalls.last, ECall.lastT]
    omega

mutual
theorem emitW_call (cfg : ECfg) (hp : PlainW cfg) (k : Kind) :
    ∀ (c : ECall) (s w : ESt) (d tl : Nat), GoodW s d tl → SameWatch s w →
      d + c.height ≤ cfg.base.maxStack → d + c.height ≤ cfg.base.depthOpt → c.spaced tl → roomCall cfg k s c →
      (runECall cfg k s c).out = s.out ++ owed s.frames s.pend ++ (specWCall cfg k d w c).1 ∧
      (runECall cfg k s c).frames = markToE s.frames ∧
      (runECall cfg k s c).pend = [] ∧
      SameWatch (runECall cfg k s c) (specWCall cfg k d w c).2 ∧
      GoodW (runECall cfg k s c) d c.lastT ∧
      (cfg.watch = true → (runECall cfg k s c).winited = true)
  | .node f t0 t1 oE oX kids, s, w, d, tl, hg, hsw, hm, hd, hsp, hr => by
    simp only [ECall.height] at hm hd
    simp only [ECall.spaced] at hsp
    simp only [roomCall] at hr
    obtain ⟨e1, e2, e3, e4, e5, e6, e7⟩ := entryE_W cfg hp k s w d tl f t0 oE hg hsw (room_node hm).1 (room_node hd).1
      hsp.1 hr.1
    have hFb := entryFrame_b cfg k f t0 d oE
    have hFev := entryFrame_evs_time cfg k f t0 d oE
    have hWE := wEvents_time_entry cfg k w f t0 d oE
    simp only [runECall, e1, ↓reduceIte, specWCall]
    -- `F` the frame pushed, `s1` and `w1` the state and the watch state after the entry hook
    generalize entryFrame cfg k f t0 d oE = F at *
    generalize (entryE cfg k s f t0 oE).1 = s1 at *
    generalize wNext cfg w F.b d oE = w1 at *
    have hFw : F.b.written = false := by rw [hFb]; rfl
    obtain ⟨k1, ⟨m, k2, k3⟩, k4, k5, k6⟩ := emitW_calls cfg hp k kids s1 w1 (d + 1) t0 e6 e5 (room_node hm).2
      (room_node hd).2 hsp.2.1 hr.2.1
    have hOE := owed_entry s.frames s.pend (wEvents cfg w F.b d oE) F t0 w.winited hFw (by rw [hFb]; rfl)
      (by rw [hFb]; rfl) (fun e he => Nat.lt_of_le_of_lt (hg.ptime e he) hsp.1) hWE
      (fun g hg' => Nat.lt_of_le_of_lt (Nat.succ_le_succ (hg.starts g hg')) hsp.1) (Nat.zero_lt_of_lt hsp.1)
    have k2' : (runECalls cfg k s1 kids).frames = withW F m :: (if m then markToE s.frames else s.frames) := by
      rw [k2, e3, markToE_cons_ite _ _ m hFw]
    obtain ⟨x1, x2, x3, x4, x5, x6⟩ := exitE_W cfg hp k (runECalls cfg k s1 kids) (specWCalls cfg k (d + 1) w1 kids).2
      d (kids.last t0) f t0 t1 m (withW F m) (if m then markToE s.frames else s.frames) oX
      k2' (by rw [show (withW F m).b = { F.b with written := m } from rfl, hFb])
      hFev k5 k4 (spaced_calls_le kids t0 hsp.2.1) hsp.2.2.1 hsp.2.2.2 hr.2.2 (fun hw => k6 hw (e7 hw))
    -- save_watchpoint sees the same frame whether or not its ENTRY is written
    have hwn : wNext cfg (specWCalls cfg k (d + 1) w1 kids).2 (exitFrame cfg (withW F m) t1 d oX).b d oX =
        wNext cfg (specWCalls cfg k (d + 1) w1 kids).2 (exitFrame cfg F t1 d oX).b d oX :=
      watchStep_hookTime cfg _ _ _ d oX (by rw [exitFrame_b, exitFrame_b]; rfl)
    refine ⟨?_, by rw [x2, markToE_withW_tail], x3, ?_, ?_, x6⟩
    · rw [x1, ← k2', k1, e2, e3, e4, hOE, exitOut_withW, show wEvents cfg _ _ d oX = _ from congrArg ESt.pend hwn]
      simp [List.append_assoc]
      rfl
    · rw [hwn] at x4
      exact x4
    · exact x5
theorem emitW_calls (cfg : ECfg) (hp : PlainW cfg) (k : Kind) :
    ∀ (cs : ECalls) (s w : ESt) (d tl : Nat), GoodW s d tl → SameWatch s w →
      d + cs.height ≤ cfg.base.maxStack → d + cs.height ≤ cfg.base.depthOpt → cs.spaced tl → roomCalls cfg k s cs →
      (runECalls cfg k s cs).out ++ owed (runECalls cfg k s cs).frames (runECalls cfg k s cs).pend =
        s.out ++ owed s.frames s.pend ++ (specWCalls cfg k d w cs).1 ∧
      (∃ m : Bool, (runECalls cfg k s cs).frames = (if m then markToE s.frames else s.frames) ∧
        (runECalls cfg k s cs).pend = (if m then [] else s.pend)) ∧
      SameWatch (runECalls cfg k s cs) (specWCalls cfg k d w cs).2 ∧
      GoodW (runECalls cfg k s cs) d (cs.last tl) ∧
      (cfg.watch = true → s.winited = true → (runECalls cfg k s cs).winited = true)
  | .nil, s, w, d, tl, hg, hsw, _, _, _, _ =>
    ⟨(List.append_nil _).symm, ⟨false, rfl, rfl⟩, hsw, hg, fun _ h => h⟩
  | .cons c rest, s, w, d, tl, hg, hsw, hm, hd, hsp, hr => by
    simp only [ECalls.height] at hm hd
    simp only [ECalls.spaced] at hsp
    simp only [roomCalls] at hr
    obtain ⟨c1, c2, c3, c4, c5, c6⟩ := emitW_call cfg hp k c s w d tl hg hsw (room_cons hm).1 (room_cons hd).1 hsp.1 hr.1
    obtain ⟨r1, ⟨m', r2, r3⟩, r4, r5, r6⟩ := emitW_calls cfg hp k rest (runECall cfg k s c) (specWCall cfg k d w c).2 d
      c.lastT c5 c4 (room_cons hm).2 (room_cons hd).2 hsp.2 hr.2
    simp only [runECalls]
    refine ⟨?_, ⟨true, ?_, ?_⟩, r4, r5, fun hw _ => r6 hw (c6 hw)⟩
    · rw [r1, c1, c2, c3, owed_marked, List.append_nil, specWCalls, List.append_assoc]
    · rw [r2, c2]
      cases m'
      · rfl
      · exact markToE_markToE _
    · rw [r3, c3]
      cases m' <;> rfl
end

/-! ### properties of the specified stream -/

def Out.time : Out → Nat
  | .record r _ => r.time
  | .event e => e.time

theorem entryEvs_time (F : EFrame) : ∀ e ∈ entryEvs F, e.time = F.b.start := by
  intro e he
  unfold entryEvs at he
  have := List.all_eq_true.mp List.all_takeWhile e he
  simpa using this

theorem exitEvs_time (X : EFrame) : ∀ e ∈ exitEvs X, e.time = X.b.endT := by
  intro e he
  unfold exitEvs at he
  have := (List.mem_filter.mp he).2
  simpa using this

mutual
theorem recsW_specCall (cfg : ECfg) (k : Kind) : ∀ (d : Nat) (w : ESt) (c : ECall),
    (specWCall cfg k d w c).1.filterMap recOf = evCall d c.erase
  | d, w, .node f t0 t1 oE oX kids => by
    have hk := recsW_specCalls cfg k (d + 1) (wNext cfg w (entryFrame cfg k f t0 d oE).b d oE) kids
    simp only [specWCall, exitOut, entryOut_entryFrame, exitRecord_exitFrame]
    split <;>
    simp [List.filterMap_append, filterMap_recOf_events, hk, ECall.erase, evCall, recOf]
theorem recsW_specCalls (cfg : ECfg) (k : Kind) : ∀ (d : Nat) (w : ESt) (cs : ECalls),
    (specWCalls cfg k d w cs).1.filterMap recOf = evCalls d cs.erase
  | d, w, .nil => by simp [specWCalls, ECalls.erase, evCalls]
  | d, w, .cons c rest => by
    simp [specWCalls, ECalls.erase, evCalls, recsW_specCall cfg k d w c,
      recsW_specCalls cfg k d (specWCall cfg k d w c).2 rest]
end

theorem wNext_winited (cfg : ECfg) (w : ESt) (b : Frame) (ri : Nat) (o : Obs) (h : cfg.watch = true) :
    (wNext cfg w b ri o).winited = true := watchStep_winited cfg _ b ri o h

theorem specW_winited_calls (cfg : ECfg) (k : Kind) (h : cfg.watch = true) : ∀ (d : Nat) (w : ESt) (cs : ECalls),
    w.winited = true → (specWCalls cfg k d w cs).2.winited = true
  | _, _, .nil, hw => hw
  | d, _, .cons (.node ..) rest, _ =>
    specW_winited_calls cfg k h d _ rest (wNext_winited cfg _ _ _ _ h)

/-- the events a call's own hooks put between its ENTRY and EXIT, and the callees' records -/
def innerOf (cfg : ECfg) (k : Kind) (d : Nat) (w : ESt) : ECall → List Out
  | .node f t0 t1 oE oX kids =>
    (entryEvs (entryFrame cfg k f t0 d oE)).map .event ++
      (if w.winited then [] else (wEvents cfg w (entryFrame cfg k f t0 d oE).b d oE).map .event) ++
      (specWCalls cfg k (d + 1) (wNext cfg w (entryFrame cfg k f t0 d oE).b d oE) kids).1 ++
      (wEvents cfg (specWCalls cfg k (d + 1) (wNext cfg w (entryFrame cfg k f t0 d oE).b d oE) kids).2
        (exitFrame cfg (entryFrame cfg k f t0 d oE) t1 d oX).b d oX).map .event ++
      (exitEvs (exitFrame cfg (entryFrame cfg k f t0 d oE) t1 d oX)).map .event

/-- the watch events of the entry hook that precede ENTRY (none for the first observation) -/
def beforeOf (cfg : ECfg) (k : Kind) (d : Nat) (w : ESt) : ECall → List Out
  | .node f t0 _ oE _ _ =>
    if w.winited then (wEvents cfg w (entryFrame cfg k f t0 d oE).b d oE).map .event else []

theorem specWCall_shape (cfg : ECfg) (k : Kind) (d : Nat) (w : ESt) (f t0 t1 : Nat) (oE oX : Obs) (kids : ECalls) :
    (specWCall cfg k d w (.node f t0 t1 oE oX kids)).1 =
      beforeOf cfg k d w (.node f t0 t1 oE oX kids) ++
        [.record { time := t0, type := 0, depth := d, addr := f } (argPayload cfg k f)] ++
        innerOf cfg k d w (.node f t0 t1 oE oX kids) ++
        [.record { time := t1, type := 1, depth := d, addr := f } (retPayloadOf cfg k f)] := by
  simp only [specWCall, beforeOf, innerOf, exitOut, entryOut_entryFrame, exitRecord_exitFrame]
  split <;> simp [List.append_assoc]

theorem inner_times_of (cfg : ECfg) (k : Kind) (d : Nat) (w : ESt) (f t0 t1 : Nat) (oE oX : Obs) (kids : ECalls) (tl : Nat)
    (hsp : (ECall.node f t0 t1 oE oX kids).spaced tl)
    (hk : ∀ x ∈ (specWCalls cfg k (d + 1) (wNext cfg w (entryFrame cfg k f t0 d oE).b d oE) kids).1,
      t0 + 1 ≤ x.time ∧ x.time ≤ kids.last t0) :
    (∀ x ∈ innerOf cfg k d w (.node f t0 t1 oE oX kids), t0 ≤ x.time ∧ x.time ≤ t1) ∧
    (∀ x ∈ beforeOf cfg k d w (.node f t0 t1 oE oX kids), x.time + 1 = t0) := by
  simp only [ECall.spaced] at hsp
  have hle := spaced_calls_le kids t0 hsp.2.1
  have h02 : t0 + 2 ≤ t1 := Nat.le_trans (Nat.add_le_add_right hle 2) hsp.2.2.1
  have h01 : t0 ≤ t1 := Nat.le_trans (Nat.le_add_right t0 2) h02
  have ht1 : t1 ≠ 0 := Nat.ne_of_gt (Nat.lt_of_lt_of_le (Nat.succ_pos _) h02)
  have hWE := wEvents_time_entry cfg k w f t0 d oE
  have hWX := wEvents_time_inited cfg
    (specWCalls cfg k (d + 1) (wNext cfg w (entryFrame cfg k f t0 d oE).b d oE) kids).2
    (exitFrame cfg (entryFrame cfg k f t0 d oE) t1 d oX).b d oX
    (fun hw => specW_winited_calls cfg k hw (d + 1) _ kids (wNext_winited cfg w _ d oE hw))
    (by rw [exitFrame_hookTime cfg _ t1 d oX ht1]; exact ht1)
  rw [exitFrame_hookTime cfg _ t1 d oX ht1] at hWX
  have hEE := entryEvs_time (entryFrame cfg k f t0 d oE)
  have hXE := exitEvs_time (exitFrame cfg (entryFrame cfg k f t0 d oE) t1 d oX)
  rw [entryFrame_b, show (plainFrame k f t0 d).start = t0 from rfl] at hEE
  rw [exitFrame_endT] at hXE
  constructor
  · intro x hx
    simp only [List.mem_append, innerOf] at hx
    rcases hx with (((hx | hx) | hx) | hx) | hx
    · obtain ⟨e, he, rfl⟩ := List.mem_map.mp hx
      have := hEE e he
      simp only [Out.time]
      rw [this]
      exact ⟨Nat.le_refl t0, h01⟩
    · split at hx
      · cases hx
      · rename_i hwi
        obtain ⟨e, he, rfl⟩ := List.mem_map.mp hx
        have := hWE e he
        simp only [hwi, Bool.false_eq_true, ↓reduceIte] at this
        simp only [Out.time]
        rw [this]
        exact ⟨Nat.le_succ t0, Nat.le_of_succ_le h02⟩
    · have := hk x hx
      exact ⟨Nat.le_of_succ_le this.1, Nat.le_trans this.2 (Nat.le_trans (Nat.le_add_right _ 2) hsp.2.2.1)⟩
    · obtain ⟨e, he, rfl⟩ := List.mem_map.mp hx
      have := hWX e he
      simp only [Out.time]
      omega
    · obtain ⟨e, he, rfl⟩ := List.mem_map.mp hx
      have := hXE e he
      simp only [Out.time]
      rw [this]
      exact ⟨h01, Nat.le_refl t1⟩
  · intro x hx
    simp only [beforeOf] at hx
    split at hx
    · rename_i hwi
      obtain ⟨e, he, rfl⟩ := List.mem_map.mp hx
      have := hWE e he
      simp only [hwi, ↓reduceIte] at this
      simp only [Out.time]
      omega
    · cases hx

theorem specW_times_calls (cfg : ECfg) (k : Kind) : ∀ (d : Nat) (w : ESt) (cs : ECalls) (tl : Nat), cs.spaced tl →
    ∀ x ∈ (specWCalls cfg k d w cs).1, tl + 1 ≤ x.time ∧ x.time ≤ cs.last tl
  | d, w, .nil, tl, _ => by simp [specWCalls]
  | d, w, .cons (.node f t0 t1 oE oX kids) rest, tl, hsp => by
    simp only [ECalls.spaced, ECall.lastT] at hsp
    have hk := specW_times_calls cfg k (d + 1) (wNext cfg w (entryFrame cfg k f t0 d oE).b d oE) kids t0
      (by have := hsp.1; simp only [ECall.spaced] at this; exact this.2.1)
    obtain ⟨hi, hb⟩ := inner_times_of cfg k d w f t0 t1 oE oX kids tl hsp.1 hk
    have h2 := specW_times_calls cfg k d (specWCall cfg k d w (.node f t0 t1 oE oX kids)).2 rest t1 hsp.2
    have l2 := spaced_calls_le rest t1 hsp.2
    have hsp1 := hsp.1
    simp only [ECall.spaced] at hsp1
    have h0 : tl + 1 ≤ t0 := Nat.le_of_succ_le hsp1.1
    have h01 : t0 ≤ t1 := Nat.le_trans (spaced_calls_le kids t0 hsp1.2.1)
      (Nat.le_trans (Nat.le_add_right _ 2) hsp1.2.2.1)
    intro x hx
    simp only [specWCalls, specWCall_shape, List.mem_append, List.mem_singleton, ECalls.last, ECall.lastT] at hx ⊢
    rcases hx with (((hx | hx) | hx) | hx) | hx
    · have := hb x hx
      omega
    · subst hx
      exact ⟨h0, Nat.le_trans h01 l2⟩
    · have := hi x hx
      exact ⟨Nat.le_trans h0 this.1, Nat.le_trans this.2 l2⟩
    · subst hx
      exact ⟨Nat.le_trans h0 h01, l2⟩
    · have := h2 x hx
      exact ⟨Nat.le_trans (Nat.le_trans h0 h01) (Nat.le_of_succ_le this.1), this.2⟩

/-- everything between a call's ENTRY and EXIT carries a time stamp inside [t0, t1]; the watch events
    written just before its ENTRY carry t0 - 1 -/
theorem inner_times (cfg : ECfg) (k : Kind) (d : Nat) (w : ESt) (f t0 t1 : Nat) (oE oX : Obs) (kids : ECalls) (tl : Nat)
    (hsp : (ECall.node f t0 t1 oE oX kids).spaced tl) :
    (∀ x ∈ innerOf cfg k d w (.node f t0 t1 oE oX kids), t0 ≤ x.time ∧ x.time ≤ t1) ∧
    (∀ x ∈ beforeOf cfg k d w (.node f t0 t1 oE oX kids), x.time + 1 = t0) :=
  inner_times_of cfg k d w f t0 t1 oE oX kids tl hsp
    (specW_times_calls cfg k (d + 1) _ kids t0 (by simp only [ECall.spaced] at hsp; exact hsp.2.1))

end Uft.Events

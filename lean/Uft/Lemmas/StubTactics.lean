/- Two tactics that prove a stub theorem of Props/C01 for any stub with the frame layout written
above each of them, using no lemma about the particular stub.

`entry_stub_proof s c` proves `EntryOK env s m` and `exit_stub_proof s c F` proves
`ExitOK env s c regs m`, where `c` is the hook that `s` calls and `F` the size of its frame.  The
names inside them (`pre`, `post`, `EntryOK`, `ExitOK`, `env`, `m`, and the hypotheses `hsp` and `h`
as the theorems of Props/C01 call them) are resolved where a tactic is used: Props/C01 has to be
imported and its namespaces open there.  Both execute the whole of `s` symbolically with `simp` and
send every address disequality to `omega`.

The theorems of Props/C01 are proved differently.  These tactics run the part of the stub before
the call again for every fact they need about the state at the call, and each read through the
stores before it takes one `omega` call per store, over terms `align16 (m.gpr .rsp - F) - 16 + k`
with truncated subtraction: several hundred million heartbeats for one stub, more than the default
`maxHeartbeats`.  Props/C01 names the frame of a stub by variables (`exists_frame`), so that address
comparisons are between literals, executes each segment of a stub once, and states what the call
leaves alone once (`Parked`). -/

namespace Uft.C01

/- frame layout `sub $48; spill rdi,rsi,rdx,rcx,r8,r9; …; and -16; push old-rsp,rax,r10,r11; call; pop…;
   reload; add $48; ret` -/
set_option hygiene false in
macro "entry_stub_proof" s:ident c:str : tactic => `(tactic| (
  have hs : $s = pre $s ++ (.call $c :: post $s) := by rfl
  have hal := align16_bounds (m.gpr .rsp - 48)
  unfold EntryOK
  rw [hs, exec_append, exec_cons]
  simp only [step]
  -- the machine just before the call
  have p_rsp : (exec env (pre $s) m).gpr .rsp = align16 (m.gpr .rsp - 48) - 32 := by
    simp (disch := omega) [pre, $s:ident, exec_cons, step, mem_setM_eq, mem_setM_ne]
    try omega
  have p_cs : ∀ r, r = .rbx ∨ r = .rbp ∨ r = .r12 ∨ r = .r13 ∨ r = .r14 ∨ r = .r15 →
      (exec env (pre $s) m).gpr r = m.gpr r := by
    intro r hr
    rcases hr with rfl | rfl | rfl | rfl | rfl | rfl <;>
      simp (disch := omega) [pre, $s:ident, exec_cons, step, mem_setM_eq, mem_setM_ne]
  have p_mem : ∀ k, k = 0 ∨ k = 8 ∨ k = 16 ∨ k = 24 ∨ k = 32 ∨ k = 40 →
      (exec env (pre $s) m).mem (m.gpr .rsp - 48 + k) =
        (if k = 0 then m.gpr .r9 else if k = 8 then m.gpr .r8 else if k = 16 then m.gpr .rcx
         else if k = 24 then m.gpr .rdx else if k = 32 then m.gpr .rsi else m.gpr .rdi) := by
    intro k hk
    rcases hk with rfl | rfl | rfl | rfl | rfl | rfl <;>
      simp (disch := omega) [pre, $s:ident, exec_cons, step, mem_setM_eq, mem_setM_ne]
  have p_ret : (exec env (pre $s) m).mem (m.gpr .rsp) = m.mem (m.gpr .rsp) := by
    simp (disch := omega) [pre, $s:ident, exec_cons, step, mem_setM_eq, mem_setM_ne]
  have p_push : ∀ k, k = 0 ∨ k = 8 ∨ k = 16 ∨ k = 24 →
      (exec env (pre $s) m).mem (align16 (m.gpr .rsp - 48) - 32 + k) =
        (if k = 0 then m.gpr .r11 else if k = 8 then m.gpr .r10 else if k = 16 then m.gpr .rax
         else m.gpr .rsp - 48) := by
    intro k hk
    rcases hk with rfl | rfl | rfl | rfl <;>
      simp (disch := omega) [pre, $s:ident, exec_cons, step, mem_setM_eq, mem_setM_ne]
  generalize exec env (pre $s) m = P at *
  -- the callee
  have q_rsp := h.rsp P
  have q_mem := h.mem P
  have q_rbx := h.rbx P
  have q_rbp := h.rbp P
  have q_r12 := h.r12 P
  have q_r13 := h.r13 P
  have q_r14 := h.r14 P
  have q_r15 := h.r15 P
  generalize env.callee $c P = Q at *
  have q0 : ∀ a, a = align16 (m.gpr .rsp - 48) - 32 → Q.mem a = m.gpr .r11 := by
    intro a ha; rw [q_mem a (by omega) (by omega), ha]; simpa using p_push 0 (by simp)
  have q8 : ∀ a, a = align16 (m.gpr .rsp - 48) - 32 + 8 → Q.mem a = m.gpr .r10 := by
    intro a ha; rw [q_mem a (by omega) (by omega), ha]; simpa using p_push 8 (by simp)
  have q16 : ∀ a, a = align16 (m.gpr .rsp - 48) - 32 + 16 → Q.mem a = m.gpr .rax := by
    intro a ha; rw [q_mem a (by omega) (by omega), ha]; simpa using p_push 16 (by simp)
  have q24 : ∀ a, a = align16 (m.gpr .rsp - 48) - 32 + 24 → Q.mem a = m.gpr .rsp - 48 := by
    intro a ha; rw [q_mem a (by omega) (by omega), ha]; simpa using p_push 24 (by simp)
  have s0 : ∀ a, a = m.gpr .rsp - 48 → Q.mem a = m.gpr .r9 := by
    intro a ha; rw [q_mem a (by omega) (by omega), ha]; simpa using p_mem 0 (by simp)
  have s8 : ∀ a, a = m.gpr .rsp - 48 + 8 → Q.mem a = m.gpr .r8 := by
    intro a ha; rw [q_mem a (by omega) (by omega), ha]; simpa using p_mem 8 (by simp)
  have s16 : ∀ a, a = m.gpr .rsp - 48 + 16 → Q.mem a = m.gpr .rcx := by
    intro a ha; rw [q_mem a (by omega) (by omega), ha]; simpa using p_mem 16 (by simp)
  have s24 : ∀ a, a = m.gpr .rsp - 48 + 24 → Q.mem a = m.gpr .rdx := by
    intro a ha; rw [q_mem a (by omega) (by omega), ha]; simpa using p_mem 24 (by simp)
  have s32 : ∀ a, a = m.gpr .rsp - 48 + 32 → Q.mem a = m.gpr .rsi := by
    intro a ha; rw [q_mem a (by omega) (by omega), ha]; simpa using p_mem 32 (by simp)
  have s40 : ∀ a, a = m.gpr .rsp - 48 + 40 → Q.mem a = m.gpr .rdi := by
    intro a ha; rw [q_mem a (by omega) (by omega), ha]; simpa using p_mem 40 (by simp)
  have sret : ∀ a, a = m.gpr .rsp → Q.mem a = m.mem (m.gpr .rsp) := by
    intro a ha; rw [q_mem a (by omega) (by omega), ha]; exact p_ret
  have c_rbx := p_cs .rbx (by simp)
  have c_rbp := p_cs .rbp (by simp)
  have c_r12 := p_cs .r12 (by simp)
  have c_r13 := p_cs .r13 (by simp)
  have c_r14 := p_cs .r14 (by simp)
  have c_r15 := p_cs .r15 (by simp)
  refine ⟨?_, ?_, ?_⟩
  · intro r hr
    cases r <;>
      simp (disch := omega) [post, $s:ident, exec_cons, step, q_rsp, p_rsp, q0, q8, q16, q24, s0, s8, s16, s24, s32,
        s40, sret, q_rbx, q_rbp, q_r12, q_r13, q_r14, q_r15, c_rbx, c_rbp, c_r12, c_r13, c_r14, c_r15] at hr ⊢
  · simp (disch := omega) [post, $s:ident, exec_cons, step, q_rsp, p_rsp, q0, q8, q16, q24, s0, s8, s16, s24, s32,
      s40, sret]
    try omega
  · simp (disch := omega) [post, $s:ident, exec_cons, step, q_rsp, p_rsp, q0, q8, q16, q24, s0, s8, s16, s24, s32,
      s40, sret]
))

/- frame of `F` bytes: `sub $F; spill…; mov rsp,rdi; and -16; sub $16; store rdi; call; load rsp;
   store rax → return slot; reload…; add; ret` -/
set_option hygiene false in
macro "exit_stub_proof" s:ident c:str F:num : tactic => `(tactic| (
  have hs : $s = pre $s ++ (.call $c :: post $s) := by rfl
  have hal := align16_bounds (m.gpr .rsp - $F)
  have hex : exec env $s m = exec env (post $s) (env.callee $c (exec env (pre $s) m)) := by
    conv => lhs; rw [hs]
    rw [exec_append, exec_cons]; rfl
  unfold ExitOK
  rw [hex]
  have p_rsp : (exec env (pre $s) m).gpr .rsp = align16 (m.gpr .rsp - $F) - 16 := by
    simp (disch := omega) [pre, $s:ident, exec_cons, step, mem_setM_eq, mem_setM_ne]
  have p_top : (exec env (pre $s) m).mem (align16 (m.gpr .rsp - $F) - 16) = m.gpr .rsp - $F := by
    simp (disch := omega) [pre, $s:ident, exec_cons, step, mem_setM_eq, mem_setM_ne]
  have p_cs : (exec env (pre $s) m).gpr .rbx = m.gpr .rbx ∧ (exec env (pre $s) m).gpr .rbp = m.gpr .rbp ∧
      (exec env (pre $s) m).gpr .r12 = m.gpr .r12 ∧ (exec env (pre $s) m).gpr .r13 = m.gpr .r13 ∧
      (exec env (pre $s) m).gpr .r14 = m.gpr .r14 ∧ (exec env (pre $s) m).gpr .r15 = m.gpr .r15 := by
    simp (disch := omega) [pre, $s:ident, exec_cons, step, mem_setM_eq, mem_setM_ne]
  have q_rsp := h.rsp (exec env (pre $s) m)
  have q_mem := h.mem (exec env (pre $s) m)
  have q_rbx := (h.rbx (exec env (pre $s) m)).trans p_cs.1
  have q_rbp := (h.rbp (exec env (pre $s) m)).trans p_cs.2.1
  have q_r12 := (h.r12 (exec env (pre $s) m)).trans p_cs.2.2.1
  have q_r13 := (h.r13 (exec env (pre $s) m)).trans p_cs.2.2.2.1
  have q_r14 := (h.r14 (exec env (pre $s) m)).trans p_cs.2.2.2.2.1
  have q_r15 := (h.r15 (exec env (pre $s) m)).trans p_cs.2.2.2.2.2
  rw [p_rsp] at q_rsp q_mem
  generalize env.callee $c (exec env (pre $s) m) = Q at *
  have q_mem' : ∀ a, align16 (m.gpr .rsp - $F) - 16 ≤ a → a < m.gpr .rsp →
      Q.mem a = (exec env (pre $s) m).mem a := q_mem
  have q_top : ∀ a, a = align16 (m.gpr .rsp - $F) - 16 → Q.mem a = m.gpr .rsp - $F := by
    intro a ha; rw [q_mem' a (by omega) (by omega), ha]; exact p_top
  try (have e0 : Q.mem (m.gpr .rsp - $F + 0) = (exec env (pre $s) m).mem (m.gpr .rsp - $F + 0) := q_mem' _ (by omega) (by omega)
       simp (disch := omega) [pre, $s:ident, exec_cons, step, mem_setM_eq, mem_setM_ne] at e0)
  try (have e8 : Q.mem (m.gpr .rsp - $F + 8) = (exec env (pre $s) m).mem (m.gpr .rsp - $F + 8) := q_mem' _ (by omega) (by omega)
       simp (disch := omega) [pre, $s:ident, exec_cons, step, mem_setM_eq, mem_setM_ne] at e8)
  try (have e16 : Q.mem (m.gpr .rsp - $F + 16) = (exec env (pre $s) m).mem (m.gpr .rsp - $F + 16) := q_mem' _ (by omega) (by omega)
       simp (disch := omega) [pre, $s:ident, exec_cons, step, mem_setM_eq, mem_setM_ne] at e16)
  try (have e24 : Q.mem (m.gpr .rsp - $F + 24) = (exec env (pre $s) m).mem (m.gpr .rsp - $F + 24) := q_mem' _ (by omega) (by omega)
       simp (disch := omega) [pre, $s:ident, exec_cons, step, mem_setM_eq, mem_setM_ne] at e24)
  try (have e32 : Q.mem (m.gpr .rsp - $F + 32) = (exec env (pre $s) m).mem (m.gpr .rsp - $F + 32) := q_mem' _ (by omega) (by omega)
       simp (disch := omega) [pre, $s:ident, exec_cons, step, mem_setM_eq, mem_setM_ne] at e32)
  try (have e40 : Q.mem (m.gpr .rsp - $F + 40) = (exec env (pre $s) m).mem (m.gpr .rsp - $F + 40) := q_mem' _ (by omega) (by omega)
       simp (disch := omega) [pre, $s:ident, exec_cons, step, mem_setM_eq, mem_setM_ne] at e40)
  try (have e48 : Q.mem (m.gpr .rsp - $F + 48) = (exec env (pre $s) m).mem (m.gpr .rsp - $F + 48) := q_mem' _ (by omega) (by omega)
       simp (disch := omega) [pre, $s:ident, exec_cons, step, mem_setM_eq, mem_setM_ne] at e48)
  try (have e56 : Q.mem (m.gpr .rsp - $F + 56) = (exec env (pre $s) m).mem (m.gpr .rsp - $F + 56) := q_mem' _ (by omega) (by omega)
       simp (disch := omega) [pre, $s:ident, exec_cons, step, mem_setM_eq, mem_setM_ne] at e56)
  try (have e64 : Q.mem (m.gpr .rsp - $F + 64) = (exec env (pre $s) m).mem (m.gpr .rsp - $F + 64) := q_mem' _ (by omega) (by omega)
       simp (disch := omega) [pre, $s:ident, exec_cons, step, mem_setM_eq, mem_setM_ne] at e64)
  try (have e72 : Q.mem (m.gpr .rsp - $F + 72) = (exec env (pre $s) m).mem (m.gpr .rsp - $F + 72) := q_mem' _ (by omega) (by omega)
       simp (disch := omega) [pre, $s:ident, exec_cons, step, mem_setM_eq, mem_setM_ne] at e72)
  try (have e80 : Q.mem (m.gpr .rsp - $F + 80) = (exec env (pre $s) m).mem (m.gpr .rsp - $F + 80) := q_mem' _ (by omega) (by omega)
       simp (disch := omega) [pre, $s:ident, exec_cons, step, mem_setM_eq, mem_setM_ne] at e80)
  try (have e88 : Q.mem (m.gpr .rsp - $F + 88) = (exec env (pre $s) m).mem (m.gpr .rsp - $F + 88) := q_mem' _ (by omega) (by omega)
       simp (disch := omega) [pre, $s:ident, exec_cons, step, mem_setM_eq, mem_setM_ne] at e88)
  try (have e96 : Q.mem (m.gpr .rsp - $F + 96) = (exec env (pre $s) m).mem (m.gpr .rsp - $F + 96) := q_mem' _ (by omega) (by omega)
       simp (disch := omega) [pre, $s:ident, exec_cons, step, mem_setM_eq, mem_setM_ne] at e96)
  try (have e104 : Q.mem (m.gpr .rsp - $F + 104) = (exec env (pre $s) m).mem (m.gpr .rsp - $F + 104) := q_mem' _ (by omega) (by omega)
       simp (disch := omega) [pre, $s:ident, exec_cons, step, mem_setM_eq, mem_setM_ne] at e104)
  clear q_mem q_mem' p_top p_cs hs
  refine ⟨?_, ⟨?_, ?_, ?_, ?_⟩, ?_, ?_⟩
  · intro r hr
    cases r <;> first
      | (exfalso; revert hr; decide)
      | simp (disch := omega) [post, $s:ident, exec_cons, step, q_rsp, q_top, mem_setM_eq, mem_setM_ne,
          q_rbx, q_rbp, q_r12, q_r13, q_r14, q_r15, *]
  all_goals
    simp (disch := omega) [post, $s:ident, exec_cons, step, q_rsp, q_top, mem_setM_eq, mem_setM_ne, *]
  all_goals try omega))

end Uft.C01

/- C06: what a reader of a coherent record stream expects to see (`specStep`: one stack of
   open calls per task, indent = the record's depth field, duration = exit - entry of the
   call on top), and the proof that `replayX` without folding shows exactly that
   (`replayX_refines_spec`).  Coherent: depth fields agree with the stack, a longjmp goes
   back to the jump point armed last, a forked child starts where its parent's fork() was
   (`cohB`).  Core only. -/
import Uft.Lemmas.ReplayX
namespace Uft.Replay
open Uft.Merge

/-! ### the reader's view -/

/-- an open call: function and entry time -/
structure SFrame where
  addr : Nat
  tin : Nat
deriving DecidableEq, Repr, Inhabited

def SFrame.slot (f : SFrame) : Frame := { addr := f.addr, total := f.tin, valid := true }

structure STask where
  /-- the open calls, outermost first -/
  stk : List SFrame
  /-- number of open calls, fork() included, at the task's last fork-family entry (0 = none yet) -/
  fork : Nat
  /-- the open calls at an exec-family entry whose outcome is not known yet -/
  pend : Option (List SFrame)
deriving DecidableEq, Repr

structure Spec where
  /-- `none`: no record of the task seen yet -/
  task : Nat → Option STask
  /-- number of open calls, setjmp() included, at the last setjmp-family entry of any task -/
  armed : Nat

/-- what task.txt says: the task with tid = ppid (if it is a task of the data), forked or not -/
structure Static where
  par : Nat → Option Nat
  forked : Nat → Bool

def updT (f : Nat → Option STask) (i : Nat) (T : STask) : Nat → Option STask := fun j => if j = i then some T else f j

def Spec.forkOf (S : Spec) : Option Nat → Nat
  | some p => match S.task p with
    | some T => T.fork
    | none => 0
  | none => 0

/-- the task at its first record: it inherits `firstCount r` open calls of unknown origin -/
def startT (S : Spec) (i : Nat) (r : Rec) : STask :=
  match S.task i with
  | some T => T
  | none => { stk := List.replicate (firstCount r) ⟨0, r.time⟩, fork := 0, pend := none }

/-- a task's first record: a forked child starts where the fork() it returns from was called
    (without the FORK-LATEST repair: only if that is the parent's latest fork so far); any other
    task starts with an ENTRY at depth 0 (with the TID-ORPHAN repair: a forked task anywhere) -/
def startOK (fx : Fixes) (st : Static) (S : Spec) (i : Nat) (r : Rec) : Bool :=
  match S.task i with
  | some _ => true
  | none =>
    if S.forkOf (st.par i) ≠ 0 then fx.forkLatest || S.forkOf (st.par i) == firstCount r
    else (fx.orphan && st.forked i) || firstCount r == 0

/-- the stack an EXIT pops: after an exec-family entry, the EXIT is that call returning (it failed) -/
def exitStk (T : STask) : List SFrame :=
  match T.pend with
  | some l => l
  | none => T.stk

def stepOK (fx : Fixes) (cls : Nat → Fix) (st : Static) (S : Spec) (i : Nat) (r : Rec) : Bool :=
  startOK fx st S i r &&
  (if r.exit then
    ((startT S i r).pend.isNone || fx.execFail) && exitStk (startT S i r) != [] &&
      r.depth + 1 == (exitStk (startT S i r)).length
   else
    r.depth == (startT S i r).stk.length &&
      (cls r.addr != .longjmp || decide (S.armed ≤ (startT S i r).stk.length + 1)))

/-- the task's record after an ENTRY of `r`: the new call is open -/
def pushT (T : STask) (r : Rec) : List SFrame := T.stk ++ [⟨r.addr, r.time⟩]

def entrySpec (cls : Nat → Fix) (S : Spec) (i : Nat) (r : Rec) (T : STask) : Spec :=
  match cls r.addr with
  | .none => { S with task := updT S.task i { T with stk := pushT T r, pend := none } }
  | .fork => { S with task := updT S.task i { stk := pushT T r, fork := T.stk.length + 1, pend := none } }
  | .setjmp => { task := updT S.task i { T with stk := pushT T r, pend := none }, armed := T.stk.length + 1 }
  | .exec => { S with task := updT S.task i { T with stk := [], pend := some (pushT T r) } }
  | .longjmp => { S with task := updT S.task i { T with stk := (pushT T r).take S.armed, pend := none } }

def specStep (cls : Nat → Fix) (S : Spec) (i : Nat) (r : Rec) : Spec × Ev :=
  if r.exit then
    ({ S with task := updT S.task i { startT S i r with stk := (exitStk (startT S i r)).dropLast, pend := none } },
     { kind := .exit, task := i, indent := r.depth, fn := r.addr,
       addr := ((exitStk (startT S i r)).getLast?.getD default).addr,
       dur := r.time - ((exitStk (startT S i r)).getLast?.getD default).tin, time := r.time })
  else
    (entrySpec cls S i r (startT S i r),
     { kind := .entry, task := i, indent := r.depth, fn := r.addr, addr := r.addr, dur := 0, time := r.time })

/-- the stream is coherent from the reader's state `S` on -/
def cohB (fx : Fixes) (cls : Nat → Fix) (st : Static) : Spec → List (Nat × Rec) → Bool
  | _, [] => true
  | S, (i, r) :: rest => stepOK fx cls st S i r && cohB fx cls st (specStep cls S i r).1 rest

/-- the lines the reader expects -/
def specLines (cls : Nat → Fix) : Spec → List (Nat × Rec) → List Ev
  | _, [] => []
  | S, (i, r) :: rest => (specStep cls S i r).2 :: specLines cls (specStep cls S i r).1 rest

def spec0 : Spec := { task := fun _ => none, armed := 0 }

theorem stepOK_entry {fx : Fixes} {cls : Nat → Fix} {st : Static} {S : Spec} {i : Nat} {r : Rec}
    (hr : r.exit = false) (h : stepOK fx cls st S i r = true) :
    r.depth = (startT S i r).stk.length ∧ (cls r.addr = .longjmp → S.armed ≤ (startT S i r).stk.length + 1) := by
  simp only [stepOK, hr, Bool.false_eq_true, if_false, Bool.and_eq_true, beq_iff_eq, Bool.or_eq_true, bne_iff_ne,
    ne_eq, decide_eq_true_eq] at h
  exact ⟨h.2.1, fun hl => h.2.2.resolve_left (fun hn => hn hl)⟩

theorem stepOK_exit {fx : Fixes} {cls : Nat → Fix} {st : Static} {S : Spec} {i : Nat} {r : Rec}
    (hr : r.exit = true) (h : stepOK fx cls st S i r = true) :
    exitStk (startT S i r) ≠ [] ∧ r.depth + 1 = (exitStk (startT S i r)).length := by
  simp only [stepOK, hr, if_true, Bool.and_eq_true, bne_iff_ne, ne_eq, beq_iff_eq] at h
  exact ⟨h.2.1.2, h.2.2⟩

/-! ### stack slots against a list of open calls -/

def SlotsAre (slots : Nat → Frame) (l : List SFrame) : Prop := ∀ k (h : k < l.length), slots k = l[k].slot

theorem SlotsAre.nil (slots : Nat → Frame) : SlotsAre slots [] := fun k h => absurd h (Nat.not_lt_zero k)

theorem SlotsAre.push {slots : Nat → Frame} {l : List SFrame} (h : SlotsAre slots l) (f : SFrame) :
    SlotsAre (setSlot slots l.length f.slot) (l ++ [f]) := by
  intro k hk
  by_cases hkl : k < l.length
  · have : k ≠ l.length := Nat.ne_of_lt hkl
    simp [setSlot, this, List.getElem_append_left hkl, h k hkl]
  · have hke : k = l.length := by simp at hk; omega
    subst hke
    simp [setSlot]

theorem SlotsAre.pop {slots : Nat → Frame} {l : List SFrame} (h : SlotsAre slots l) (f : Frame) :
    SlotsAre (setSlot slots (l.length - 1) f) l.dropLast := by
  intro k hk
  have hk' : k < l.length - 1 := by simpa using hk
  have : k ≠ l.length - 1 := Nat.ne_of_lt hk'
  simp [setSlot, this, h k (Nat.lt_of_lt_of_le hk' (Nat.sub_le _ _))]

theorem SlotsAre.take {slots : Nat → Frame} {l : List SFrame} (h : SlotsAre slots l) (c : Nat) :
    SlotsAre slots (l.take c) := by
  intro k hk
  have hk' : k < l.length := by
    simp only [List.length_take] at hk
    omega
  simp [h k hk']

theorem SlotsAre.congr {s1 s2 : Nat → Frame} {l : List SFrame} (h : SlotsAre s1 l) (he : ∀ k, k < l.length → s2 k = s1 k) :
    SlotsAre s2 l := fun k hk => (he k hk).trans (h k hk)

/-! ### the reader's view against replay's state -/

def RelT (w : W) (i : Nat) : Option STask → Prop
  | none => (w.g i).started = false ∧ (w.g i).disp = 0 ∧ (∀ k, ((w.g i).slots k).addr = 0) ∧
      (w.g i).forkDisp = 0 ∧ w.fc i = 0 ∧ w.xp i = none
  | some T => (w.g i).started = true ∧ (w.g i).stackCount = T.stk.length ∧ (w.g i).disp = T.stk.length ∧
      SlotsAre (w.g i).slots T.stk ∧ (w.g i).forkDisp = T.fork ∧ w.fc i = T.fork ∧
      (match T.pend with
       | none => w.xp i = none
       | some l => T.stk = [] ∧ w.xp i = some (l.length, l.length) ∧ SlotsAre (w.g i).slots l)

structure Rel (st : Static) (w : W) (S : Spec) : Prop where
  task : ∀ i, RelT w i (S.task i)
  par : ∀ i, (w.g i).parent = st.par i
  forked : ∀ i, w.forked i = st.forked i
  sjd : w.sjDepth = S.armed
  sjc : w.sjCount = S.armed

theorem RelT_congr {w w' : W} {j : Nat} {o : Option STask} (hg : w'.g j = w.g j) (hf : w'.fc j = w.fc j)
    (hx : w'.xp j = w.xp j) (h : RelT w j o) : RelT w' j o := by
  cases o with
  | none => simpa only [RelT, hg, hf, hx] using h
  | some T => simpa only [RelT, hg, hf, hx] using h

/-- a started task that holds exactly the open calls `L`, shown at depth `L.length` -/
structure Ready (s : TaskSt) (L : List SFrame) (F : Nat) : Prop where
  started : s.started = true
  count : s.stackCount = L.length
  disp : s.disp = L.length
  slots : SlotsAre s.slots L
  fork : s.forkDisp = F

theorem updT_same (f : Nat → Option STask) (i : Nat) (T : STask) : updT f i T i = some T := by simp [updT]
theorem updT_other {f : Nat → Option STask} {i j : Nat} (T : STask) (h : j ≠ i) : updT f i T j = f j := by simp [updT, h]

/-- one record of task `i`: its task state becomes `s`, in step with `T`; the other tasks are not touched -/
theorem Rel.step {st : Static} {w w' : W} {S : Spec} (h : Rel st w S) (i : Nat) {s : TaskSt} {T : STask} {a : Nat}
    (hg : w'.g = upd w.g i s) (hfc : ∀ j, j ≠ i → w'.fc j = w.fc j) (hxp : ∀ j, j ≠ i → w'.xp j = w.xp j)
    (hforked : w'.forked = w.forked) (hpar : s.parent = (w.g i).parent)
    (hs : Ready s T.stk T.fork) (hfci : w'.fc i = T.fork)
    (hp : match T.pend with
      | none => w'.xp i = none
      | some l => T.stk = [] ∧ w'.xp i = some (l.length, l.length) ∧ SlotsAre s.slots l)
    (hd : w'.sjDepth = a) (hc : w'.sjCount = a) :
    Rel st w' { task := updT S.task i T, armed := a } := by
  refine ⟨fun j => ?_, fun j => ?_, fun j => by rw [hforked]; exact h.forked j, hd, hc⟩
  · by_cases hj : j = i
    · subst hj
      have hgj : w'.g j = s := by rw [hg, upd_same]
      simp only [updT_same, RelT, hgj]
      exact ⟨hs.started, hs.count, hs.disp, hs.slots, hs.fork, hfci, hp⟩
    · simp only [updT_other _ hj]
      exact RelT_congr (by rw [hg, upd_other _ hj]) (hfc j hj) (hxp j hj) (h.task j)
  · rw [hg, ← h.par j]
    by_cases hj : j = i
    · subst hj
      rw [upd_same, hpar]
    · rw [upd_other _ hj]

theorem Rel.forkDisp_parent {st : Static} {w : W} {S : Spec} (h : Rel st w S) (i : Nat) :
    (match (w.g i).parent with | some p => (w.g p).forkDisp | none => 0) = S.forkOf (st.par i) ∧
    (match (w.g i).parent with | some p => w.fc p | none => 0) = S.forkOf (st.par i) := by
  rw [h.par i]
  cases hp : st.par i with
  | none => simp [Spec.forkOf]
  | some p =>
    have := h.task p
    cases hT : S.task p with
    | none =>
      rw [hT] at this
      obtain ⟨_, _, _, hf, hfc, _⟩ := this
      simp [Spec.forkOf, hT, hf, hfc]
    | some T =>
      rw [hT] at this
      obtain ⟨_, _, _, _, hf, hfc, _⟩ := this
      simp [Spec.forkOf, hT, hf, hfc]

theorem inhX_of_rel {fx : Fixes} {st : Static} {w : W} {S : Spec} (h : Rel st w S) (i : Nat) (r : Rec) :
    inhX fx w i r =
      if S.forkOf (st.par i) = 0 then (if fx.orphan && st.forked i then firstCount r else 0)
      else if fx.forkLatest then firstCount r
      else S.forkOf (st.par i) := by
  obtain ⟨h1, h2⟩ := h.forkDisp_parent i
  unfold inhX
  rw [← h.forked i]
  cases hp : (w.g i).parent with
  | none =>
    rw [hp] at h1
    simp only at h1
    simp [← h1]
  | some p =>
    rw [hp] at h1 h2
    simp only at h1 h2
    simp only [h1, h2, Nat.add_sub_cancel_left]

/-- the first record of a task: `startTask` gives it the inherited calls and the depth to match -/
theorem ready_fresh {fx : Fixes} {st : Static} {w : W} {S : Spec} (h : Rel st w S) (i : Nat) (r : Rec)
    (hT : S.task i = none) (hok : startOK fx st S i r = true) :
    Ready (startTask (inhX fx w i r) (w.g i) r) (List.replicate (firstCount r) ⟨0, r.time⟩) 0 := by
  have hr := h.task i
  rw [hT] at hr
  obtain ⟨hs, hd, hsl, hf, _, _⟩ := hr
  -- the start condition says that the depth replay inherits is the number of calls the task starts inside
  have hinh : inhX fx w i r = firstCount r := by
    rw [inhX_of_rel h]
    simp only [startOK, hT] at hok
    by_cases hF : S.forkOf (st.par i) = 0
    · simp only [hF, ne_eq, not_true_eq_false, if_false, Bool.or_eq_true, beq_iff_eq] at hok
      rw [if_pos hF]
      rcases hok with ho | ho
      · rw [if_pos ho]
      · rw [ho]
        exact ite_self 0
    · simp only [ne_eq, hF, not_false_eq_true, if_true, Bool.or_eq_true, beq_iff_eq] at hok
      rw [if_neg hF]
      rcases hok with ho | ho
      · rw [if_pos ho]
      · rw [ho]
        exact ite_self _
  refine ⟨rfl, ?_, ?_, ?_, hf⟩
  · simp [startTask, hs]
  · simp only [startTask, hs, Bool.false_eq_true, if_false, hd, List.length_replicate, hinh]
    split <;> omega
  · intro k hk
    have hk' : k < firstCount r := by simpa using hk
    simp only [startTask, hs, Bool.false_eq_true, if_false, hk', if_true, List.getElem_replicate, SFrame.slot, hsl k]

theorem restoreX_parent (fx : Fixes) (w : W) (i : Nat) (r : Rec) : (restoreX fx w i r).parent = (w.g i).parent := by
  unfold restoreX
  split
  · split <;> rfl
  · rfl

/-- any record of a task whose stream is coherent so far -/
theorem ready_of_rel {fx : Fixes} {cls : Nat → Fix} {st : Static} {w : W} {S : Spec} (h : Rel st w S) (i : Nat) (r : Rec)
    (hok : stepOK fx cls st S i r = true) :
    Ready (startTask (inhX fx w i r) (restoreX fx w i r) r)
      (if r.exit then exitStk (startT S i r) else (startT S i r).stk) (startT S i r).fork ∧
    w.fc i = (startT S i r).fork := by
  simp only [stepOK, Bool.and_eq_true] at hok
  obtain ⟨hst, hrest⟩ := hok
  have hr := h.task i
  cases hT : S.task i with
  | none =>
    rw [hT] at hr
    obtain ⟨_, _, _, _, hfc, hxp⟩ := hr
    have hre : restoreX fx w i r = w.g i := by simp [restoreX, hxp]
    rw [hre]
    simp only [startT, hT, exitStk, ite_self]
    exact ⟨ready_fresh h i r hT hst, hfc⟩
  | some T =>
    rw [hT] at hr
    obtain ⟨hs, hc, hd, hsl, hf, hfc, hp⟩ := hr
    simp only [startT, hT]
    cases hpe : T.pend with
    | none =>
      rw [hpe] at hp
      have hre : restoreX fx w i r = w.g i := by simp [restoreX, hp]
      rw [hre, startTask_started hs]
      simp only [exitStk, hpe, ite_self]
      exact ⟨⟨hs, hc, hd, hsl, hf⟩, hfc⟩
    | some l =>
      rw [hpe] at hp
      obtain ⟨hnil, hxp, hsl2⟩ := hp
      by_cases hx : r.exit = true
      · -- the exec returned
        simp only [hx, if_true, startT, hT, hpe, Option.isNone_some, Bool.false_or, Bool.and_eq_true] at hrest
        have hc0 : (w.g i).stackCount = 0 := by rw [hc, hnil]; rfl
        have hre : restoreX fx w i r = { w.g i with disp := l.length, stackCount := l.length } := by
          simp [restoreX, hxp, hrest.1.1, hx, hc0]
        rw [hre, startTask_started (by exact hs)]
        simp only [hx, if_true, exitStk, hpe]
        exact ⟨⟨hs, rfl, rfl, hsl2, hf⟩, hfc⟩
      · have hx : r.exit = false := by simpa using hx
        have hre : restoreX fx w i r = w.g i := by simp [restoreX, hxp, hx]
        rw [hre, startTask_started hs]
        simp only [hx, Bool.false_eq_true, if_false]
        exact ⟨⟨hs, hc, hd, hsl, hf⟩, hfc⟩

theorem getLast_getD_eq {L : List SFrame} (hne : L ≠ []) :
    L.getLast?.getD default = L[L.length - 1]'(by have := List.length_pos_iff.2 hne; omega) := by
  have hl := List.length_pos_iff.2 hne
  rw [List.getLast?_eq_getElem?, List.getElem?_eq_getElem (by omega)]
  rfl

theorem entry_ready {s : TaskSt} {r : Rec} {L : List SFrame} {F : Nat}
    (h : Ready s L F) (hr : r.exit = false) (f : Nat → Bool) (i : Nat) :
    Ready (entryState f (consume 0 s r) r) (L ++ [⟨r.addr, r.time⟩]) (if f r.addr then L.length + 1 else F) ∧
    (consume 0 s r).stackCount = L.length + 1 ∧ (consume 0 s r).disp = L.length ∧
    entryEv i (consume 0 s r) r =
      { kind := .entry, task := i, indent := L.length, fn := r.addr, addr := r.addr, dur := 0, time := r.time } := by
  rw [consume_entry h.started hr]
  refine ⟨⟨h.started, by simp [entryState, h.count], by simp [entryState, h.disp], ?_,
    by simp [entryState, h.disp, h.fork]⟩, by simp [h.count], h.disp, by simp [entryEv, setSlot, h.disp]⟩
  rw [h.count]
  exact h.slots.push ⟨r.addr, r.time⟩

theorem exit_ready {s : TaskSt} {r : Rec} {L : List SFrame} {F : Nat}
    (h : Ready s L F) (hr : r.exit = true) (hne : L ≠ []) (i : Nat) :
    Ready (exitState (consume 0 s r)) L.dropLast F ∧
    exitEv i (consume 0 s r) r =
      { kind := .exit, task := i, indent := L.length - 1, fn := r.addr, addr := (L.getLast?.getD default).addr,
        dur := r.time - (L.getLast?.getD default).tin, time := r.time } := by
  have hl := List.length_pos_iff.2 hne
  have hc : s.stackCount = (L.length - 1) + 1 := by rw [h.count]; omega
  have htop := h.slots (L.length - 1) (by omega)
  rw [← getLast_getD_eq hne] at htop
  rw [consume_exit h.started hr hc]
  refine ⟨⟨h.started, by simp [exitState], by simp [exitState, h.disp], h.slots.pop _, h.fork⟩, ?_⟩
  simp [exitEv, setSlot, htop, SFrame.slot, h.disp]

@[simp] theorem consume_forkDisp' (inh : Nat) (st : TaskSt) (r : Rec) : (consume inh st r).forkDisp = st.forkDisp := rfl

theorem entryStateX_parent (cls : Nat → Fix) (w : W) (s : TaskSt) (r : Rec) : (entryStateX cls w s r).parent = s.parent := by
  unfold entryStateX
  split <;> rfl

theorem noteW_forked (cls : Nat → Fix) (w : W) (i : Nat) (s : TaskSt) (r : Rec) : (noteW cls w i s r).forked = w.forked := by
  unfold noteW; split <;> rfl

theorem noteW_fc_other (cls : Nat → Fix) (w : W) {i j : Nat} (s : TaskSt) (r : Rec) (h : j ≠ i) :
    (noteW cls w i s r).fc j = w.fc j := by
  unfold noteW
  split <;> simp [updN, h]

theorem noteW_xp_other (cls : Nat → Fix) (w : W) {i j : Nat} (s : TaskSt) (r : Rec) (h : j ≠ i) :
    (noteW cls w i s r).xp j = w.xp j := by
  unfold noteW
  split <;> simp [updO, h]

/-- one record: replay's state stays in step with the reader's, and prints the reader's line -/
theorem step_rel {fx : Fixes} {cls : Nat → Fix} {st : Static} {w : W} {S : Spec} (h : Rel st w S) (i : Nat) (r : Rec)
    (hok : stepOK fx cls st S i r = true) :
    Rel st (stepX fx cls w i r).1 (specStep cls S i r).1 ∧ (stepX fx cls w i r).2 = (specStep cls S i r).2 := by
  obtain ⟨hrdy, hfc⟩ := ready_of_rel h i r hok
  have hpar := restoreX_parent fx w i r
  by_cases hx : r.exit = true
  · obtain ⟨hne, hdep⟩ := stepOK_exit hx hok
    rw [if_pos hx] at hrdy
    obtain ⟨hR, hev⟩ := exit_ready hrdy hx hne i
    rw [← consume_startTask] at hR hev
    simp only [stepX, specStep, hx, if_true, consumeX]
    refine ⟨h.step i rfl (fun _ _ => rfl) (fun j hj => by simp [exitW, updO, hj]) rfl hpar hR hfc ?_ h.sjd h.sjc, ?_⟩
    · simp [exitW, updO]
    · rw [hev, ← hdep, Nat.add_sub_cancel]
  · have hx : r.exit = false := by simpa using hx
    obtain ⟨hdep, hlj⟩ := stepOK_entry hx hok
    simp only [hx, Bool.false_eq_true, if_false] at hrdy
    obtain ⟨hR, hc, hd, hev⟩ := entry_ready hrdy hx (isForkOf cls) i
    rw [← consume_startTask] at hR hc hd hev
    have hR : Ready _ (pushT (startT S i r) r) _ := hR
    have hfk : (consume (inhX fx w i r) (restoreX fx w i r) r).forkDisp = (startT S i r).fork := hrdy.fork
    simp only [stepX, specStep, hx, Bool.false_eq_true, if_false, consumeX]
    refine ⟨?_, by rw [hev, hdep]⟩
    -- what `entryW` leaves alone, whatever the function
    have step := fun {T a} =>
      h.step (w' := entryW cls w i (consume (inhX fx w i r) (restoreX fx w i r) r) r) i (T := T) (a := a) rfl
        (fun j hj => noteW_fc_other cls w _ r hj) (fun j hj => noteW_xp_other cls w _ r hj) (noteW_forked cls w i _ r)
        ((entryStateX_parent cls w _ r).trans hpar)
    generalize consume (inhX fx w i r) (restoreX fx w i r) r = s at *
    cases hcls : cls r.addr with
    | none =>
      simp only [entrySpec, entryStateX, entryW, noteW, hcls] at step ⊢
      exact step (by simpa [isForkOf, hcls] using hR) hfc (updO_same _ _ _) h.sjd h.sjc
    | fork =>
      simp only [entrySpec, entryStateX, entryW, noteW, hcls] at step ⊢
      exact step (by simpa [isForkOf, hcls] using hR) (by simp [updN, hc]) (updO_same _ _ _) h.sjd h.sjc
    | setjmp =>
      simp only [entrySpec, entryStateX, entryW, noteW, hcls] at step ⊢
      exact step (by simpa [isForkOf, hcls] using hR) hfc (updO_same _ _ _) (by rw [hd]) hc
    | exec =>
      simp only [entrySpec, entryStateX, entryW, noteW, hcls] at step ⊢
      exact step (T := { startT S i r with stk := [], pend := some (pushT (startT S i r) r) })
        ⟨hR.started, rfl, rfl, SlotsAre.nil _, hfk⟩ hfc
        ⟨rfl, by simp [updO, hc, hd, pushT], hR.slots⟩ h.sjd h.sjc
    | longjmp =>
      have harm : S.armed ≤ (pushT (startT S i r) r).length := by
        simpa [pushT] using hlj hcls
      simp only [entrySpec, entryStateX, entryW, noteW, hcls] at step ⊢
      exact step (T := { startT S i r with stk := (pushT (startT S i r) r).take S.armed, pend := none })
        ⟨hR.started, by simp [h.sjc, List.length_take, Nat.min_eq_left harm],
          by simp [h.sjd, List.length_take, Nat.min_eq_left harm], hR.slots.take S.armed, hfk⟩
        hfc (updO_same _ _ _) h.sjd h.sjc

/-! ### the whole stream -/

/-- the reader's state after the stream -/
def specEnd (cls : Nat → Fix) : Spec → List (Nat × Rec) → Spec
  | S, [] => S
  | S, (i, r) :: rest => specEnd cls (specStep cls S i r).1 rest

theorem replayX_refines_spec (fx : Fixes) (cls : Nat → Fix) (st : Static) :
    ∀ (m : List (Nat × Rec)) (w : W) (S : Spec), Rel st w S → cohB fx cls st S m = true →
      (replayX fx cls false w m).2 = specLines cls S m ∧ Rel st (replayX fx cls false w m).1 (specEnd cls S m) := by
  intro m
  induction m with
  | nil => intro w S h _; exact ⟨by simp [replayX, specLines], by simpa [replayX, specEnd] using h⟩
  | cons p rest ih =>
    intro w S h hc
    obtain ⟨i, r⟩ := p
    simp only [cohB, Bool.and_eq_true] at hc
    obtain ⟨h1, h2⟩ := step_rel h i r hc.1
    obtain ⟨i1, i2⟩ := ih _ _ h1 hc.2
    rw [replayX_false_cons]
    exact ⟨by simp only [specLines, h2, i1], by simpa only [specEnd] using i2⟩

def static0 (parents : List (Option Nat)) (forked : List Bool) : Static :=
  { par := fun i => parents.getD i none, forked := fun i => forked.getD i false }

theorem rel0 (parents : List (Option Nat)) (forked : List Bool) :
    Rel (static0 parents forked) (w0 parents forked) spec0 :=
  ⟨fun _ => ⟨rfl, rfl, fun _ => rfl, rfl, rfl, rfl⟩, fun _ => rfl, fun _ => rfl, rfl, rfl⟩

/-- every record gets one line: kind, task, function and time of the record, at the record's depth -/
theorem specLines_shape (cls : Nat → Fix) : ∀ (m : List (Nat × Rec)) (S : Spec),
    (specLines cls S m).map (fun e => (e.kind, e.task, e.indent, e.fn, e.time)) =
      m.map (fun p => ((if p.2.exit then Kind.exit else Kind.entry), p.1, p.2.depth, p.2.addr, p.2.time)) := by
  intro m
  induction m with
  | nil => intro S; simp [specLines]
  | cons p rest ih =>
    intro S
    obtain ⟨i, r⟩ := p
    simp only [specLines, List.map_cons, ih]
    congr 1
    unfold specStep
    split <;> simp

/-! ### what coherence means around a longjmp -/

theorem specStep_task_other (cls : Nat → Fix) (S : Spec) {i j : Nat} (r : Rec) (h : i ≠ j) :
    (specStep cls S j r).1.task i = S.task i := by
  unfold specStep
  split
  · simp [updT_other _ h]
  · simp only [entrySpec]
    split <;> simp [updT_other _ h]

theorem specEnd_task_other (cls : Nat → Fix) (i : Nat) : ∀ (m : List (Nat × Rec)) (S : Spec),
    (∀ p ∈ m, p.1 ≠ i) → (specEnd cls S m).task i = S.task i := by
  intro m
  induction m with
  | nil => intro S _; rfl
  | cons p rest ih =>
    intro S h
    obtain ⟨j, r⟩ := p
    simp only [specEnd]
    rw [ih _ (fun q hq => h q (List.mem_cons_of_mem _ hq))]
    exact specStep_task_other cls S r (fun e => h (j, r) (by simp) e.symm)

theorem specStep_armed (cls : Nat → Fix) (S : Spec) (i : Nat) (r : Rec) (h : r.exit = false → cls r.addr ≠ .setjmp) :
    (specStep cls S i r).1.armed = S.armed := by
  unfold specStep
  split
  · rfl
  · rename_i hx
    have := h (by simpa using hx)
    simp only [entrySpec]
    split <;> simp_all

theorem specEnd_armed (cls : Nat → Fix) : ∀ (m : List (Nat × Rec)) (S : Spec),
    (∀ p ∈ m, p.2.exit = false → cls p.2.addr ≠ .setjmp) → (specEnd cls S m).armed = S.armed := by
  intro m
  induction m with
  | nil => intro S _; rfl
  | cons p rest ih =>
    intro S h
    obtain ⟨j, r⟩ := p
    simp only [specEnd]
    rw [ih _ (fun q hq => h q (List.mem_cons_of_mem _ hq))]
    exact specStep_armed cls S j r (h (j, r) (by simp))

theorem cohB_append (fx : Fixes) (cls : Nat → Fix) (st : Static) : ∀ (a b : List (Nat × Rec)) (S : Spec),
    cohB fx cls st S (a ++ b) = (cohB fx cls st S a && cohB fx cls st (specEnd cls S a) b) := by
  intro a
  induction a with
  | nil => intro b S; simp [cohB, specEnd]
  | cons p rest ih =>
    intro b S
    obtain ⟨i, r⟩ := p
    simp only [List.cons_append, cohB, specEnd, ih, Bool.and_assoc]

theorem specEnd_append (cls : Nat → Fix) : ∀ (a b : List (Nat × Rec)) (S : Spec),
    specEnd cls S (a ++ b) = specEnd cls (specEnd cls S a) b := by
  intro a
  induction a with
  | nil => intro b S; rfl
  | cons p rest ih => intro b S; obtain ⟨i, r⟩ := p; simp only [List.cons_append, specEnd, ih]

/-- the number of open calls of a task as the reader counts them (0 before its first record) -/
def Spec.depthOf (S : Spec) (i : Nat) : Nat :=
  match S.task i with
  | some T => T.stk.length
  | none => 0

/-- In a coherent stream, a setjmp-family call at depth `d`, then (no other setjmp-family call in
    between, of any task) a longjmp-family call of the same task, then that task's next two
    records `x` (the second return of setjmp) and `e` (the next call): both carry depth `d`. -/
theorem coh_longjmp_depths (fx : Fixes) (cls : Nat → Fix) (st : Static) (S : Spec) (i : Nat) (sj lj x e : Rec)
    (mid mid2 mid3 rest : List (Nat × Rec))
    (hsj : sj.exit = false ∧ cls sj.addr = .setjmp) (hlj : lj.exit = false ∧ cls lj.addr = .longjmp)
    (hx : x.exit = true) (he : e.exit = false)
    (hmid : ∀ p ∈ mid, p.2.exit = false → cls p.2.addr ≠ .setjmp)
    (hmid2 : ∀ p ∈ mid2, p.1 ≠ i) (hmid3 : ∀ p ∈ mid3, p.1 ≠ i)
    (hc : cohB fx cls st S ((i, sj) :: (mid ++ (i, lj) :: (mid2 ++ (i, x) :: (mid3 ++ (i, e) :: rest)))) = true) :
    x.depth = sj.depth ∧ e.depth = sj.depth := by
  simp only [cohB, cohB_append, Bool.and_eq_true] at hc
  obtain ⟨hsjok, _, hljok, _, hxok, _, heok, _⟩ := hc
  -- after the setjmp entry: armed = sj.depth + 1, and it stays so through `mid`
  have ha0 : (specStep cls S i sj).1.armed = sj.depth + 1 := by
    simp [specStep, hsj.1, entrySpec, hsj.2, (stepOK_entry hsj.1 hsjok).1]
  generalize hS1 : specEnd cls (specStep cls S i sj).1 mid = S1 at *
  have ha1 : S1.armed = sj.depth + 1 := by rw [← hS1, specEnd_armed cls mid _ hmid, ha0]
  -- the longjmp entry cuts the stack to `armed` calls
  obtain ⟨T, hT, hTl, hTp⟩ : ∃ T, (specStep cls S1 i lj).1.task i = some T ∧ T.stk.length = sj.depth + 1 ∧
      T.pend = none := by
    refine ⟨{ startT S1 i lj with stk := (pushT (startT S1 i lj) lj).take S1.armed, pend := none },
      by simp [specStep, hlj.1, entrySpec, hlj.2, updT_same], ?_, rfl⟩
    have harm := (stepOK_entry hlj.1 hljok).2 hlj.2
    rw [List.length_take, pushT, List.length_append, List.length_singleton, Nat.min_eq_left harm, ha1]
  generalize hS2 : specEnd cls (specStep cls S1 i lj).1 mid2 = S2 at *
  have hT2 : S2.task i = some T := by rw [← hS2, specEnd_task_other cls i mid2 _ hmid2, hT]
  -- the EXIT pops one of them
  have hxd := (stepOK_exit hx hxok).2
  simp only [startT, hT2, exitStk, hTp, hTl] at hxd
  obtain ⟨T', hT', hT'l⟩ : ∃ T', (specStep cls S2 i x).1.task i = some T' ∧ T'.stk.length = sj.depth := by
    refine ⟨{ startT S2 i x with stk := (exitStk (startT S2 i x)).dropLast, pend := none },
      by simp [specStep, hx, updT_same], ?_⟩
    simp [startT, hT2, exitStk, hTp, hTl]
  generalize hS3 : specEnd cls (specStep cls S2 i x).1 mid3 = S3 at *
  have hT4 : S3.task i = some T' := by rw [← hS3, specEnd_task_other cls i mid3 _ hmid3, hT']
  have hed := (stepOK_entry he heok).1
  simp only [startT, hT4, hT'l] at hed
  exact ⟨Nat.succ.inj hxd, hed⟩

/-- In a coherent stream the task's next ENTRY after an exec-family ENTRY (the new program image)
    carries depth 0. -/
theorem coh_exec_depth (fx : Fixes) (cls : Nat → Fix) (st : Static) (S : Spec) (i : Nat) (ex e : Rec)
    (mid rest : List (Nat × Rec)) (hex : ex.exit = false ∧ cls ex.addr = .exec) (he : e.exit = false)
    (hmid : ∀ p ∈ mid, p.1 ≠ i)
    (hc : cohB fx cls st S ((i, ex) :: (mid ++ (i, e) :: rest)) = true) : e.depth = 0 := by
  simp only [cohB, cohB_append, Bool.and_eq_true] at hc
  obtain ⟨_, _, heok, _⟩ := hc
  have hT : (specStep cls S i ex).1.task i =
      some { startT S i ex with stk := [], pend := some (pushT (startT S i ex) ex) } := by
    simp [specStep, hex.1, entrySpec, hex.2, updT_same]
  generalize hS1 : specEnd cls (specStep cls S i ex).1 mid = S1 at *
  have hT1 : S1.task i = some { startT S i ex with stk := [], pend := some (pushT (startT S i ex) ex) } := by
    rw [← hS1, specEnd_task_other cls i mid _ hmid, hT]
  have hed := (stepOK_entry he heok).1
  simpa [startT, hT1] using hed

/-- the calls replay still has on a task's stack are the reader's open calls -/
theorem openAddrs_of_rel {st : Static} {w : W} {S : Spec} (h : Rel st w S) (i : Nat) :
    openAddrs (w.g i) = match S.task i with
      | some T => if T.pend.isSome then [] else T.stk.map (·.addr)
      | none => (List.range (w.g i).stackCount).map (fun _ => 0) := by
  have hr := h.task i
  cases hT : S.task i with
  | none =>
    rw [hT] at hr
    obtain ⟨_, _, hz, _⟩ := hr
    simp only [openAddrs]
    exact List.map_congr_left fun k _ => hz k
  | some T =>
    rw [hT] at hr
    obtain ⟨_, hc, _, hsl, _, _, hp⟩ := hr
    cases hpe : T.pend with
    | some l =>
      rw [hpe] at hp
      simp only at hp
      simp [openAddrs, hc, hp.1]
    | none =>
      simp only [hpe, Option.isSome_none, Bool.false_eq_true, if_false]
      apply List.ext_getElem
      · simp [openAddrs, hc]
      · intro k h1 h2
        have hk : k < T.stk.length := by simpa using h2
        simp [openAddrs, hsl k hk, SFrame.slot]

end Uft.Replay

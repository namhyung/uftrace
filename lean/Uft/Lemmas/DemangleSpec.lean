import Uft.Lemmas.Demangle
/-!
# C13 — summaries of the grammar functions

`Post f e l0 x0 p l r st'` is the summary of grammar function `f` entered with `pos = p`, `len = l` (`l0`, `x0` as in `At`).  It is
proved for `run n f` by induction on the fuel `n`, for every fuel
`n` with `8 * strlen + rank f + 1 ≤ n + 8 * pos`, i.e. `n ≥ 8 * (strlen - pos) + rank f + 1`; the same induction therefore
shows that the fuel never runs out (termination with an explicit bound).
-/
namespace Uft.Demangle
open Uft.Gen.DemangleTables


/-- functions that may leave `pos` one *below* their entry position (when
    `dd_simple_id` fails it executes `dd->pos--`) -/
def delta : Fn → Nat
  | .expression | .unresolvedName | .baseUnresolvedName | .simpleId | .exprList | .exprListLoop
  | .exprLoop | .unresLoop => 1
  | _ => 0

/-- order of the calls that can happen at the caller's entry position -/
def rank : Fn → Nat
  | .simpleId => 1
  | .baseUnresolvedName | .unresLoop => 2
  | .unresolvedName => 3
  | .expression => 4
  | .exprListLoop | .exprLoop => 5
  | .exprList => 6
  | .exprPrimary | .decltype | .vectorType | .functionType | .arrayType | .ptrToMember | .templateArgs
  | .ctorDtorName | .operatorName | .initializer | .localName | .nestedName | .specialName => 1
  | .unresolvedType => 2
  | .destructorName => 3
  | .unqualifiedName => 2
  | .name | .nestedLoop => 3
  | .typeLoop _ => 4
  | .type => 5
  | .ulLoop | .ftLoop _ | .encLoop | .templateArg => 6
  | .argLoop => 7
  | .encoding => 7

/-- progress made by a successful call -/
def Prog : Fn → Nat → Int → Nat → Prop
  | .typeLoop ret, p, r, p' => 0 ≤ r → p < p' ∨ r = ret
  | .encLoop, _, _, _ | .nestedLoop, _, _, _ | .ulLoop, _, _, _ | .ftLoop _, _, _, _ | .argLoop, _, _, _
  | .exprListLoop, _, _, _ | .exprLoop, _, _, _ | .unresLoop, _, _, _ | .exprList, _, _, _ => True
  | _, p, r, p' => 0 ≤ r → p < p'


/-- `dd_vector_type` entered at the two bytes "Dv" moves on (even when it fails) -/
def DvMoves (e : Env) (p l p' : Nat) : Prop :=
  (∀ c, e.rd p = some c → c.toNat = 68) → (∀ c, e.rd (p + 1) = some c → c.toNat = 118) → p + 2 ≤ l → p < p'

/-- the progress `Prog` (and for `dd_vector_type` also `DvMoves`) of a call entered at `pos = p`, `len = l` -/
def PostP : Fn → Env → Nat → Nat → Int → Nat → Prop
  | .vectorType, e, p, l, r, p' => (0 ≤ r → p < p') ∧ DvMoves e p l p'
  | f, _, p, _, r, p' => Prog f p r p'

theorem PostP.prog {f : Fn} {e : Env} {p l p' : Nat} {r : Int} (h : PostP f e p l r p') : Prog f p r p' := by
  cases f <;> first | exact h | exact h.1

def Post (f : Fn) (e : Env) (l0 x0 p l : Nat) : Int → St → Prop :=
  Summ e (delta f) (PostP f e p l) l0 x0 p


/-- `Need f e st B`: budget `B` suffices for `f` started in `st` (additive form of
    `8 * (strlen - pos) + rank f + 1 ≤ B`, without subtraction) -/
def Need (f : Fn) (e : Env) (st : St) (B : Nat) : Prop := 8 * e.n + rank f + 1 ≤ B + 8 * st.pos


/-- the recursive calls keep their summaries, with the budget `B` in place of the fuel (`Need` in terms of `p`) -/
def RecOK (rec : Fn → M Int) (B : Nat) : Prop :=
  ∀ (g : Fn) (e : Env) (st : St) (l0 x0 p l x : Nat), e.fx = Fixes.all → At e l0 x0 st p l x →
    8 * e.n + rank g + 1 ≤ B + 8 * p → delta g ≤ p → Tri e st (rec g) (Post g e l0 x0 p l)

section rules
variable {rec : Fn → M Int} {B : Nat} {e : Env} {st : St} {p l x l0 x0 : Nat}

theorem s_rec {Q : Int → St → Prop} (hrec : RecOK rec B) (g : Fn) (hfx : e.fx = Fixes.all) (h : At e l0 x0 st p l x)
    (hn : 8 * e.n + rank g + 1 ≤ B + 8 * p) (hd : delta g ≤ p)
    (hK : ∀ r st' p' l' x', x' ≤ 1 → p ≤ p' + delta g * x' → PostP g e p l r p' →
      At e l0 x0 st' p' l' x' → Q r st') : Tri e st (rec g) Q :=
  summ_use (hrec g e st l0 x0 p l x hfx h hn hd) hK

/-- `dd_vector_type` called from dd_type: the two chars are known to be "Dv" -/
theorem s_rec_vector {Q : Int → St → Prop} (hrec : RecOK rec B) (c0 c1 : UInt8) (hfx : e.fx = Fixes.all)
    (h : At e l0 x0 st p l x) (h0 : Cur e c0 p l) (hc0 : c0 = 68)
    (h1 : Cur e c1 (p + 1) l) (hc1 : c1 = 118)
    (hn : 8 * e.n + rank .vectorType + 1 ≤ B + 8 * p)
    (hK : ∀ r st' p' l' x', p < p' → At e l0 x0 st' p' l' x' → Q r st') :
    Tri e st (rec .vectorType) Q := by
  have hlt := Cur.lt_of_byte h1 hc1 (by decide)
  apply s_rec hrec .vectorType hfx h hn (Nat.zero_le _)
  intro r st' p' l' x' _ _ g5 h'
  refine hK r st' p' l' x' (g5.2 ?_ ?_ hlt) h'
  · intro c hc
    rw [h0.2 (by omega)] at hc
    cases hc
    exact hc0 ▸ rfl
  · intro c hc
    rw [h1.2 (by omega)] at hc
    cases hc
    exact hc1 ▸ rfl

theorem toNat_eq_lit {c : UInt8} {n : Nat} (h : c.toNat = n) (hn : n < 256) : c = UInt8.ofNat n := by
  rw [u8_eq_iff, h]
  simp [UInt8.toNat_ofNat, Nat.mod_eq_of_lt hn]

/-- `dd->pos = old_pos` -/
theorem s_setPos {Q : Unit → St → Prop} {st0 : St} {q l1 x1 : Nat} (h : At e l0 x0 st p l x) (h0 : At e l0 x0 st0 q l1 x1)
    (hK : ∀ st', At e l0 x0 st' q l x → Q () st') : Tri e st (modifySt fun st => { st with pos := st0.pos }) Q :=
  tri_modifySt (hK _ ⟨h0.pos, h.len, h.ex, h.len_le, h0.pos_le, h.stop, h.len_le0, h.ex_ge0⟩)

/-- `dd->len = dd->pos` when the current char is `.` or `@` -/
theorem s_cutLen {Q : Unit → St → Prop} (c : UInt8) (h : At e l0 x0 st p l x) (hc' : Cur e c p l)
    (hc : c = 46 ∨ c = 64)
    (hK : ∀ st', p ≤ l → At e l0 x0 st' p p x → Q () st') : Tri e st (modifySt fun st => { st with len := st.pos }) Q := by
  have hle : p ≤ l := by
    rcases hc'.1 with h0 | h1 | h2
    · rcases hc with rfl | rfl <;> exact absurd h0 (by decide)
    · exact h1.1
    · exact Nat.le_of_lt h2
  have hr := hc'.2 hle
  have hstop : Stop e p := by
    rcases hc with rfl | rfl
    · exact Or.inr (Or.inl hr)
    · exact Or.inr (Or.inr hr)
  exact tri_modifySt (hK _ hle ⟨h.pos, h.pos, h.ex, h.pos_le, h.pos_le, hstop, Nat.le_trans hle h.len_le0, h.ex_ge0⟩)

end rules

/-! ### dd_expression -/

theorem t_findUnary {e : Env} {st : St} (exp : Nat) (hexp : exp ≤ e.n) : ∀ (l : List (List UInt8)),
    (∀ u ∈ l, ∀ c ∈ u, c.toNat ≠ 0) →
    Tri e st (findUnary exp l) (fun r st' => st' = st ∧ ∀ k, r = some k → ∃ u, u ∈ l ∧ k = u.length ∧ MatchAt e u exp) := by
  intro l
  induction l with
  | nil => intro _; unfold findUnary; exact tri_pure ⟨rfl, by simp⟩
  | cons u l ih =>
    intro hnz
    unfold findUnary
    apply tri_bind
    refine tri_mono (t_matchAt_spec u exp (hnz u List.mem_cons_self) hexp) ?_
    intro b st' ⟨h1, h2⟩
    rw [h1]
    apply tri_ite
    · intro hb
      refine tri_pure ⟨rfl, ?_⟩
      intro k hk
      cases hk
      exact ⟨u, List.mem_cons_self, rfl, h2 hb⟩
    · intro _
      refine tri_mono (ih (fun u hu => hnz u (List.mem_cons_of_mem _ hu))) ?_
      intro r st'' ⟨h3, h4⟩
      refine ⟨h3, fun k hk => ?_⟩
      obtain ⟨u', hu', hk', hm⟩ := h4 k hk
      exact ⟨u', List.mem_cons_of_mem _ hu', hk', hm⟩

theorem unary_facts : ∀ u ∈ unaryOpsFx Fixes.all, 2 ≤ u.length ∧ u.head? ≠ some 103 ∧
    ∀ c ∈ u, c.toNat ≠ 0 ∧ c.toNat ≠ 46 ∧ c.toNat ≠ 64 := by decide

/-- a matched run of non-stop bytes starting at `p ≤ len` lies inside `len` -/
theorem match_in_len {e : Env} {l : Nat} (hs : Stop e l) : ∀ (u : List UInt8) (p : Nat),
    (∀ c ∈ u, c.toNat ≠ 0 ∧ c.toNat ≠ 46 ∧ c.toNat ≠ 64) → MatchAt e u p → p ≤ l → p + u.length ≤ l := by
  intro u
  induction u with
  | nil => intro p _ _ h; simpa using h
  | cons c u ih =>
    intro p hns hm hp
    have h0 := hm 0 (by simp)
    simp only [Nat.add_zero, List.getElem_cons_zero] at h0
    obtain ⟨n0, n1, n2⟩ := hns c List.mem_cons_self
    have hlt := stop_strict hs h0 hp n0 n1 n2
    have := ih (p + 1) (fun c hc => hns c (List.mem_cons_of_mem _ hc)) (fun j hj => by
      have := hm (j + 1) (by simpa using hj)
      simpa [Nat.add_assoc, Nat.add_comm 1 j] using this) (by arith)
    simp only [List.length_cons]
    omega

/-- the loop over `unary_ops[]` in dd_expression: a match implies that the operator lies inside the
    name (and that no "gs" was skipped: no unary operator starts with 'g') -/
theorem s_findUnary {e : Env} {st : St} {p l x l0 x0 : Nat} {Q : Option Nat → St → Prop} (exp : Nat) (h : At e l0 x0 st p l x)
    (hple : p ≤ l) (hexp : exp = p ∨ (exp + 2 = p ∧ e.rd exp = some 103))
    (hN : Q none st) (hS : ∀ k, 2 ≤ k → exp = p → p + k ≤ l → Q (some k) st) :
    Tri e st (findUnary exp (unaryOpsFx Fixes.all)) Q := by
  obtain ⟨rfl, rfl, _, hl, hp, hs⟩ := h
  refine tri_mono (t_findUnary exp (by arith) (unaryOpsFx Fixes.all) (fun u hu c hc => ((unary_facts u hu).2.2 c hc).1)) ?_
  intro r st' ⟨h1, h2⟩
  rw [h1]
  cases r with
  | none => exact hN
  | some k =>
    obtain ⟨u, hu, hk, hm⟩ := h2 k rfl
    obtain ⟨f1, f2, f3⟩ := unary_facts u hu
    rcases hexp with hexp | ⟨hexp, hg⟩
    · subst hexp
      have := match_in_len hs u _ f3 hm hple
      exact hS k (by arith) rfl (by arith)
    · exfalso
      have h0 := hm 0 (by arith)
      simp only [Nat.add_zero] at h0
      rw [hg] at h0
      cases u with
      | nil => simp at f1
      | cons c u =>
        simp only [List.getElem_cons_zero, Option.some.injEq] at h0
        subst h0
        simp at f2

theorem ops_facts : ∀ o ∈ ops, o.2.1.toNat ≠ 0 ∧ o.2.1.toNat ≠ 46 ∧ o.2.1.toNat ≠ 64 := by decide

theorem ops_c1_nonstop {c0 c1 : UInt8} (h : (ops.any fun o => o.1 == c0 && o.2.1 == c1) = true) :
    c1.toNat ≠ 0 ∧ c1.toNat ≠ 46 ∧ c1.toNat ≠ 64 := by
  rw [List.any_eq_true] at h
  obtain ⟨o, ho, h⟩ := h
  simp only [Bool.and_eq_true, beq_iff_eq] at h
  rw [← h.2]
  exact ops_facts o ho

theorem tri_crash_absurd {α} {e : Env} {st : St} {k : Crash} {Q : α → St → Prop} (h : False) : Tri e st (crash k) Q :=
  h.elim

/-- F10b repaired: for a char of `T_type` the name index is in range -/
theorem tTypeName_absurd {c1 : UInt8}
    (h : ¬c1.toNat = 0 % 2 ^ 8 ∧ (c1.toNat = 86 % 2 ^ 8 ∨ c1.toNat = 84 % 2 ^ 8 ∨ c1.toNat = 73 % 2 ^ 8 ∨
      c1.toNat = 83 % 2 ^ 8 ∨ c1.toNat = 70 % 2 ^ 8 ∨ c1.toNat = 74 % 2 ^ 8))
    (heq : tTypeName[(List.findIdx? (fun x => x == c1) tType).getD tType.length]? = none) : False := by
  obtain ⟨_, h⟩ := h
  rcases h with h | h | h | h | h | h
  · have := toNat_eq_lit (n := 86) h (by arith); subst this; revert heq; decide
  · have := toNat_eq_lit (n := 84) h (by arith); subst this; revert heq; decide
  · have := toNat_eq_lit (n := 73) h (by arith); subst this; revert heq; decide
  · have := toNat_eq_lit (n := 83) h (by arith); subst this; revert heq; decide
  · have := toNat_eq_lit (n := 70) h (by arith); subst this; revert heq; decide
  · have := toNat_eq_lit (n := 74) h (by arith); subst this; revert heq; decide

theorem and_extra {a b c : Prop} (h : a ∧ b) (hc : c) : a ∧ b ∧ c :=
  ⟨h.1, h.2, hc⟩

/-- the test for a binary operator: the second char of an operator code is no stop byte -/
theorem tri_ite_ops {α} {e : Env} {st : St} {c0 c1 : UInt8} {b : Bool} {A C : M α} {Q : α → St → Prop}
    (hT : c1.toNat ≠ 0 ∧ c1.toNat ≠ 46 ∧ c1.toNat ≠ 64 → Tri e st A Q) (hF : Tri e st C Q) :
    Tri e st (if ((ops.any fun o => o.1 == c0 && o.2.1 == c1) && b) = true then A else C) Q :=
  tri_ite (fun hc => hT (ops_c1_nonstop (Bool.and_eq_true_iff.1 hc).1)) fun _ => hF

theorem gs_fact {e : Env} {p l : Nat} (c : UInt8) (h : Cur e c (p + 0) l) (hc : c.toNat = 103) (hle : p ≤ l) :
    e.rd p = some 103 := by
  have := toNat_eq_lit (n := 103) hc (by omega)
  subst this
  exact h.2 (by omega)

attribute [local irreducible] Tri Summ ite M.bind M.pure peek curr consumeN consume posBack ddDebug debugConsume eof getSt getEnv
  getFixes modifySt incLevel decLevel incType decType appendBytes appendSeparator rdAt number qualifier seqId sourceName
  templateParam functionParam callOffset discriminator abiTag substitution findUnary hexSkip

theorem fuel_same {n B k k0 p0 q : Nat} (hn : 8 * n + k0 + 1 ≤ B + 1 + 8 * p0) (hk : k + 1 ≤ k0) (hq : p0 ≤ q) :
    8 * n + k + 1 ≤ B + 8 * q := by
  omega

theorem fuel_adv {n B k k0 p0 q : Nat} (hn : 8 * n + k0 + 1 ≤ B + 1 + 8 * p0) (hk : k ≤ 7) (hq : p0 + 1 ≤ q) :
    8 * n + k + 1 ≤ B + 8 * q := by
  omega

/-- a recursive call: the budget covers it because the callee's rank is smaller (`fuel_same`) or `pos` has advanced
    (`fuel_adv`: every rank is at most 7) -/
macro "rec_step" : tactic => `(tactic|
  (apply s_rec (by assumption) _ (by assumption) (by assumption)
      (by first
        | exact fuel_same (by assumption) (by decide) (by omega)
        | exact fuel_adv (by assumption) (by decide) (by omega)
        | (simp only [rank]; arith))
      (by first | exact Nat.zero_le _ | (simp only [delta]; arith))
   intro r st' p' l' x' _ hpos hprog _
   simp only [delta, Nat.zero_mul, Nat.one_mul, Nat.add_zero] at hpos
   simp only [PostP, Prog] at hprog
   try summ_close))

macro "vec_step" : tactic => `(tactic|
  (apply s_rec_vector
   case hrec => assumption
   case hfx => assumption
   case h => assumption
   case h0 => assumption
   case hc0 => assumption
   case h1 => assumption
   case hc1 => assumption
   case hn => (simp only [rank]; arith)
   case' hK => intros))

macro "cut_len" : tactic => `(tactic|
  (refine s_cutLen ?c (by assumption) ?hc' ?hc ?k
   case hc' => assumption
   case hc => first | exact Or.inl (by assumption) | exact Or.inr (by assumption)
   case' k => intros))

macro_rules | `(tactic| wp_call) => `(tactic| first | (apply s_setPos (by assumption) (by assumption); intros) | fail)
macro_rules | `(tactic| wp_call) => `(tactic| first | cut_len | fail)
macro_rules | `(tactic| wp_call) => `(tactic| first | rec_step | fail)
macro_rules | `(tactic| wp_call) => `(tactic| first | vec_step | fail)

section specs
variable {rec : Fn → M Int} {B : Nat} {e : Env} {st : St} {p l x l0 x0 : Nat}
  (hrec : RecOK rec B) (hfx : e.fx = Fixes.all) (h : At e l0 x0 st p l x)
include hrec hfx h

theorem spec_ptrToMember (hn : 8 * e.n + rank .ptrToMember + 1 ≤ B + 1 + 8 * p) :
    Tri e st (bPtrToMember rec) (Summ e 0 (fun r p' => 0 ≤ r → p < p') l0 x0 p) := by
  unfold bPtrToMember
  wp

theorem spec_arrayType (hn : 8 * e.n + rank .arrayType + 1 ≤ B + 1 + 8 * p) :
    Tri e st (bArrayType rec) (Summ e 0 (fun r p' => 0 ≤ r → p < p') l0 x0 p) := by
  unfold bArrayType
  wp

theorem spec_decltype (hn : 8 * e.n + rank .decltype + 1 ≤ B + 1 + 8 * p) :
    Tri e st (bDecltype rec) (Summ e 0 (fun r p' => 0 ≤ r → p < p') l0 x0 p) := by
  unfold bDecltype
  wp

theorem spec_templateArgs (hn : 8 * e.n + rank .templateArgs + 1 ≤ B + 1 + 8 * p) :
    Tri e st (bTemplateArgs rec) (Summ e 0 (fun r p' => 0 ≤ r → p < p') l0 x0 p) := by
  unfold bTemplateArgs
  wp

theorem spec_argLoop (hn : 8 * e.n + rank .argLoop + 1 ≤ B + 1 + 8 * p) :
    Tri e st (bArgLoop rec) (Summ e 0 (fun _ _ => True) l0 x0 p) := by
  unfold bArgLoop
  wp

theorem spec_templateArg (hn : 8 * e.n + rank .templateArg + 1 ≤ B + 1 + 8 * p) :
    Tri e st (bTemplateArg rec) (Summ e 0 (fun r p' => 0 ≤ r → p < p') l0 x0 p) := by
  unfold bTemplateArg
  wp

theorem spec_exprLoop (hn : 8 * e.n + rank .exprLoop + 1 ≤ B + 1 + 8 * p) (hd : delta .exprLoop ≤ p) :
    Tri e st (bExprLoop rec) (Summ e 1 (fun _ _ => True) l0 x0 p) := by
  simp only [delta] at hd
  unfold bExprLoop
  wp

theorem spec_initializer (hn : 8 * e.n + rank .initializer + 1 ≤ B + 1 + 8 * p) :
    Tri e st (bInitializer rec) (Summ e 0 (fun r p' => 0 ≤ r → p < p') l0 x0 p) := by
  unfold bInitializer
  wp

theorem spec_exprPrimary (hn : 8 * e.n + rank .exprPrimary + 1 ≤ B + 1 + 8 * p) :
    Tri e st (bExprPrimary rec) (Summ e 0 (fun r p' => 0 ≤ r → p < p') l0 x0 p) := by
  unfold bExprPrimary
  wp

theorem spec_exprListLoop (hn : 8 * e.n + rank .exprListLoop + 1 ≤ B + 1 + 8 * p) (hd : delta .exprListLoop ≤ p) :
    Tri e st (bExprListLoop rec) (Summ e 1 (fun _ _ => True) l0 x0 p) := by
  simp only [delta] at hd
  unfold bExprListLoop
  wp

theorem spec_exprList (hn : 8 * e.n + rank .exprList + 1 ≤ B + 1 + 8 * p) (hd : delta .exprList ≤ p) :
    Tri e st (bExprList rec) (Summ e 1 (fun _ _ => True) l0 x0 p) := by
  simp only [delta] at hd
  unfold bExprList
  wp

theorem spec_simpleId (hn : 8 * e.n + rank .simpleId + 1 ≤ B + 1 + 8 * p) (hd : delta .simpleId ≤ p) :
    Tri e st (bSimpleId rec) (Summ e 1 (fun r p' => 0 ≤ r → p < p') l0 x0 p) := by
  simp only [delta] at hd
  unfold bSimpleId
  wp

theorem spec_unresolvedType (hn : 8 * e.n + rank .unresolvedType + 1 ≤ B + 1 + 8 * p) :
    Tri e st (bUnresolvedType rec) (Summ e 0 (fun r p' => 0 ≤ r → p < p') l0 x0 p) := by
  unfold bUnresolvedType
  wp

theorem spec_destructorName (hn : 8 * e.n + rank .destructorName + 1 ≤ B + 1 + 8 * p) :
    Tri e st (bDestructorName rec) (Summ e 0 (fun r p' => 0 ≤ r → p < p') l0 x0 p) := by
  unfold bDestructorName
  wp

theorem spec_baseUnresolvedName (hn : 8 * e.n + rank .baseUnresolvedName + 1 ≤ B + 1 + 8 * p) (hd : delta .baseUnresolvedName ≤ p) :
    Tri e st (bBaseUnresolvedName rec) (Summ e 1 (fun r p' => 0 ≤ r → p < p') l0 x0 p) := by
  simp only [delta] at hd
  unfold bBaseUnresolvedName
  wp

theorem spec_unresLoop (hn : 8 * e.n + rank .unresLoop + 1 ≤ B + 1 + 8 * p) (hd : delta .unresLoop ≤ p) :
    Tri e st (bUnresLoop rec) (Summ e 1 (fun _ _ => True) l0 x0 p) := by
  simp only [delta] at hd
  unfold bUnresLoop
  wp

theorem spec_functionType (hn : 8 * e.n + rank .functionType + 1 ≤ B + 1 + 8 * p) :
    Tri e st (bFunctionType rec) (Summ e 0 (fun r p' => 0 ≤ r → p < p') l0 x0 p) := by
  unfold bFunctionType
  wp

theorem spec_type (hn : 8 * e.n + rank .type + 1 ≤ B + 1 + 8 * p) :
    Tri e st (bType rec) (Summ e 0 (fun r p' => 0 ≤ r → p < p') l0 x0 p) := by
  unfold bType
  wp

theorem spec_operatorName (hn : 8 * e.n + rank .operatorName + 1 ≤ B + 1 + 8 * p) :
    Tri e st (bOperatorName rec) (Summ e 0 (fun r p' => 0 ≤ r → p < p') l0 x0 p) := by
  unfold bOperatorName
  wp

theorem spec_ulLoop (hn : 8 * e.n + rank .ulLoop + 1 ≤ B + 1 + 8 * p) :
    Tri e st (bUlLoop rec) (Summ e 0 (fun _ _ => True) l0 x0 p) := by
  unfold bUlLoop
  wp

theorem spec_nestedName (hn : 8 * e.n + rank .nestedName + 1 ≤ B + 1 + 8 * p) :
    Tri e st (bNestedName rec) (Summ e 0 (fun r p' => 0 ≤ r → p < p') l0 x0 p) := by
  unfold bNestedName
  wp

theorem spec_localName (hn : 8 * e.n + rank .localName + 1 ≤ B + 1 + 8 * p) :
    Tri e st (bLocalName rec) (Summ e 0 (fun r p' => 0 ≤ r → p < p') l0 x0 p) := by
  unfold bLocalName
  wp

theorem spec_name (hn : 8 * e.n + rank .name + 1 ≤ B + 1 + 8 * p) :
    Tri e st (bName rec) (Summ e 0 (fun r p' => 0 ≤ r → p < p') l0 x0 p) := by
  unfold bName
  wp

theorem spec_encLoop (hn : 8 * e.n + rank .encLoop + 1 ≤ B + 1 + 8 * p) :
    Tri e st (bEncLoop rec) (Summ e 0 (fun _ _ => True) l0 x0 p) := by
  unfold bEncLoop
  wp

theorem spec_nestedLoop (hn : 8 * e.n + rank .nestedLoop + 1 ≤ B + 1 + 8 * p) :
    Tri e st (bNestedLoop rec) (Summ e 0 (fun _ _ => True) l0 x0 p) := by
  unfold bNestedLoop
  wp

/-- summary of a piece of `dd_unresolved_name` / `dd_expression` (`pos` may end one below, as for the whole function) -/
abbrev Piece (e : Env) (l0 x0 p : Nat) : Int → St → Prop :=
  Summ e 1 (fun r p' => 0 ≤ r → p < p') l0 x0 p

theorem spec_unresSrTail (hn : 8 * e.n + 3 ≤ B + 8 * p) (hd : 1 ≤ p) : Tri e st (bUnresSrTail rec) (Summ e 1 (fun _ _ => True) l0 x0 p) := by
  unfold bUnresSrTail
  wp

attribute [local irreducible] bUnresSrTail

macro_rules | `(tactic| wp_piece) => `(tactic| call_step (spec_unresSrTail (by assumption) (by assumption) (by assumption) (by arith) (by arith)))

theorem spec_unresAfterGs (hn : 8 * e.n + 4 ≤ B + 1 + 8 * p) (hd : 1 ≤ p) (c0 c1 : UInt8)
    (h1 : Cur e c1 (p + 1) l) :
    Tri e st (bUnresAfterGs rec c0 c1) (Piece e l0 x0 p) := by
  unfold bUnresAfterGs
  wp

attribute [local irreducible] bUnresAfterGs

macro_rules | `(tactic| wp_piece) => `(tactic| call_step (spec_unresAfterGs (by assumption) (by assumption) (by assumption) (by arith) (by arith) _ _ (by assumption)))

theorem spec_unresolvedName (hn : 8 * e.n + rank .unresolvedName + 1 ≤ B + 1 + 8 * p) (hd : delta .unresolvedName ≤ p) :
    Tri e st (bUnresolvedName rec) (Summ e 1 (fun r p' => 0 ≤ r → p < p') l0 x0 p) := by
  simp only [rank] at hn
  simp only [delta] at hd
  unfold bUnresolvedName
  wp

theorem spec_typeT (hn : 8 * e.n + 5 ≤ B + 1 + 8 * p) (hlt : p < l) (ret : Int) :
    Tri e st (bTypeT rec ret) (Summ e 0 (fun r p' => 0 ≤ r → p < p' ∨ r = ret) l0 x0 p) := by
  unfold bTypeT
  wp

attribute [local irreducible] bTypeT

theorem spec_typeD (hn : 8 * e.n + 5 ≤ B + 1 + 8 * p) (hlt : p < l) (ret : Int)
    (c0 : UInt8) (h0 : Cur e c0 p l) (hc0 : c0 = 68) :
    Tri e st (bTypeD rec ret) (Summ e 0 (fun r p' => 0 ≤ r → p < p' ∨ r = ret) l0 x0 p) := by
  unfold bTypeD
  wp

attribute [local irreducible] bTypeD

theorem spec_typeS (hn : 8 * e.n + 5 ≤ B + 1 + 8 * p) (hlt : p < l) (ret : Int) :
    Tri e st (bTypeS rec) (Summ e 0 (fun r p' => 0 ≤ r → p < p' ∨ r = ret) l0 x0 p) := by
  unfold bTypeS
  wp

attribute [local irreducible] bTypeS

theorem spec_typeU (hn : 8 * e.n + 5 ≤ B + 1 + 8 * p) (hlt : p < l) (ret : Int) :
    Tri e st (bTypeU rec) (Summ e 0 (fun r p' => 0 ≤ r → p < p' ∨ r = ret) l0 x0 p) := by
  unfold bTypeU
  wp

attribute [local irreducible] bTypeU

macro_rules | `(tactic| wp_piece) => `(tactic| (apply spec_typeT <;> first | assumption | arith))
macro_rules | `(tactic| wp_piece) => `(tactic| (apply spec_typeS <;> first | assumption | arith))
macro_rules | `(tactic| wp_piece) => `(tactic| (apply spec_typeU <;> first | assumption | arith))
macro_rules | `(tactic| wp_piece) => `(tactic| (apply spec_typeD <;> first | assumption | arith))

theorem spec_typeLoop (ret : Int) (hn : 8 * e.n + rank (.typeLoop ret) + 1 ≤ B + 1 + 8 * p) :
    Tri e st (bTypeLoop rec ret) (Summ e 0 (fun r p' => 0 ≤ r → p < p' ∨ r = ret) l0 x0 p) := by
  simp only [rank] at hn
  unfold bTypeLoop
  wp

macro_rules | `(tactic| wp_piece) => `(tactic| first | (apply tri_crash_absurd; exact tTypeName_absurd (by assumption) (by assumption)) | fail)

theorem spec_specialT (hn : 8 * e.n + 2 ≤ B + 1 + 8 * p) (hlt : p < l) (c1 : UInt8)
    (h1 : Cur e c1 (p + 1) l) :
    Tri e st (bSpecialT rec c1) (Summ e 0 (fun r p' => 0 ≤ r → p < p') l0 x0 p) := by
  unfold bSpecialT
  wp

attribute [local irreducible] bSpecialT

theorem spec_specialG (hn : 8 * e.n + 2 ≤ B + 1 + 8 * p) (hlt : p < l) (c1 : UInt8)
    (h1 : Cur e c1 (p + 1) l) :
    Tri e st (bSpecialG rec c1) (Summ e 0 (fun r p' => 0 ≤ r → p < p') l0 x0 p) := by
  unfold bSpecialG
  wp

attribute [local irreducible] bSpecialG

macro_rules | `(tactic| wp_piece) => `(tactic| (apply spec_specialT <;> first | assumption | arith))
macro_rules | `(tactic| wp_piece) => `(tactic| (apply spec_specialG <;> first | assumption | arith))

theorem spec_specialName (hn : 8 * e.n + rank .specialName + 1 ≤ B + 1 + 8 * p) :
    Tri e st (bSpecialName rec) (Summ e 0 (fun r p' => 0 ≤ r → p < p') l0 x0 p) := by
  unfold bSpecialName
  wp

-- `Post` stays folded while stepping, so that the leaves are left to the script below
attribute [local irreducible] Post in
theorem spec_vectorType (hn : 8 * e.n + rank .vectorType + 1 ≤ B + 1 + 8 * p) :
    Tri e st (bVectorType rec) (Post .vectorType e l0 x0 p l) := by
  unfold bVectorType
  wp
  -- `DvMoves`: with "Dv" at `p` both `consume`s succeed and the test for "Dv" does not fail
  all_goals
    unfold Post
    apply summ_intro (by assumption)
    simp only [delta, PostP, DvMoves, Nat.zero_mul, Nat.add_zero]
    refine and_extra (by arith) fun h0 h1 h2 => ?_
    first
      | (have := h0 _ (by assumption)
         have := h1 _ (by assumption)
         arith)
      | arith

theorem spec_ftLoop (c : UInt8) (hn : 8 * e.n + rank (.ftLoop c) + 1 ≤ B + 1 + 8 * p) :
    Tri e st (bFtLoop rec c) (Summ e 0 (fun _ _ => True) l0 x0 p) := by
  simp only [rank] at hn
  unfold bFtLoop
  wp

theorem spec_ctorDtorName (hn : 8 * e.n + rank .ctorDtorName + 1 ≤ B + 1 + 8 * p) :
    Tri e st (bCtorDtorName rec) (Summ e 0 (fun r p' => 0 ≤ r → p < p') l0 x0 p) := by
  unfold bCtorDtorName
  wp

theorem spec_unqualifiedName (hn : 8 * e.n + rank .unqualifiedName + 1 ≤ B + 1 + 8 * p) :
    Tri e st (bUnqualifiedName rec) (Summ e 0 (fun r p' => 0 ≤ r → p < p') l0 x0 p) := by
  unfold bUnqualifiedName
  wp

theorem spec_encoding (hn : 8 * e.n + rank .encoding + 1 ≤ B + 1 + 8 * p) :
    Tri e st (bEncoding rec) (Summ e 0 (fun r p' => 0 ≤ r → p < p') l0 x0 p) := by
  unfold bEncoding
  wp

theorem spec_exprC (hn : 8 * e.n + 5 ≤ B + 1 + 8 * p) (hd : 1 ≤ p) (c0 c1 : UInt8)
    (h1 : Cur e c1 (p + 1) l) :
    Tri e st (bExprC rec c0 c1) (Piece e l0 x0 p) := by
  unfold bExprC
  wp

attribute [local irreducible] bExprC

macro_rules | `(tactic| wp_piece) => `(tactic| call_step (spec_exprC (by assumption) (by assumption) (by assumption) (by arith) (by arith) _ _ (by assumption)))

theorem spec_exprB (hn : 8 * e.n + 5 ≤ B + 1 + 8 * p) (hd : 1 ≤ p) (c0 c1 : UInt8)
    (h1 : Cur e c1 (p + 1) l) :
    Tri e st (bExprB rec c0 c1) (Piece e l0 x0 p) := by
  unfold bExprB
  wp

attribute [local irreducible] bExprB

macro_rules | `(tactic| wp_piece) => `(tactic| call_step (spec_exprB (by assumption) (by assumption) (by assumption) (by arith) (by arith) _ _ (by assumption)))

macro "unary_step" : tactic => `(tactic|
  (refine s_findUnary _ (by assumption) ?hple ?hexp ?hN ?hS
   case hple => arith
   case hexp => assumption
   case' hN => skip
   case' hS => intros))
macro_rules | `(tactic| wp_piece) => `(tactic| first | unary_step | fail)

macro_rules | `(tactic| wp1) => `(tactic| (apply tri_ite_ops; (case' hT => intro _)))

theorem spec_exprA (hn : 8 * e.n + 5 ≤ B + 1 + 8 * p) (hd : 1 ≤ p) (exp : Nat) (c0 c1 : UInt8)
    (hple : p ≤ l) (hexp : exp = p ∨ (exp + 2 = p ∧ e.rd exp = some 103))
    (h1 : Cur e c1 (p + 1) l) :
    Tri e st (bExprA rec exp c0 c1) (Piece e l0 x0 p) := by
  unfold bExprA
  wp

attribute [local irreducible] bExprA

macro_rules | `(tactic| wp_piece) => `(tactic| first | call_step (spec_exprA (by assumption) (by assumption) (by assumption) (by arith) (by arith) _ _ _ (by arith) (by first | (left; omega) | (right; exact ⟨by omega, gs_fact _ (by assumption) (by arith) (by arith)⟩)) (by assumption)) | fail)

theorem spec_expression (hn : 8 * e.n + rank .expression + 1 ≤ B + 1 + 8 * p) (hd : delta .expression ≤ p) :
    Tri e st (bExpression rec) (Summ e 1 (fun r p' => 0 ≤ r → p < p') l0 x0 p) := by
  simp only [rank] at hn
  simp only [delta] at hd
  obtain rfl := h.pos
  unfold bExpression
  wp


/-- every grammar function body satisfies its summary if the recursive calls do (with one unit less fuel) -/
theorem body_spec (f : Fn) (hn : 8 * e.n + rank f + 1 ≤ B + 1 + 8 * p) (hd : delta f ≤ p) :
    Tri e st (body rec f) (Post f e l0 x0 p l) := by
  cases f with
  | encoding => exact spec_encoding hrec hfx h hn
  | encLoop => exact spec_encLoop hrec hfx h hn
  | name => exact spec_name hrec hfx h hn
  | localName => exact spec_localName hrec hfx h hn
  | nestedName => exact spec_nestedName hrec hfx h hn
  | nestedLoop => exact spec_nestedLoop hrec hfx h hn
  | unqualifiedName => exact spec_unqualifiedName hrec hfx h hn
  | ulLoop => exact spec_ulLoop hrec hfx h hn
  | operatorName => exact spec_operatorName hrec hfx h hn
  | ctorDtorName => exact spec_ctorDtorName hrec hfx h hn
  | type => exact spec_type hrec hfx h hn
  | typeLoop ret => exact spec_typeLoop hrec hfx h ret hn
  | functionType => exact spec_functionType hrec hfx h hn
  | ftLoop c => exact spec_ftLoop hrec hfx h c hn
  | arrayType => exact spec_arrayType hrec hfx h hn
  | ptrToMember => exact spec_ptrToMember hrec hfx h hn
  | decltype => exact spec_decltype hrec hfx h hn
  | vectorType => exact spec_vectorType hrec hfx h hn
  | templateArgs => exact spec_templateArgs hrec hfx h hn
  | argLoop => exact spec_argLoop hrec hfx h hn
  | templateArg => exact spec_templateArg hrec hfx h hn
  | expression => exact spec_expression hrec hfx h hn hd
  | exprPrimary => exact spec_exprPrimary hrec hfx h hn
  | exprList => exact spec_exprList hrec hfx h hn hd
  | exprListLoop => exact spec_exprListLoop hrec hfx h hn hd
  | initializer => exact spec_initializer hrec hfx h hn
  | exprLoop => exact spec_exprLoop hrec hfx h hn hd
  | unresolvedName => exact spec_unresolvedName hrec hfx h hn hd
  | unresLoop => exact spec_unresLoop hrec hfx h hn hd
  | baseUnresolvedName => exact spec_baseUnresolvedName hrec hfx h hn hd
  | destructorName => exact spec_destructorName hrec hfx h hn
  | unresolvedType => exact spec_unresolvedType hrec hfx h hn
  | simpleId => exact spec_simpleId hrec hfx h hn hd
  | specialName => exact spec_specialName hrec hfx h hn


end specs

/-- **Main lemma**: with fuel `n`, every grammar function whose budget fits returns normally
    and satisfies its summary `Post` — no crash, no out-of-fuel. -/
theorem run_spec : ∀ n, RecOK (run n) n
  | 0 => by
    intro g e st l0 x0 p l x _ h hn _
    exfalso
    have := h.pos_le
    omega
  | n + 1 => by
    intro g e st l0 x0 p l x hfx h hn hd
    exact body_spec (run_spec n) hfx h g hn hd

end Uft.Demangle

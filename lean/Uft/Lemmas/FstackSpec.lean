import Uft.Lemmas.Fstack
/- C07, the fstack_check_filter loop against the documented selection.  While tracing is on, fstack_entry
   decides as the specification's `visit` does unless the function's trace_off trigger is reached (`fires`);
   from then on, with no trace_on trigger in the table, nothing is shown.  So the loop over the eager trace of
   a forest shows the selection up to the first trace_off trigger that is reached (`offA_calls`), which is the
   whole selection when the table has no trace switches (`offCalls_quiet`, `specA_call`). -/
namespace Uft.Fstack
open Uft.Mcount (Rec Trigger Call Calls evCall evCalls)

/-- no function carries a trace_on / trace_off trigger -/
def Quiet (c : RCfg) : Prop := ∀ f, (c.trig f).traceOn = false ∧ (c.trig f).traceOff = false

/-- no function carries a trace_on trigger -/
def NoOn (c : RCfg) : Prop := ∀ f, (c.trig f).traceOn = false

def envOf (s : FS) : Env := { inC := s.inCount, outC := s.outCount, budget := s.depth }

/-- the trace_off trigger of `f` is reached in the environment `E`: not inside a -N region, `f` is not a -N
    function itself, not rejected by opt-in mode or the location filter -/
def fires (c : RCfg) (E : Env) (f : Nat) : Bool :=
  (c.trig f).traceOff && decide (E.outC = 0) && !((c.trig f).filter == some false) &&
  !(!((c.trig f).filter == some true) && c.optIn && decide (E.inC = 0)) && !locReject c (c.trig f)

/-! ## the documented selection with trace_off triggers (no trace_on): everything up to the first trace_off
    trigger that is reached -/

mutual
  /-- shown records of a call and whether tracing is still on after it -/
  def offCall (c : RCfg) (E : Env) (d : Nat) : Call → List Rec × Bool
    | .node f t0 t1 kids =>
      if fires c E f then ([], false) else
      let v := visit c E f
      let r := offCalls c v.2 (if v.1 then d + 1 else d) kids
      if v.1 then
        ([{ time := t0, type := 0, depth := d, addr := f }] ++ r.1 ++
           (if r.2 then [{ time := t1, type := 1, depth := d, addr := f }] else []), r.2)
      else r
  def offCalls (c : RCfg) (E : Env) (d : Nat) : Calls → List Rec × Bool
    | .nil => ([], true)
    | .cons x rest =>
      let a := offCall c E d x
      if a.2 then ((a.1 ++ (offCalls c E d rest).1), (offCalls c E d rest).2) else a
end

theorem fires_quiet (c : RCfg) (hq : Quiet c) (E : Env) (f : Nat) : fires c E f = false := by
  simp [fires, (hq f).2]

mutual
theorem offCall_quiet (c : RCfg) (hq : Quiet c) (E : Env) (d : Nat) : ∀ x : Call,
    offCall c E d x = (specCall c E d x, true)
  | .node f t0 t1 kids => by
    simp only [offCall, specCall, fires_quiet c hq, Bool.false_eq_true, ↓reduceIte, offCalls_quiet c hq]
    split <;> rfl
theorem offCalls_quiet (c : RCfg) (hq : Quiet c) (E : Env) (d : Nat) : ∀ xs : Calls,
    offCalls c E d xs = (specCalls c E d xs, true)
  | .nil => rfl
  | .cons x rest => by
    simp only [offCalls, specCalls, offCall_quiet c hq, offCalls_quiet c hq, ↓reduceIte]
end

/-! ## one ENTRY / EXIT record while tracing is on -/

structure Good (s : FS) : Prop where
  scSet : s.scSet = true
  en : s.enabled = true
  ds : s.dispSet = true

theorem good_updEntry (s : FS) (h : Good s) : Good (updEntry s) := ⟨h.scSet, h.en, h.ds⟩

def setDisp (s : FS) (n : Nat) : FS := { s with dispDepth := n }

theorem setDisp_self (s : FS) : setDisp s s.dispDepth = s := by cases s; rfl

theorem envOf_account (s : FS) (r : Rec) : envOf (account s r) = envOf s := by
  simp [envOf]

theorem isPlt_false (c : RCfg) (hnl : c.noLibcall = false) (r : Rec) : isPlt c r = false := by
  simp [isPlt, hnl]

theorem stepA_noplt (c : RCfg) (hnl : c.noLibcall = false) (s : FS) (r : Rec) :
    stepA c s r =
      (if r.type = 0 then
         (if (fsEntry c (account s r) r.addr).2 then
            (updEntry (fsEntry c (account s r) r.addr).1, [shown r (fsEntry c (account s r) r.addr).1.dispDepth])
          else ((fsEntry c (account s r) r.addr).1, []))
       else if r.type = 1 then exitStep c (account s r) r false else (account s r, [])) := by
  simp only [stepA, isPlt_false c hnl, Bool.false_eq_true, ↓reduceIte]

/-- fstack_entry against the specification's `visit`: any option set, any verdict but `traceOff` -/
theorem visit_fsEntry (c : RCfg) (s : FS) (f : Nat) (hn : verdict c s f ≠ .traceOff) :
    visit c (envOf s) f = ((fsEntry c s f).2, envOf (fsEntry c s f).1) := by
  unfold visit fsEntry envOf
  by_cases h1 : s.outCount > 0
  · have hv : verdict c s f = .outRegion := by unfold verdict; rw [if_pos h1]
    simp [hv, h1, Verdict.matched, Verdict.late]
  by_cases h2 : (c.trig f).filter = some false
  · have hv : verdict c s f = .notrace := by unfold verdict; rw [if_neg h1, if_pos h2]
    simp [hv, h1, h2, Verdict.matched, Verdict.late]
  by_cases h3 : (!isIn (c.trig f) && c.optIn && decide (s.inCount = 0)) = true
  · have hv : verdict c s f = .optOut := by unfold verdict; rw [if_neg h1, if_neg h2, if_pos h3]
    simp only [isIn] at h3
    simp [hv, h1, h2, h3, Verdict.matched, Verdict.late]
  by_cases h4 : locReject c (c.trig f) = true
  · have hv : verdict c s f = .locOut := by unfold verdict; rw [if_neg h1, if_neg h2, if_neg h3, if_pos h4]
    simp only [isIn] at h3
    simp only [hv, h1, h2, h3, h4, Verdict.matched, Verdict.late, isIn, ↓reduceIte, Bool.false_eq_true, Bool.true_and]
    cases (c.trig f).filter == some true <;> simp
  -- past the location check, and not `traceOff`: the depth decides
  have hp : PastLoc c s f := ⟨by omega, h2, Bool.eq_false_iff.2 h3, Bool.eq_false_iff.2 h4⟩
  have hv := verdict_pastLoc c s f hp
  rw [enAfter_of_late c s f (late_of_pastLoc c s f hp) hn, if_neg (by decide)] at hv
  have h4' := Bool.eq_false_iff.2 h4
  by_cases hi : (c.trig f).filter = some true
  · simp only [isIn, depthAfter, hi, BEq.rfl, ↓reduceIte] at hv
    by_cases h6 : (decide ((c.trig f).depth.getD c.depthOpt = 0) || c.hide f) = true
    · rw [if_pos h6] at hv
      simp [hv, h1, hi, h4', h6, Verdict.matched, Verdict.late, isIn, depthAfter]
    · rw [if_neg h6] at hv
      simp [hv, h1, hi, h4', h6, Verdict.matched, Verdict.late, isIn, depthAfter]
  · have hb : ((c.trig f).filter == some true) = false := by simpa using hi
    have h3' : (c.optIn && decide (s.inCount = 0)) = false := by simpa [isIn, hb] using h3
    simp only [isIn, depthAfter, hb, Bool.false_eq_true, ↓reduceIte] at hv
    by_cases h6 : (decide ((c.trig f).depth.getD s.depth = 0) || c.hide f) = true
    · rw [if_pos h6] at hv
      simp [hv, h1, h2, hb, h3', h4', h6, Verdict.matched, Verdict.late, isIn, depthAfter]
    · rw [if_neg h6] at hv
      simp [hv, h1, h2, hb, h3', h4', h6, Verdict.matched, Verdict.late, isIn, depthAfter]

theorem fires_iff_traceOff (c : RCfg) (s : FS) (f : Nat) (hen : s.enabled = true) :
    fires c (envOf s) f = true ↔ verdict c s f = .traceOff := by
  have he : enAfter (c.trig f) true = false ↔ (c.trig f).traceOff = true := by
    cases h : (c.trig f).traceOff <;> simp [enAfter, h]
  rw [verdict_traceOff_iff, hen, he]
  simp only [fires, PastLoc, envOf, isIn, Bool.and_eq_true, Bool.not_eq_true', beq_eq_false_iff_ne, ne_eq]
  constructor
  · exact fun ⟨⟨⟨⟨a, b⟩, c⟩, d⟩, e⟩ => ⟨⟨of_decide_eq_true b, c, d, e⟩, a⟩
  · exact fun ⟨⟨b, c, d, e⟩, a⟩ => ⟨⟨⟨⟨a, decide_eq_true b⟩, c⟩, d⟩, e⟩

/-- the ENTRY record of a function whose trace_off trigger is not reached, from a good state: the slot is
    pushed, the state stays good, and shown / environment of the callees are the specification's -/
theorem entry_live (c : RCfg) (s : FS) (hg : Good s) (r : Rec) (ht : r.type = 0)
    (hnf : fires c (envOf s) r.addr = false) :
    Entered s (fsEntry c (account s r) r.addr).1 (entryFr c (account s r) r.addr) ∧
    Good (fsEntry c (account s r) r.addr).1 ∧
    (fsEntry c (account s r) r.addr).2 = (visit c (envOf s) r.addr).1 ∧
    envOf (fsEntry c (account s r) r.addr).1 = (visit c (envOf s) r.addr).2 ∧
    (fsEntry c (account s r) r.addr).1.dispDepth = s.dispDepth ∧
    (entryFr c (account s r) r.addr).norecord = !(visit c (envOf s) r.addr).1 := by
  have hn : verdict c (account s r) r.addr ≠ .traceOff := by
    rw [verdict_account]
    intro h
    rw [(fires_iff_traceOff c s r.addr hg.en).2 h] at hnf
    cases hnf
  have hv := visit_fsEntry c (account s r) r.addr hn
  rw [envOf_account] at hv
  obtain ⟨l1, l2, l3, l4⟩ := fsEntry_live c (account s r) r.addr hn
  rw [hv]
  refine ⟨entered_entry c s r hg.scSet ht, ⟨?_, ?_, ?_⟩, rfl, rfl, ?_, l4⟩
  · show (account s r).scSet = true
    rw [account_entry s r hg.scSet ht]
    exact hg.scSet
  · rw [l1, account_enabled, hg.en, Bool.or_true]
  · rw [l2, account_dispSet, hg.ds, Bool.true_or]
  · rw [l3, account_dispSet, hg.ds, account_dispDepth]
    simp

theorem updExit_setDisp (s : FS) (d : Nat) (hds : s.dispSet = true) : updExit (setDisp s d) = setDisp s (d - 1) := by
  cases s
  simp_all [updExit, setDisp]

/-- the EXIT record of a call entered from a good state: back in that state, up to the display depth -/
theorem exit_entered (c : RCfg) {s s1 : FS} {fr : Fr} (h : Entered s s1 fr) (hg : Good s) (hg1 : Good s1) (r : Rec)
    (ht : r.type = 1) :
    fsExit c (account s1 r) = setDisp s s1.dispDepth ∧
    exitStep c (account s1 r) r false =
      (if fr.norecord then (setDisp s s1.dispDepth, [])
       else (setDisp s (s1.dispDepth - 1), [shown r (s1.dispDepth - 1)])) := by
  have hx : fsExit c (account s1 r) = setDisp s s1.dispDepth := by
    rw [fsExit_entered c h hg1.scSet r ht]
    apply fs_ext <;> simp [setDisp, hg.scSet, hg1.scSet, hg.en, hg1.en, hg.ds, hg1.ds]
  refine ⟨hx, ?_⟩
  have htop : topFr c (account s1 r) = fr := by simp [topFr, h.stack]
  unfold exitStep
  dsimp only
  rw [htop, account_enabled, hg1.en, fsExit_updExit, hx, updExit_setDisp s _ hg.ds]
  cases fr.norecord with
  | true => rfl
  | false => simp [updExit, hg1.ds]

theorem stepA_entry_live (c : RCfg) (hnl : c.noLibcall = false) (s : FS) (hg : Good s) (r : Rec) (ht : r.type = 0)
    (hnf : fires c (envOf s) r.addr = false) :
    stepA c s r =
      (if (visit c (envOf s) r.addr).1 then updEntry (fsEntry c (account s r) r.addr).1
       else (fsEntry c (account s r) r.addr).1,
       if (visit c (envOf s) r.addr).1 then [shown r s.dispDepth] else []) := by
  obtain ⟨_, _, h2, _, hdd, _⟩ := entry_live c s hg r ht hnf
  rw [stepA_noplt c hnl, if_pos ht, h2, hdd]
  split <;> rfl

theorem stepA_exit_live (c : RCfg) (hnl : c.noLibcall = false) {s s1 : FS} {fr : Fr} (h : Entered s s1 fr)
    (hg : Good s) (hg1 : Good s1) (hdd : s1.dispDepth = s.dispDepth) (vis : Bool) (hnr : fr.norecord = !vis)
    (r : Rec) (ht : r.type = 1) :
    stepA c (if vis then updEntry s1 else s1) r = (s, if vis then [shown r s.dispDepth] else []) := by
  rw [stepA_noplt c hnl, if_neg (by omega), if_pos ht]
  cases vis with
  | false =>
    show exitStep c (account s1 r) r false = (s, [])
    rw [(exit_entered c h hg hg1 r ht).2, hnr, hdd, setDisp_self]
    rfl
  | true =>
    have hd : (updEntry s1).dispDepth - 1 = s.dispDepth := by simp [updEntry, hdd]
    show exitStep c (account (updEntry s1) r) r false = (s, [shown r s.dispDepth])
    rw [(exit_entered c h.upd hg (good_updEntry s1 hg1) r ht).2, hnr, hd, setDisp_self]
    rfl

/-! ## once tracing is off and no trace_on trigger exists, the loop shows nothing more -/

theorem stepA_off (c : RCfg) (hnl : c.noLibcall = false) (hno : NoOn c) (s : FS) (r : Rec) (hen : s.enabled = false) :
    (stepA c s r).2 = [] ∧ (stepA c s r).1.enabled = false := by
  rw [stepA_noplt c hnl]
  by_cases ht : r.type = 0
  · have hv : verdict c (account s r) r.addr ≠ .accept := by
      intro hv
      have := (verdict_accept c _ _ hv).2.1
      simp [enAfter, hno r.addr, hen] at this
    have h2 : (fsEntry c (account s r) r.addr).2 = false := by simpa [fsEntry] using hv
    rw [if_pos ht, h2]
    simp [fsEntry, enAfter, hno r.addr, hen]
  · rw [if_neg ht]
    by_cases ht1 : r.type = 1
    · simp [ht1, exitStep, fsExit, hen]
    · simp [ht1, hen]

theorem run_off (c : RCfg) (hnl : c.noLibcall = false) (hno : NoOn c) : ∀ (rs : List Rec) (s : FS), s.enabled = false →
    (run (stepA c) s rs).2 = [] ∧ (run (stepA c) s rs).1.enabled = false
  | [], s, h => ⟨rfl, h⟩
  | r :: rs, s, h => by
    obtain ⟨a, b⟩ := stepA_off c hnl hno s r h
    obtain ⟨a2, b2⟩ := run_off c hnl hno rs _ b
    simp only [run, a, a2, List.append_nil, true_and]
    exact b2

/-- the ENTRY record of a function whose trace_off trigger is reached while tracing is on: nothing is shown,
    tracing is off -/
theorem stepA_fires (c : RCfg) (hnl : c.noLibcall = false) (s : FS) (r : Rec) (ht : r.type = 0)
    (hen : s.enabled = true) (hf : fires c (envOf s) r.addr = true) :
    (stepA c s r).2 = [] ∧ (stepA c s r).1.enabled = false := by
  have hv : verdict c (account s r) r.addr = .traceOff := by
    rw [verdict_account]
    exact (fires_iff_traceOff c s r.addr hen).1 hf
  obtain ⟨h2, he⟩ := fsEntry_traceOff c _ _ hv
  rw [stepA_noplt c hnl, if_pos ht, h2]
  exact ⟨rfl, he⟩

/-! ## the loop over the eager trace of a forest -/

theorem run_cons (step : FS → Rec → FS × List Rec) (s : FS) (r : Rec) (rs : List Rec) :
    run step s (r :: rs) = ((run step (step s r).1 rs).1, (step s r).2 ++ (run step (step s r).1 rs).2) := rfl

theorem run_node (step : FS → Rec → FS × List Rec) (s : FS) (e x : Rec) (ks : List Rec) :
    run step s ([e] ++ ks ++ [x]) =
      ((step (run step (step s e).1 ks).1 x).1,
       (step s e).2 ++ ((run step (step s e).1 ks).2 ++ (step (run step (step s e).1 ks).1 x).2)) := by
  simp [run_append, run]

theorem offCalls_nil_iff (R : RCfg) (E : Env) (d : Nat) : offCalls R E d .nil = ([], true) := rfl

mutual
/-- report / graph / dump loop over the eager trace of a call, trace_off triggers allowed (no trace_on): shows
    `offCall`; the state is back if tracing is still on, otherwise tracing is off -/
theorem offA_call (c : RCfg) (hnl : c.noLibcall = false) (hno : NoOn c) : ∀ (x : Call) (d : Nat) (s : FS),
    s.scSet = true → s.enabled = true → s.dispSet = true →
    (run (stepA c) s (evCall d x)).2 = (offCall c (envOf s) s.dispDepth x).1 ∧
    ((offCall c (envOf s) s.dispDepth x).2 = true → (run (stepA c) s (evCall d x)).1 = s) ∧
    ((offCall c (envOf s) s.dispDepth x).2 = false → (run (stepA c) s (evCall d x)).1.enabled = false)
  | .node f t0 t1 kids, d, s, hs, hen, hds => by
    have hg : Good s := ⟨hs, hen, hds⟩
    simp only [evCall, run_node]
    by_cases hf : fires c (envOf s) f = true
    · obtain ⟨o, e⟩ := stepA_fires c hnl s { time := t0, type := 0, depth := d, addr := f } rfl hen hf
      obtain ⟨o2, e2⟩ := run_off c hnl hno (evCalls (d + 1) kids) _ e
      obtain ⟨o3, e3⟩ := stepA_off c hnl hno _ { time := t1, type := 1, depth := d, addr := f } e2
      simp only [o, o2, o3, offCall, hf, ↓reduceIte, List.append_nil, true_and]
      exact ⟨fun h => absurd h (by decide), fun _ => e3⟩
    · have hf' : fires c (envOf s) f = false := by simpa using hf
      obtain ⟨hE, hg1, _, henv, hdd, hnr⟩ := entry_live c s hg { time := t0, type := 0, depth := d, addr := f } rfl hf'
      have hS := stepA_entry_live c hnl s hg { time := t0, type := 0, depth := d, addr := f } rfl hf'
      have hX := stepA_exit_live c hnl hE hg hg1 hdd _ hnr { time := t1, type := 1, depth := d, addr := f } rfl
      dsimp only at henv hS hX
      simp only [offCall, hf', Bool.false_eq_true, ↓reduceIte, hS]
      clear hS hnr
      generalize (fsEntry c (account s { time := t0, type := 0, depth := d, addr := f }) f).1 = p1 at hE hg1 henv hdd hX ⊢
      generalize visit c (envOf s) f = v at henv hX ⊢
      obtain ⟨vis, Ek⟩ := v
      dsimp only at henv hX ⊢
      -- the state the callees start in
      have hgk : Good (if vis then updEntry p1 else p1) := by
        cases vis
        · exact hg1
        · exact good_updEntry p1 hg1
      have hek : envOf (if vis then updEntry p1 else p1) = Ek := by cases vis <;> exact henv
      have hdk : (if vis then updEntry p1 else p1).dispDepth = (if vis then s.dispDepth + 1 else s.dispDepth) := by
        cases vis
        · exact hdd
        · simp [updEntry, hdd]
      obtain ⟨k1, k2, k3⟩ := offA_calls c hnl hno kids (d + 1) _ hgk.scSet hgk.en hgk.ds
      rw [hek, hdk] at k1 k2 k3
      rw [k1]
      cases hr : (offCalls c Ek (if vis then s.dispDepth + 1 else s.dispDepth) kids).2 with
      | true =>
        rw [k2 hr, hX]
        cases vis <;> simp only [Bool.false_eq_true, ↓reduceIte] at hr ⊢ <;> simp [shown, hr]
      | false =>
        obtain ⟨o3, e3⟩ := stepA_off c hnl hno _ { time := t1, type := 1, depth := d, addr := f } (k3 hr)
        cases vis <;> simp only [Bool.false_eq_true, ↓reduceIte] at hr o3 e3 ⊢ <;> simp [shown, hr, o3, e3]
theorem offA_calls (c : RCfg) (hnl : c.noLibcall = false) (hno : NoOn c) : ∀ (xs : Calls) (d : Nat) (s : FS),
    s.scSet = true → s.enabled = true → s.dispSet = true →
    (run (stepA c) s (evCalls d xs)).2 = (offCalls c (envOf s) s.dispDepth xs).1 ∧
    ((offCalls c (envOf s) s.dispDepth xs).2 = true → (run (stepA c) s (evCalls d xs)).1 = s) ∧
    ((offCalls c (envOf s) s.dispDepth xs).2 = false → (run (stepA c) s (evCalls d xs)).1.enabled = false)
  | .nil, d, s, _, _, _ => ⟨rfl, fun _ => rfl, fun h => absurd h (by simp [offCalls])⟩
  | .cons x rest, d, s, hs, hen, hds => by
    obtain ⟨x1, x2, x3⟩ := offA_call c hnl hno x d s hs hen hds
    simp only [evCalls, run_append, offCalls, x1]
    cases hr : (offCall c (envOf s) s.dispDepth x).2 with
    | true =>
      rw [x2 hr]
      obtain ⟨r1, r2, r3⟩ := offA_calls c hnl hno rest d s hs hen hds
      simp only [↓reduceIte, r1, true_and]
      exact ⟨r2, r3⟩
    | false =>
      obtain ⟨o3, e3⟩ := run_off c hnl hno (evCalls d rest) _ (x3 hr)
      simp only [Bool.false_eq_true, ↓reduceIte, o3, List.append_nil, true_and, hr]
      exact ⟨fun h => absurd h (by decide), fun _ => e3⟩
end

/-- report / graph / dump loop over the eager trace of a call: shows `specCall`, restores the state -/
theorem specA_call (c : RCfg) (hq : Quiet c) (hnl : c.noLibcall = false) : ∀ (x : Call) (d : Nat) (s : FS),
    s.scSet = true → s.enabled = true → s.dispSet = true →
    run (stepA c) s (evCall d x) = (s, specCall c (envOf s) s.dispDepth x) := by
  intro x d s hs hen hds
  obtain ⟨h1, h2, _⟩ := offA_call c hnl (fun f => (hq f).1) x d s hs hen hds
  rw [offCall_quiet c hq] at h1 h2
  exact Prod.ext (h2 rfl) h1

end Uft.Fstack

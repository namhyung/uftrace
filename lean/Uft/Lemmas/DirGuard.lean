import Uft.Model.DirGuard
/- What the operations of the model do to a single name of the parent directory, and that none of them
   fails when no fault is scheduled. -/
namespace Uft.DirGuard

@[simp] theorem get_erase_eq (es : Ents) (n : String) : (es.erase n).get n = none := by
  fun_induction Ents.erase n es <;> simp_all [Ents.get]

theorem get_erase_ne (es : Ents) {n x : String} (h : x ≠ n) : (es.erase n).get x = es.get x := by
  fun_induction Ents.erase n es <;> simp_all [Ents.get, Ne.symm h]

@[simp] theorem get_set_eq (es : Ents) (n : String) (v : Node) : (es.set n v).get n = some v := by
  simp [Ents.set, Ents.get]

theorem get_set_ne (es : Ents) {n x : String} (v : Node) (h : x ≠ n) :
    (es.set n v).get x = es.get x := by
  have : n ≠ x := fun hx => h hx.symm
  simp [Ents.set, Ents.get, this, get_erase_ne es h]

/-- With an empty fault list no call ever fails, and the list stays empty. -/
theorem tick_nofault (e : Env) (s : Sys) (h : e.faults = []) :
    (e.tick s).2 = false ∧ (e.tick s).1.faults = [] := by
  simp [Env.tick, h]

theorem tick_faults (e : Env) (s : Sys) : (e.tick s).1.faults = e.faults := by
  simp [Env.tick]

/-- Without faults, remove_directory removes a directory completely and returns 0. -/
theorem rmEnts_nofault : ∀ (es : Ents) (e : Env), e.faults = [] →
    (rmEnts e es).2.1 = .nil ∧ (rmEnts e es).2.2 = true ∧ (rmEnts e es).1.faults = []
  | .nil, e, h => by simp [rmEnts, h]
  | .cons name x rest, e, h => by
    have t := tick_nofault e .stat h
    cases x with
    | dir es =>
      obtain ⟨h1, h2, h3⟩ := rmEnts_nofault es (e.tick .stat).1 t.2
      have t2 := tick_nofault (rmEnts (e.tick .stat).1 es).1 .rmdir h3
      have := rmEnts_nofault rest ((rmEnts (e.tick .stat).1 es).1.tick .rmdir).1 t2.2
      simp [rmEnts, rmNode, t.1, h1, h2, t2.1, Ents.isNil, this]
    | file | link =>
      have t2 := tick_nofault (e.tick .stat).1 .unlink t.2
      have := rmEnts_nofault rest ((e.tick .stat).1.tick .unlink).1 t2.2
      simp [rmEnts, t.1, t2.1, this]

theorem rmNode_nofault (es : Ents) (e : Env) (h : e.faults = []) :
    (rmNode e (.dir es)).2.1 = none ∧ (rmNode e (.dir es)).2.2 = true ∧
    (rmNode e (.dir es)).1.faults = [] := by
  obtain ⟨h1, h2, h3⟩ := rmEnts_nofault es e h
  have t := tick_nofault (rmEnts e es).1 .rmdir h3
  simp [rmNode, h1, h2, t.1, t.2, Ents.isNil]

theorem mkdirPhase_get_other (fixed : Bool) (e : Env) (fs : Ents) {d x : String} (hd : x ≠ d) :
    (mkdirPhase fixed e fs d).fs.get x = fs.get x := by
  have h2 : (if (!(e.tick .mkdir).2 && (fs.get d).isNone) = true then fs.set d (.dir .nil) else fs).get x =
      fs.get x := by
    split
    · exact get_set_ne _ _ hd
    · rfl
  simp only [mkdirPhase]
  rw [← h2]
  generalize (if (!(e.tick .mkdir).2 && (fs.get d).isNone) = true then fs.set d (.dir .nil) else fs) = fs2
  -- what mkdir left (`fs2`) is changed at most by `fs2.set d _`
  split
  · rfl
  · dsimp only
    split
    · split
      · rfl
      · split
        · rfl
        · exact get_set_ne _ _ hd
    · rfl

theorem removeOld_get_other (e : Env) (fs : Ents) {old x : String} (ho : x ≠ old) :
    (removeOld e fs old).2.1.get x = fs.get x := by
  simp only [removeOld]
  split
  · split
    · split <;> simp_all [get_set_ne _ _ ho, get_erase_ne _ ho]
    · rfl
  · rfl

theorem removeDir_get_other (e : Env) (fs : Ents) {n x : String} (h : x ≠ n) :
    (removeDir e fs n).2.get x = fs.get x := by
  simp only [removeDir]
  split
  · split <;> simp [get_erase_ne _ h, get_set_ne _ _ h]
  · rfl

theorem removeOld_nofault (e : Env) (fs : Ents) (old : String) (h : e.faults = [])
    (hr : fs.get old = none ∨ canRemove (fs.get old) = true) :
    (removeOld e fs old).2.1.get old = none ∧ (removeOld e fs old).2.2 = true ∧
    (removeOld e fs old).1.faults = [] := by
  simp only [removeOld]
  rcases hr with hr | hr
  · simp [hr, canRemove, h]
  · simp only [hr, ↓reduceIte]
    cases ho : fs.get old with
    | none => simp [ho, h]
    | some o =>
      cases o with
      | file | link => simp [ho, canRemove, isUftraceDir, isEmptyDir] at hr
      | dir es =>
        obtain ⟨h1, h2, h3⟩ := rmNode_nofault es e h
        simp [h1, h2, h3]

theorem mkdirPhase_fresh (fixed : Bool) (e : Env) (fs : Ents) (d : String) (he : e.faults = [])
    (hd : fs.get d = none) :
    (mkdirPhase fixed e fs d).ok = true ∧
    (mkdirPhase fixed e fs d).fs.get d = some (.dir (.cons "default.opts" defaultOpts .nil)) ∧
    (mkdirPhase fixed e fs d).env.faults = [] := by
  have t2 := tick_nofault e .mkdir he
  have t3 := tick_nofault (e.tick .mkdir).1 .fopen t2.2
  have h1 : (fs.set d (.dir .nil)).get d = some (.dir .nil) := get_set_eq _ _ _
  simp only [mkdirPhase, t2.1, hd, Option.isNone_none, Bool.not_false, Bool.and_self, ↓reduceIte,
    Bool.not_true, Bool.false_and, Bool.false_eq_true, h1, t3.1, t3.2]
  simp [Ents.get, Ents.set, Ents.erase]

def ownedAfter (owned : List String) : DEv → List String
  | .fresh q => q :: owned
  | .createOk q => q :: owned
  | _ => owned

theorem guardedFrom_cons {owned : List String} {ev : DEv} {r : List DEv}
    (h : guardedFrom owned (ev :: r) = true) :
    guardedFrom owned [ev] = true ∧ guardedFrom (ownedAfter owned ev) r = true := by
  cases ev <;> simpa [guardedFrom, ownedAfter] using h

end Uft.DirGuard

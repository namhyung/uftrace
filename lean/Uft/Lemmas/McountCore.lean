import Uft.Lemmas.McountHooks
/- The part of the thread state that decides which calls are selected ("filter state"), as an abstraction
   `core` of `St`: the entry and exit hooks act on it as `entryCore` and `exitCore`, and
   `exitCore (entryCore c) = c`. -/
namespace Uft.Mcount

/-- the fields of a frame that the exit hook uses to restore the filter state -/
structure CoreF where
  norecord : Bool
  filtered : Bool
  notrace : Bool
  sDepth : Nat
  sMaxDepth : Nat
  sTime : Nat
  sSize : Nat
  deriving DecidableEq

def eraseSv (f : Filt) : Filt :=
  { f with svDepth := 0, svMaxDepth := 0, svTime := 0, svSize := 0 }

structure Core where
  filt : Filt            -- with the scratch copies (sv*) erased
  recordIdx : Nat
  over : Nat
  frames : List CoreF
  deriving DecidableEq

def coreF (f : Frame) : CoreF :=
  { norecord := f.norecord, filtered := f.filtered, notrace := f.notrace,
    sDepth := f.sDepth, sMaxDepth := f.sMaxDepth, sTime := f.sTime, sSize := f.sSize }

def core (s : St) : Core :=
  { filt := eraseSv s.filt, recordIdx := s.recordIdx, over := s.over, frames := s.frames.map coreF }

def trigFiltIf (early : Bool) (tr : Trigger) (f : Filt) : Filt := if early then f else trigFilt tr f

def bumpDepth (isIn : Bool) (f : Filt) : Filt := if isIn then { f with depth := f.depth + 1 } else f

/-- effect of the cygprof entry hook on the filter state -/
def entryCore (cfg : Cfg) (addr : Nat) (c : Core) : Core :=
  if c.frames.length + c.over ≥ cfg.maxStack then { c with over := c.over + 1 } else
  if c.filt.outCount > 0 then
    -- FILTER_OUT before any trigger is looked at
    { c with frames := { norecord := true, filtered := false, notrace := false,
                         sDepth := c.filt.depth, sMaxDepth := c.filt.maxDepth,
                         sTime := c.filt.time, sSize := c.filt.size } :: c.frames }
  else
  let tr := cfg.trig addr
  let f1 := matchFilt tr c.filt
  let early := earlyOut cfg tr c.filt
  let f3 := trigFiltIf early tr f1
  let isIn := !early && !(f3.depth ≥ depthLimit cfg tr c.filt)
  let f4 := bumpDepth isIn f3
  let nr := !isIn || f4.outCount > 0 || (f4.inCount = 0 && cfg.optIn) ||
            (f4.size > 0 && cfg.fsize addr < f4.size)
  { filt := f4, recordIdx := if nr then c.recordIdx else c.recordIdx + 1, over := c.over,
    frames := { norecord := nr, filtered := tr.filter == some true, notrace := tr.filter == some false,
                sDepth := c.filt.depth, sMaxDepth := c.filt.maxDepth,
                sTime := c.filt.time, sSize := c.filt.size } :: c.frames }

/-- effect of the exit hook on the filter state -/
def exitCore (c : Core) : Core :=
  if c.over > 0 then { c with over := c.over - 1 } else
  match c.frames with
  | [] => c
  | f :: rest =>
    { filt := { c.filt with
        inCount := if f.filtered then c.filt.inCount - 1 else c.filt.inCount,
        outCount := if !f.filtered && f.notrace then c.filt.outCount - 1 else c.filt.outCount,
        depth := f.sDepth, maxDepth := f.sMaxDepth, time := f.sTime, size := f.sSize },
      recordIdx := if f.norecord then c.recordIdx else c.recordIdx - 1,
      over := c.over, frames := rest }

/-- `over` counts calls beyond a full shadow stack -/
def Core.WF (cfg : Cfg) (c : Core) : Prop := c.over = 0 ∨ c.frames.length ≥ cfg.maxStack

@[simp] theorem matchFilt_counts (tr : Trigger) (f : Filt) :
    (matchFilt tr f).inCount = (if tr.filter = some true then f.inCount + 1 else f.inCount) ∧
    (matchFilt tr f).outCount = (if tr.filter = some false then f.outCount + 1 else f.outCount) ∧
    (matchFilt tr f).maxDepth = f.maxDepth ∧ (matchFilt tr f).time = f.time ∧ (matchFilt tr f).size = f.size ∧
    (matchFilt tr f).svDepth = f.svDepth ∧ (matchFilt tr f).svMaxDepth = f.svMaxDepth ∧
    (matchFilt tr f).svTime = f.svTime ∧ (matchFilt tr f).svSize = f.svSize := by
  unfold matchFilt
  rcases tr.filter with _ | (_ | _) <;> simp

@[simp] theorem trigFilt_counts (tr : Trigger) (f : Filt) :
    (trigFilt tr f).inCount = f.inCount ∧ (trigFilt tr f).outCount = f.outCount ∧
    (trigFilt tr f).svDepth = f.svDepth ∧ (trigFilt tr f).svMaxDepth = f.svMaxDepth ∧
    (trigFilt tr f).svTime = f.svTime ∧ (trigFilt tr f).svSize = f.svSize := by
  unfold trigFilt
  cases tr.depth <;> simp

@[simp] theorem trigFiltIf_counts (e : Bool) (tr : Trigger) (f : Filt) :
    (trigFiltIf e tr f).inCount = f.inCount ∧ (trigFiltIf e tr f).outCount = f.outCount ∧
    (trigFiltIf e tr f).svDepth = f.svDepth ∧ (trigFiltIf e tr f).svMaxDepth = f.svMaxDepth ∧
    (trigFiltIf e tr f).svTime = f.svTime ∧ (trigFiltIf e tr f).svSize = f.svSize := by
  unfold trigFiltIf; cases e <;> simp

@[simp] theorem bumpDepth_fields (b : Bool) (f : Filt) :
    (bumpDepth b f).inCount = f.inCount ∧ (bumpDepth b f).outCount = f.outCount ∧
    (bumpDepth b f).maxDepth = f.maxDepth ∧ (bumpDepth b f).time = f.time ∧ (bumpDepth b f).size = f.size ∧
    (bumpDepth b f).svDepth = f.svDepth ∧ (bumpDepth b f).svMaxDepth = f.svMaxDepth ∧
    (bumpDepth b f).svTime = f.svTime ∧ (bumpDepth b f).svSize = f.svSize := by
  unfold bumpDepth; cases b <;> simp

theorem filt_ext (a b : Filt) (h1 : a.inCount = b.inCount) (h2 : a.outCount = b.outCount)
    (h3 : a.depth = b.depth) (h4 : a.maxDepth = b.maxDepth) (h5 : a.time = b.time) (h6 : a.size = b.size)
    (h7 : a.svDepth = b.svDepth) (h8 : a.svMaxDepth = b.svMaxDepth) (h9 : a.svTime = b.svTime)
    (h10 : a.svSize = b.svSize) : a = b := by
  cases a; cases b; simp_all

/-- The exit hook undoes exactly what the entry hook did to the filter state. -/
theorem exitCore_entryCore (cfg : Cfg) (addr : Nat) (c : Core) (hwf : c.WF cfg) :
    exitCore (entryCore cfg addr c) = c := by
  unfold entryCore
  split
  · simp [exitCore]
  · rename_i hidx
    have ho : c.over = 0 := by
      rcases hwf with h | h
      · exact h
      · omega
    obtain ⟨filt, recordIdx, over, frames⟩ := c
    simp only at ho
    subst ho
    split
    · simp [exitCore]
    · rename_i hout
      simp only at hout
      have hout0 : filt.outCount = 0 := by omega
      simp only [exitCore, Nat.lt_irrefl, ↓reduceIte]
      generalize cfg.trig addr = tr
      congr 1
      · apply filt_ext <;> simp [hout0]
        · rcases tr.filter with _ | (_ | _) <;> simp
        · rcases tr.filter with _ | (_ | _) <;> simp
      · split <;> simp

theorem entryCore_wf (cfg : Cfg) (addr : Nat) (c : Core) (hwf : c.WF cfg) :
    (entryCore cfg addr c).WF cfg := by
  unfold entryCore Core.WF at *
  split
  · rename_i h
    rcases hwf with h0 | h0
    · right; simp only; omega
    · right; exact h0
  · rename_i h
    have ho : c.over = 0 := by rcases hwf with h0 | h0 <;> omega
    split <;> (left; simp [ho])

theorem flushBelow_core (fs : List Frame) : (flushBelow fs).1.map coreF = fs.map coreF :=
  map_of_eraseW coreF (fun _ => rfl) (flushBelow_eraseW fs)

theorem recordTrace_core (fs : List Frame) : (recordTrace fs).1.map coreF = fs.map coreF :=
  map_of_eraseW coreF (fun _ => rfl) (recordTrace_eraseW fs)

/-- the exit hook acts on the filter state as `exitCore` (regular build) -/
theorem core_exit (cfg : Cfg) (hf : cfg.fast = false) (s : St) (t : Nat) :
    core (exit cfg s t) = exitCore (core s) := by
  by_cases ho : s.over > 0
  · simp [exit, exitCore, ho, core]
  · have ho' : s.over = 0 := by omega
    cases hfr : s.frames with
    | nil => simp [exit, exitCore, core, ho', hfr]
    | cons f rest =>
      have htail : ((recordTrace ({ f with endT := t } :: rest)).1.tail).map coreF = rest.map coreF := by
        have h := recordTrace_core ({ f with endT := t } :: rest)
        cases hr : (recordTrace ({ f with endT := t } :: rest)).1 with
        | nil => simp [hr] at h
        | cons a b =>
          rw [hr, List.map_cons, List.map_cons] at h
          exact (List.cons.inj h).2
      rw [exit_cons cfg hf s ho' f rest hfr]
      unfold exitCore core
      simp only [ho', hfr, Nat.lt_irrefl, ↓reduceIte, List.map_cons]
      congr 1
      split
      · exact htail
      · rfl

/-- the flush at the TRACE_OFF update (repair of F-C07-TRACEOFF-FLUSH) marks frames written: invisible
    for the filter state -/
@[simp] theorem traceOffFlush_coreF (cfg : Cfg) (s : St) (tr : Trigger) :
    (traceOffFlush cfg s tr).frames.map coreF = s.frames.map coreF := by
  rw [traceOffFlush_frames]; split
  · exact recordTrace_core _
  · rfl

@[simp] theorem traceOffFlush_core (cfg : Cfg) (s : St) (tr : Trigger) : core (traceOffFlush cfg s tr) = core s := by
  simp [core]

theorem checkRstack_core (cfg : Cfg) (s : St) : core (checkRstack cfg s).2 = core s := by
  unfold checkRstack
  split
  · split
    · simp [core, recordTrace_core]
    · rfl
  · rfl

@[simp] theorem eraseSv_fields (f : Filt) :
    (eraseSv f).inCount = f.inCount ∧ (eraseSv f).outCount = f.outCount ∧ (eraseSv f).depth = f.depth ∧
    (eraseSv f).maxDepth = f.maxDepth ∧ (eraseSv f).time = f.time ∧ (eraseSv f).size = f.size := by
  simp [eraseSv]

@[simp] theorem eraseSv_saveFilt (f : Filt) : eraseSv (saveFilt f) = eraseSv f := by
  simp [eraseSv, saveFilt]

@[simp] theorem saveFilt_fields (f : Filt) :
    (saveFilt f).inCount = f.inCount ∧ (saveFilt f).outCount = f.outCount ∧ (saveFilt f).depth = f.depth ∧
    (saveFilt f).maxDepth = f.maxDepth ∧ (saveFilt f).time = f.time ∧ (saveFilt f).size = f.size ∧
    (saveFilt f).svDepth = f.depth ∧ (saveFilt f).svMaxDepth = f.maxDepth ∧
    (saveFilt f).svTime = f.time ∧ (saveFilt f).svSize = f.size := by
  simp [saveFilt]

theorem eraseSv_matchFilt (tr : Trigger) (f : Filt) : eraseSv (matchFilt tr f) = matchFilt tr (eraseSv f) := by
  unfold matchFilt
  rcases tr.filter with _ | (_ | _) <;> simp [eraseSv]

theorem eraseSv_trigFilt (tr : Trigger) (f : Filt) : eraseSv (trigFilt tr f) = trigFilt tr (eraseSv f) := by
  unfold trigFilt
  cases tr.depth <;> simp [eraseSv]

theorem eraseSv_trigFiltIf (e : Bool) (tr : Trigger) (f : Filt) :
    eraseSv (trigFiltIf e tr f) = trigFiltIf e tr (eraseSv f) := by
  unfold trigFiltIf; cases e <;> simp [eraseSv_trigFilt]

theorem eraseSv_bumpDepth (b : Bool) (f : Filt) : eraseSv (bumpDepth b f) = bumpDepth b (eraseSv f) := by
  unfold bumpDepth; cases b <;> simp [eraseSv]

theorem depth_eraseSv (f : Filt) : (eraseSv f).depth = f.depth := by simp

/-- effect of mcount_entry_filter_record on the filter state (no `finish` trigger) -/
theorem core_entryFilterRecord (cfg : Cfg) (hf : cfg.fast = false) (s : St) (F : Frame) (rest : List Frame)
    (tr : Trigger) (hfin : tr.finish = false) (hfr : s.frames = F :: rest) :
    core (entryFilterRecord cfg s tr) =
      { filt := eraseSv s.filt, recordIdx := if entryNorecord cfg s.filt F then s.recordIdx else s.recordIdx + 1,
        over := s.over, frames := coreF (tagFrame cfg s.filt tr F) :: rest.map coreF } := by
  unfold tagFrame
  generalize hnr : entryNorecord cfg s.filt F = nr
  unfold entryNorecord at hnr
  unfold entryFilterRecord
  simp only [hfr, hf, hfin, hnr, Bool.false_eq_true, ↓reduceIte]
  cases nr
  · simp only [Bool.false_eq_true, ↓reduceIte]
    split
    · simp only [core, recordTrace_core]; simp [coreF]
    · simp [core, coreF]
  · simp [core, coreF]

/-- the cygprof entry hook acts on the filter state as `entryCore` (regular
    build, no `finish` trigger on the function) -/
theorem core_entry_cyg (cfg : Cfg) (hf : cfg.fast = false) (s : St) (f t0 : Nat)
    (hfin : (cfg.trig f).finish = false) :
    core (entry cfg .cyg s f t0).1 = entryCore cfg f (core s) := by
  have h1 := checkRstack_fst cfg s
  have h2 := checkRstack_core cfg s
  unfold entry entryFilterCheck entryCore
  generalize checkRstack cfg s = cr at h1 h2 ⊢
  obtain ⟨b, s'⟩ := cr
  simp only at h1 h2
  have hlen : (core s).frames.length = s.frames.length := by simp [core]
  have ho : (core s).over = s.over := rfl
  by_cases hidx : s.frames.length + s.over ≥ cfg.maxStack
  · have hb : b = true := by simp [h1, hidx]
    subst hb
    have h3 : s'.over = s.over := congrArg Core.over h2
    simp [hlen, ho, hidx]
    rw [← h2]; simp [core]; exact h3
  · have hb : b = false := by simp [h1, hidx]
    subst hb
    simp only [hlen, ho, hidx, ↓reduceIte, hf, Bool.false_eq_true]
    rw [← h2]
    have hcf : (core s').filt = eraseSv s'.filt := rfl
    have h3 : s'.over = s.over := congrArg Core.over h2
    have e1 : (FR.out == FR.rstack) = false := rfl
    have e2 : (FR.out == FR.in_) = false := rfl
    have e3 : (FR.in_ == FR.rstack) = false := rfl
    have e4 : (FR.in_ == FR.in_) = true := rfl
    by_cases hout : s'.filt.outCount > 0
    · simp only [hcf, eraseSv_fields, saveFilt_fields, hout, ↓reduceIte, e1, e2, Bool.false_eq_true]
      rw [core_entryFilterRecord cfg hf _ _ s'.frames {} rfl rfl]
      simp [hout, core, h3, entryNorecord, tagFrame, coreF]
    · simp only [hcf, eraseSv_fields, saveFilt_fields, hout, ↓reduceIte]
      have he : earlyOut cfg (cfg.trig f) (saveFilt s'.filt) = earlyOut cfg (cfg.trig f) (eraseSv s'.filt) := by
        simp [earlyOut]
      have hd : depthLimit cfg (cfg.trig f) (saveFilt s'.filt) = depthLimit cfg (cfg.trig f) (eraseSv s'.filt) := by
        simp [depthLimit]
      rw [he, hd]
      generalize cfg.trig f = tr at hfin
      by_cases hearly : earlyOut cfg tr (eraseSv s'.filt) = true
      · simp only [hearly, ↓reduceIte, e1, e2, Bool.false_eq_true, trigFiltIf, Bool.not_true, Bool.false_and,
          bumpDepth]
        rw [core_entryFilterRecord cfg hf _ _ s'.frames tr hfin rfl]
        simp [core, eraseSv_matchFilt, h3, entryNorecord, tagFrame, coreF]
      · have hearly' : earlyOut cfg tr (eraseSv s'.filt) = false := by simpa using hearly
        have key : eraseSv (trigFilt tr (matchFilt tr (saveFilt s'.filt))) =
            trigFilt tr (matchFilt tr (eraseSv s'.filt)) := by
          rw [eraseSv_trigFilt, eraseSv_matchFilt, eraseSv_saveFilt]
        have kv : (trigFilt tr (matchFilt tr (saveFilt s'.filt))).svDepth = s'.filt.depth ∧
            (trigFilt tr (matchFilt tr (saveFilt s'.filt))).svMaxDepth = s'.filt.maxDepth ∧
            (trigFilt tr (matchFilt tr (saveFilt s'.filt))).svTime = s'.filt.time ∧
            (trigFilt tr (matchFilt tr (saveFilt s'.filt))).svSize = s'.filt.size := by simp
        generalize trigFilt tr (matchFilt tr (saveFilt s'.filt)) = G at key kv
        generalize hH : trigFilt tr (matchFilt tr (eraseSv s'.filt)) = H at key
        have kH : G.depth = H.depth ∧ G.inCount = H.inCount ∧ G.outCount = H.outCount ∧ G.size = H.size ∧
            G.maxDepth = H.maxDepth ∧ G.time = H.time ∧
            H.svDepth = 0 ∧ H.svMaxDepth = 0 ∧ H.svTime = 0 ∧ H.svSize = 0 := by
          rw [← key]
          simp [eraseSv]
        simp only [hearly', Bool.false_eq_true, ↓reduceIte, trigFiltIf, hH, kH.1]
        by_cases hlim : H.depth ≥ depthLimit cfg tr (eraseSv s'.filt)
        · simp only [hlim, ↓reduceIte, e1, e2, Bool.false_eq_true, decide_true, Bool.not_true, Bool.and_false,
            bumpDepth, Bool.not_false, Bool.true_or]
          rw [core_entryFilterRecord cfg hf _ _ _ tr hfin rfl]
          simp [core, key, h3, kv, entryNorecord, tagFrame, coreF]
        · simp only [hlim, ↓reduceIte, e3, e4, Bool.false_eq_true, decide_false, Bool.not_false, Bool.and_true,
            bumpDepth, Bool.not_true, Bool.false_or]
          rw [core_entryFilterRecord cfg hf _ _ _ tr hfin rfl]
          simp [core, h3, kv, kH, eraseSv, entryNorecord, tagFrame, coreF]

theorem matchFilt_nofilter (tr : Trigger) (f : Filt) (h : tr.filter = none) : matchFilt tr f = f := by
  simp [matchFilt, h]

theorem trigFilt_nochange (tr : Trigger) (f : Filt) (h1 : tr.depth = none) (h2 : tr.time = none)
    (h3 : tr.size = none) : trigFilt tr f = f := by
  simp [trigFilt, h1, h2, h3]

/-- a call that the filter check rejects without its trigger having touched the
    filter state leaves the filter state as it was -/
theorem core_check_nochange (cfg : Cfg) (hf : cfg.fast = false) (s : St) (f : Nat)
    (h : (entryFilterCheck cfg s f).1 = .rstack ∨
         ((entryFilterCheck cfg s f).1 = .out ∧ (entryFilterCheck cfg s f).2.2.changesState = false)) :
    core (entryFilterCheck cfg s f).2.1 = core s := by
  have h2 := checkRstack_core cfg s
  unfold entryFilterCheck at h ⊢
  generalize checkRstack cfg s = cr at h h2 ⊢
  obtain ⟨b, s'⟩ := cr
  simp only at h h2 ⊢
  cases b
  · simp only [Bool.false_eq_true, ↓reduceIte, hf] at h ⊢
    rw [← h2]
    generalize cfg.trig f = tr at h ⊢
    have hsv : (saveFilt s'.filt).outCount = s'.filt.outCount := by simp
    rw [hsv] at h ⊢
    by_cases hout : s'.filt.outCount > 0
    · simp only [hout, ↓reduceIte]; simp [core]
    · simp only [hout, ↓reduceIte] at h ⊢
      by_cases he : earlyOut cfg tr (saveFilt s'.filt) = true
      · simp only [he, ↓reduceIte] at h ⊢
        rcases h with h | ⟨_, hch⟩
        · simp at h
        · simp only [Trigger.changesState, Bool.or_eq_false_iff, Option.isSome_eq_false_iff,
            Option.isNone_iff_eq_none] at hch
          simp [core, matchFilt_nofilter _ _ hch.1.1.1]
      · simp only [he, Bool.false_eq_true, ↓reduceIte] at h ⊢
        by_cases hd : (trigFilt tr (matchFilt tr (saveFilt s'.filt))).depth ≥ depthLimit cfg tr (saveFilt s'.filt)
        · simp only [hd, ↓reduceIte] at h ⊢
          rcases h with h | ⟨_, hch⟩
          · simp at h
          · simp only [Trigger.changesState, Bool.or_eq_false_iff, Option.isSome_eq_false_iff,
              Option.isNone_iff_eq_none] at hch
            simp [core, matchFilt_nofilter _ _ hch.1.1.1, trigFilt_nochange _ _ hch.1.1.2 hch.1.2 hch.2]
        · simp only [hd, ↓reduceIte] at h
          rcases h with h | ⟨h, _⟩ <;> simp at h
  · simp only [↓reduceIte]; exact h2

/-- of the frame just pushed only NORECORD and the address matter for what mcount_entry_filter_record does to the
    filter state (also with a `finish` trigger) -/
theorem core_entryFilterRecord_congr (cfg : Cfg) (hf : cfg.fast = false) (s1 : St) (tr : Trigger) (F G : Frame)
    (h1 : F.norecord = G.norecord) (h2 : F.addr = G.addr) :
    core (entryFilterRecord cfg { s1 with frames := F :: s1.frames } tr) =
    core (entryFilterRecord cfg { s1 with frames := G :: s1.frames } tr) := by
  by_cases hfi : tr.finish = true
  · simp only [entryFilterRecord, hf, hfi, Bool.false_eq_true, ↓reduceIte]
    simp only [core, recordTrace_core]
    simp [coreF, h1, h2]
  · have hfi' : tr.finish = false := by simpa using hfi
    rw [core_entryFilterRecord cfg hf _ F s1.frames tr hfi' rfl,
      core_entryFilterRecord cfg hf _ G s1.frames tr hfi' rfl]
    simp [entryNorecord, tagFrame, coreF, h1, h2]

/-- when the -pg entry hook takes a call it changes the filter state exactly as the cygprof hook does -/
theorem core_entry_pg_push (cfg : Cfg) (hf : cfg.fast = false) (s : St) (f t0 : Nat)
    (hfin : (cfg.trig f).finish = false) (hpush : (entry cfg .pg s f t0).2 = true) :
    core (entry cfg .pg s f t0).1 = entryCore cfg f (core s) := by
  rw [← core_entry_cyg cfg hf s f t0 hfin]
  unfold entry at hpush ⊢
  generalize entryFilterCheck cfg s f = c at hpush ⊢
  obtain ⟨fr, s1, tr⟩ := c
  dsimp only at hpush ⊢
  revert hpush
  cases fr == FR.rstack
  · rw [Bool.false_or, if_neg Bool.false_ne_true]
    split
    · intro hpush
      cases hpush
    · intro _
      exact core_entryFilterRecord_congr cfg hf s1 tr _ _ (by cases fr <;> rfl) rfl
  · intro hpush
    cases hpush

/-- when the (repaired) -pg entry hook does not take a call, the filter state is untouched -/
theorem core_entry_pg_nopush (cfg : Cfg) (hf : cfg.fast = false) (hfix : cfg.f4fixed = true) (s : St)
    (f t0 : Nat) (hno : (entry cfg .pg s f t0).2 = false) :
    core (entry cfg .pg s f t0).1 = core s := by
  have key := core_check_nochange cfg hf s f
  unfold entry at hno ⊢
  generalize entryFilterCheck cfg s f = c at hno key ⊢
  obtain ⟨fr, s1, tr⟩ := c
  simp only at hno key ⊢
  by_cases hc : (fr == FR.rstack || fr != FR.in_ && !(cfg.f4fixed && tr.changesState)) = true
  · rw [if_pos hc]
    apply key
    cases fr <;> simp_all
  · rw [if_neg hc] at hno; simp at hno

end Uft.Mcount

import Uft.Lemmas.FstackLA
import Uft.Lemmas.FstackSim
import Uft.Lemmas.FstackRecord
/- C07, the commands on the record file of a forest, from the reader's initial state: every command is the
   fstack_check_filter loop on the look-ahead's output; the `>` / `≥` boundary; option sets without a time
   filter; --no-libcall after the repair of F-C07-NOLIBCALL. -/
namespace Uft.Fstack
open Uft.Mcount (Rec Trigger Call Calls evCall evCalls)

def initSet (c : RCfg) : FS := { FS.init c with scSet := true }

theorem good_initSet (c : RCfg) (hen : c.enabled0 = true) (hr : NoRange c) : Good (initSet c) := by
  constructor <;> simp [initSet, FS.init, hen, hr.1]

theorem envOf_initSet (c : RCfg) : envOf (initSet c) = Env.init c := rfl

/-- the first record of a task file fixes stack_count from its depth field: for a trace that starts at depth 0
    this is the value stack_count already has -/
theorem runSteps_init (c : RCfg) (xs : Calls) :
    runSteps (stepA c) (FS.init c) (evCalls 0 xs) = runSteps (stepA c) (initSet c) (evCalls 0 xs) := by
  cases xs with
  | nil => rfl
  | cons x rest =>
    cases x with
    | node f t0 t1 kids =>
      have : account (FS.init c) { time := t0, type := 0, depth := 0, addr := f } =
          account (initSet c) { time := t0, type := 0, depth := 0, addr := f } := rfl
      simp only [evCalls, evCall, List.cons_append, runSteps, stepA, this]

theorem stepC_eq_stepA (c : RCfg) (hnl : c.noLibcall = false) : stepC c = stepA c := by
  funext s r
  simp only [stepC, stepA, isPlt_false c hnl r, Bool.false_eq_true, ↓reduceIte]

/-- every command is the fstack_check_filter loop on the look-ahead's output (no --no-libcall, no -r; any
    trigger table): replay by the simulation `sim_run`, script by `stepC_eq_stepA` -/
theorem cmdOut_stepA (c : RCfg) (hnl : c.noLibcall = false) (hr : NoRange c) (xs : Calls) (ho : Calls.ordered xs)
    (cmd : Cmd) :
    cmdOut c cmd (evCalls 0 xs) = runSteps (stepA c) (FS.init c) (lookahead c (evCalls 0 xs)) := by
  cases cmd with
  | replay =>
    show runB c ⟨FS.init c, none⟩ (lookahead c (evCalls 0 xs)) = _
    rw [lookahead_forest c hr xs ho, sim_run c hnl _ 0 (FS.init c) ⟨FS.init c, none⟩ [] (Sim.idle _ _) (WFD_forest _)]
    rfl
  | script =>
    show runSteps (stepC c) _ _ = _
    rw [stepC_eq_stepA c hnl]
  | report => rfl
  | graph => rfl
  | dump => rfl

theorem stepA_forest_off (c : RCfg) (hnl : c.noLibcall = false) (hr : NoRange c) (hen : c.enabled0 = true)
    (hno : NoOn c) (xs : Calls) :
    runSteps (stepA c) (FS.init c) (evCalls 0 xs) = (offCalls c (Env.init c) 0 xs).1 := by
  have hg := good_initSet c hen hr
  rw [runSteps_init, ← run_snd, (offA_calls c hnl hno xs 0 (initSet c) hg.scSet hg.en hg.ds).1, envOf_initSet]
  rfl

theorem stepA_forest (c : RCfg) (hq : Quiet c) (hnl : c.noLibcall = false) (hr : NoRange c) (hen : c.enabled0 = true)
    (xs : Calls) :
    runSteps (stepA c) (FS.init c) (evCalls 0 xs) = specCalls c (Env.init c) 0 xs := by
  rw [stepA_forest_off c hnl hr hen (fun f => (hq f).1), offCalls_quiet c hq]

theorem quiet_ofRecord (cfg : Uft.Mcount.Cfg) (h : FND cfg) : Quiet (RCfg.ofRecord cfg) := by
  intro f
  show (cfg.trig f).traceOn = false ∧ (cfg.trig f).traceOff = false
  rw [h.trig f]
  exact ⟨rfl, rfl⟩

/-! ### `>` versus `≥` -/

mutual
  /-- no call ran exactly as long as the threshold that applies to it -/
  def Call.noBoundary (c : RCfg) (thr : Nat) : Call → Prop
    | .node f t0 t1 kids =>
      t1 - t0 ≠ (c.trig f).time.getD thr ∧ Calls.noBoundary c ((c.trig f).time.getD thr) kids
  def Calls.noBoundary (c : RCfg) (thr : Nat) : Calls → Prop
    | .nil => True
    | .cons x rest => Call.noBoundary c thr x ∧ Calls.noBoundary c thr rest
end

mutual
theorem prune_strict_call (c : RCfg) : ∀ (x : Call) (thr : Nat), Call.noBoundary c thr x →
    pruneCall c true thr x = pruneCall c false thr x
  | .node f t0 t1 kids, thr, h => by
    simp only [Call.noBoundary] at h
    have hk := prune_strict_calls c kids _ h.2
    have hd : keepDur true (t1 - t0) ((c.trig f).time.getD thr) = keepDur false (t1 - t0) ((c.trig f).time.getD thr) := by
      simp only [keepDur, Bool.false_eq_true, ↓reduceIte]
      have := h.1
      by_cases hgt : t1 - t0 > (c.trig f).time.getD thr
      · have : t1 - t0 ≥ (c.trig f).time.getD thr := by omega
        simp [hgt, this]
      · have : ¬ (t1 - t0 ≥ (c.trig f).time.getD thr) := by omega
        simp [hgt, this]
    simp only [pruneCall, hk, hd]
theorem prune_strict_calls (c : RCfg) : ∀ (xs : Calls) (thr : Nat), Calls.noBoundary c thr xs →
    pruneCalls c true thr xs = pruneCalls c false thr xs
  | .nil, _, _ => rfl
  | .cons x rest, thr, h => by
    simp only [Calls.noBoundary] at h
    simp only [pruneCalls, prune_strict_call c x thr h.1, prune_strict_calls c rest thr h.2]
end

mutual
theorem ordered_of_nestOK : ∀ (x : Call), Call.nestOK x → Call.ordered x
  | .node f t0 t1 kids, h => by
    simp only [Call.nestOK] at h
    simp only [Call.ordered]
    exact ⟨h.1, ordered_of_allDurLe kids _ h.2.2⟩
theorem ordered_of_allDurLe : ∀ (xs : Calls) (n : Nat), Calls.allDurLe n xs → Calls.ordered xs
  | .nil, _, _ => trivial
  | .cons x rest, n, h => by
    simp only [Calls.allDurLe] at h
    simp only [Calls.ordered]
    exact ⟨ordered_of_nestOK x h.2.1, ordered_of_allDurLe rest n h.2.2⟩
end

/-! ### no time filter: the look-ahead keeps everything -/

def NoTimeFilter (c : RCfg) : Prop := c.threshold = 0 ∧ c.callerMode = false ∧ ∀ f, (c.trig f).time = none

mutual
theorem prune_id_call (c : RCfg) (h : NoTimeFilter c) : ∀ (x : Call), pruneCall c false 0 x = some x
  | .node f t0 t1 kids => by
    simp only [pruneCall, h.2.2 f, Option.getD_none, prune_id_calls c h kids, keepDur, Bool.false_eq_true,
      ↓reduceIte, h.2.1]
    simp
theorem prune_id_calls (c : RCfg) (h : NoTimeFilter c) : ∀ (xs : Calls), pruneCalls c false 0 xs = xs
  | .nil => rfl
  | .cons x rest => by
    simp only [pruneCalls, prune_id_call c h x, prune_id_calls c h rest]
end

theorem filter_inRange (c : RCfg) (hr : NoRange c) (rs : List Rec) : rs.filter (fun r => inRange c r.time) = rs := by
  simp [inRange_of_noRange c hr]

/-! ### --no-libcall after the repair of F-C07-NOLIBCALL: script against report/graph/dump -/

/-- the two readers agree on everything the filters look at (they may differ in display depth) -/
structure FEq (a b : FS) : Prop where
  inC : a.inCount = b.inCount
  outC : a.outCount = b.outCount
  depth : a.depth = b.depth
  stack : a.stack = b.stack
  sc : a.sc = b.sc
  scSet : a.scSet = b.scSet
  en : a.enabled = b.enabled

def eraseD (rs : List Rec) : List Rec := rs.map (fun r => { r with depth := 0 })

theorem eraseD_append (a b : List Rec) : eraseD (a ++ b) = eraseD a ++ eraseD b := by simp [eraseD]

theorem feq_account (a b : FS) (h : FEq a b) (r : Rec) : FEq (account a r) (account b r) := by
  unfold account
  split
  · exact h
  · exact ⟨h.inC, h.outC, h.depth, h.stack, by simp only [h.scSet, h.sc], rfl, h.en⟩

theorem feq_fsEntry (c : RCfg) (a b : FS) (h : FEq a b) (f : Nat) :
    FEq (fsEntry c a f).1 (fsEntry c b f).1 ∧ (fsEntry c a f).2 = (fsEntry c b f).2 := by
  have hv := verdict_congr c a b f h.inC h.outC h.depth h.en
  unfold fsEntry depthAfter
  rw [hv]
  exact ⟨⟨by rw [h.inC], by rw [h.outC], by rw [h.depth], by rw [h.depth, h.stack], h.sc, h.scSet, by rw [h.en]⟩, rfl⟩

theorem feq_fsExit (c : RCfg) (a b : FS) (h : FEq a b) : FEq (fsExit c a) (fsExit c b) := by
  unfold fsExit topFr
  rw [h.stack]
  exact ⟨by rw [h.inC], by rw [h.outC], rfl, rfl, h.sc, h.scSet, h.en⟩

theorem feq_updEntry_l (a b : FS) (h : FEq a b) : FEq (updEntry a) b := ⟨h.inC, h.outC, h.depth, h.stack, h.sc, h.scSet, h.en⟩
theorem feq_updEntry_r (a b : FS) (h : FEq a b) : FEq a (updEntry b) := ⟨h.inC, h.outC, h.depth, h.stack, h.sc, h.scSet, h.en⟩
theorem feq_updExit_l (a b : FS) (h : FEq a b) : FEq (updExit a) b := ⟨h.inC, h.outC, h.depth, h.stack, h.sc, h.scSet, h.en⟩
theorem feq_updExit_r (a b : FS) (h : FEq a b) : FEq a (updExit b) := ⟨h.inC, h.outC, h.depth, h.stack, h.sc, h.scSet, h.en⟩

theorem feq_exitStep (c : RCfg) (a b : FS) (h : FEq a b) (r : Rec) (q : Bool) :
    FEq (exitStep c a r q).1 (exitStep c b r q).1 ∧ eraseD (exitStep c a r q).2 = eraseD (exitStep c b r q).2 := by
  have ht : topFr c a = topFr c b := by simp only [topFr, h.stack]
  unfold exitStep
  rw [ht, h.en]
  split
  · exact ⟨feq_fsExit c a b h, rfl⟩
  · refine ⟨feq_fsExit c _ _ (feq_updExit_l _ _ (feq_updExit_r _ _ h)), ?_⟩
    cases q <;> simp [eraseD, shown]

theorem feq_exitStep_hidden (c : RCfg) (a b : FS) (h : FEq a b) (r : Rec) :
    FEq (fsExit c a) (exitStep c b r true).1 ∧ (exitStep c b r true).2 = [] := by
  unfold exitStep
  split
  · exact ⟨feq_fsExit c a b h, rfl⟩
  · exact ⟨feq_fsExit c _ _ (feq_updExit_r _ _ h), rfl⟩

/-- one record: script (repaired) against the fstack_check_filter loop -/
theorem feq_step (c : RCfg) (hfix : c.pltFixed = true) (a b : FS) (h : FEq a b) (r : Rec) :
    FEq (stepC c a r).1 (stepA c b r).1 ∧ eraseD (stepC c a r).2 = eraseD (stepA c b r).2 := by
  have ha := feq_account a b h r
  obtain ⟨he, hb⟩ := feq_fsEntry c _ _ ha r.addr
  unfold stepC stepA
  simp only [hfix, ↓reduceIte]
  cases hp : isPlt c r with
  | true =>
    simp only [↓reduceIte, stepHidden]
    by_cases h0 : r.type = 0
    · simp only [h0, ↓reduceIte]
      cases hacc : (fsEntry c (account b r) r.addr).2 with
      | true => exact ⟨feq_updEntry_r _ _ he, rfl⟩
      | false => exact ⟨he, rfl⟩
    · simp only [h0, ↓reduceIte]
      by_cases h1 : r.type = 1
      · simp only [h1, ↓reduceIte]
        obtain ⟨x1, x2⟩ := feq_exitStep_hidden c _ _ ha r
        exact ⟨x1, by rw [x2]⟩
      · simp only [h1, ↓reduceIte]
        exact ⟨ha, trivial⟩
  | false =>
    simp only [Bool.false_eq_true, ↓reduceIte]
    by_cases h0 : r.type = 0
    · simp only [h0, ↓reduceIte, hb]
      cases hacc : (fsEntry c (account b r) r.addr).2 with
      | true =>
        simp only [↓reduceIte]
        exact ⟨feq_updEntry_l _ _ (feq_updEntry_r _ _ he), by simp [eraseD, shown]⟩
      | false => exact ⟨he, rfl⟩
    · simp only [h0, ↓reduceIte]
      by_cases h1 : r.type = 1
      · simp only [h1, ↓reduceIte]
        exact feq_exitStep c _ _ ha r false
      · simp only [h1, ↓reduceIte]
        exact ⟨ha, trivial⟩

theorem feq_run (c : RCfg) (hfix : c.pltFixed = true) : ∀ (rs : List Rec) (a b : FS), FEq a b →
    eraseD (runSteps (stepC c) a rs) = eraseD (runSteps (stepA c) b rs)
  | [], _, _, _ => rfl
  | r :: rest, a, b, h => by
    obtain ⟨h1, h2⟩ := feq_step c hfix a b h r
    simp only [runSteps, eraseD_append, h2, feq_run c hfix rest _ _ h1]

theorem feq_refl (a : FS) : FEq a a := ⟨rfl, rfl, rfl, rfl, rfl, rfl, rfl⟩

end Uft.Fstack

import Uft.Model.NonLocal
/-
C11 — replay: the display depth (utils/fstack.c, with the longjmp fix-up as it is and repaired) on
record streams that are locally coherent.
-/
namespace Uft.NonLocal

/-- the coherence checker as a fold -/
def crun : CSt → List RRec → Option CSt
  | c, [] => some c
  | c, r :: rs => match cstep c r with
    | none => none
    | some c' => crun c' rs

theorem coherent_iff_crun (c : CSt) (l : List RRec) : coherent c l = (crun c l).isSome := by
  induction l generalizing c with
  | nil => rfl
  | cons r rs ih =>
    simp only [coherent, crun]
    cases cstep c r with
    | none => rfl
    | some c' => exact ih c'

def rfinal (fixed : Bool) : RSt → List RRec → RSt
  | s, [] => s
  | s, r :: rs => rfinal fixed (rstep fixed s r).1 rs

/-- `display_depth` is initialised from the first record of the task -/
theorem rinit {r : RSt} {c : CSt} (hset : r.set = c.started) {w : Nat} (hdd : c.started = true → r.dd = w) (v : Nat) :
    ∃ r0, (if r.set = true then r else { r with dd := v, set := true }) = r0 ∧ r0.set = true ∧
      r0.dd = (if c.started = true then w else v) ∧ r0.tab = r.tab ∧ r0.last = r.last ∧ r0.pend = r.pend := by
  by_cases hs : r.set = true
  · exact ⟨r, if_pos hs, hs, by rw [← hset, if_pos hs]; exact hdd (hset ▸ hs), rfl, rfl, rfl⟩
  · exact ⟨_, if_neg hs, rfl, by rw [← hset, if_neg hs], rfl, rfl, rfl⟩

/-! ### the repaired fix-up (`setjmp_depth[]` by record depth) -/

structure RInv (r : RSt) (c : CSt) : Prop where
  set : r.set = c.started
  dd : c.started = true → r.dd = c.cur
  tab : ∀ d, c.seen d = true → r.tab d = d + 1
  pend : r.pend = c.afterLj

theorem rstep_coherent {r : RSt} {c : CSt} {x : RRec} (h : RInv r c) (hc : cok c x = true) :
    RInv (rstep true r x).1 (cnext c x) ∧ (rstep true r x).2 = x.depth := by
  obtain ⟨hset, hdd, htab, hpend⟩ := h
  by_cases ht : x.typ = 0
  · simp only [cok, ht, ↓reduceIte, Bool.and_eq_true, Bool.not_eq_true', beq_iff_eq] at hc
    obtain ⟨r0, hr0, h1, h2, h3, _, h5⟩ := rinit hset hdd x.depth
    -- the display depth before this record is the record depth
    have hd0 : r0.dd = x.depth := h2.trans hc.2.symm
    have hp0 : r0.pend = false := by rw [h5, hpend, hc.1]
    simp only [rstep, ht, ↓reduceIte, hr0]
    cases hk : x.kind <;> refine ⟨⟨?_, ?_, ?_, ?_⟩, hd0⟩ <;>
      simp +contextual [cnext, ht, hk, h1, hd0, hp0, h3, htab]
  · obtain ⟨r0, hr0, h1, hcur, h3, _, h5⟩ := rinit hset hdd (x.depth + 1)
    simp only [rstep, ht, ↓reduceIte, hr0, Bool.true_and]
    by_cases hlj : c.afterLj = true
    · -- the second return of a setjmp: the depth noted at its ENTRY
      simp only [cok, ht, ↓reduceIte, hlj, Bool.and_eq_true, decide_eq_true_eq] at hc
      have : r.tab x.depth = x.depth + 1 := htab _ hc.2
      refine ⟨⟨?_, ?_, ?_, ?_⟩, ?_⟩ <;> simp +contextual [cnext, ht, h1, h3, h5, hpend, hlj, this, htab]
    · have hlj' : c.afterLj = false := by simpa using hlj
      simp only [cok, ht, ↓reduceIte, hlj', Bool.false_eq_true, beq_iff_eq] at hc
      refine ⟨⟨?_, ?_, ?_, ?_⟩, ?_⟩ <;> simp +contextual [cnext, ht, h1, h3, h5, hpend, hlj', hcur, htab]
      all_goals omega

theorem rrun_rfinal_coherent : ∀ (l : List RRec) (r : RSt) (c c' : CSt), RInv r c → crun c l = some c' →
    rrun true r l = l.map (·.depth) ∧ RInv (rfinal true r l) c' := by
  intro l
  induction l with
  | nil => intro r c c' h hc; cases hc; exact ⟨rfl, h⟩
  | cons x xs ih =>
    intro r c c' h hc
    simp only [crun, cstep] at hc
    by_cases hk : cok c x = true
    · simp only [hk, ↓reduceIte] at hc
      obtain ⟨h', hd⟩ := rstep_coherent h hk
      obtain ⟨a, b⟩ := ih _ _ _ h' hc
      exact ⟨by simp only [rrun, List.map_cons, hd, a], b⟩
    · simp [hk] at hc

theorem rrun_coherent (l : List RRec) (r : RSt) (c : CSt) (h : RInv r c) (hc : coherent c l = true) :
    rrun true r l = l.map (·.depth) := by
  rw [coherent_iff_crun, Option.isSome_iff_exists] at hc
  obtain ⟨c', hc'⟩ := hc
  exact (rrun_rfinal_coherent l r c c' h hc').1

theorem rfinal_coherent : ∀ (l : List RRec) (r : RSt) (c c' : CSt), RInv r c → crun c l = some c' →
    RInv (rfinal true r l) c' := fun l r c c' h hc => (rrun_rfinal_coherent l r c c' h hc).2

theorem rinv_init : RInv RSt.init CSt.init := ⟨rfl, (fun h => by cases h), (fun _ h => by cases h), rfl⟩

/-! ### replay as it is (one global setjmp_depth) on streams whose longjmps land in the latest setjmp -/

structure RInvA (r : RSt) (c : CSt) : Prop where
  set : r.set = c.started
  dd : c.started = true → c.afterLj = false → r.dd = c.cur
  lj : c.afterLj = true → ∀ d, c.lastSj = some d → r.dd = d + 1
  last : ∀ d, c.lastSj = some d → r.last = d + 1

theorem rstep_asis {r : RSt} {c : CSt} {x : RRec} (h : RInvA r c) (hc : cok c x = true)
    (hl : latestOk c x = true) :
    RInvA (rstep false r x).1 (cnext c x) ∧ (rstep false r x).2 = x.depth := by
  obtain ⟨hset, hdd, hlj, hlast⟩ := h
  by_cases ht : x.typ = 0
  · simp only [cok, ht, ↓reduceIte, Bool.and_eq_true, Bool.not_eq_true', beq_iff_eq] at hc
    obtain ⟨r0, hr0, h1, h2, _, h4, _⟩ := rinit hset (fun hs => hdd hs hc.1) x.depth
    have hd0 : r0.dd = x.depth := h2.trans hc.2.symm
    simp only [rstep, ht, ↓reduceIte, hr0]
    cases hk : x.kind <;> refine ⟨⟨?_, ?_, ?_, ?_⟩, hd0⟩ <;>
      simp +contextual [cnext, ht, hk, h1, hd0, h4, hlast]
  · simp only [rstep, ht, ↓reduceIte, Bool.false_and, Bool.false_eq_true]
    by_cases haf : c.afterLj = true
    · -- the longjmp went to the setjmp seen last: its depth is what the global holds
      simp only [latestOk, ht, haf, ne_eq, not_false_eq_true, and_self, ↓reduceIte, beq_iff_eq] at hl
      obtain ⟨r0, hr0, h1, hcur, _, h4, _⟩ := rinit hset (fun _ => hlj haf x.depth hl) (x.depth + 1)
      rw [hr0]
      refine ⟨⟨?_, ?_, ?_, ?_⟩, ?_⟩ <;> simp +contextual [cnext, ht, h1, h4, hcur, hlast]
    · have haf' : c.afterLj = false := by simpa using haf
      simp only [cok, ht, ↓reduceIte, haf', Bool.false_eq_true, beq_iff_eq] at hc
      obtain ⟨r0, hr0, h1, hcur, _, h4, _⟩ := rinit hset (fun hs => hdd hs haf') (x.depth + 1)
      rw [hr0]
      refine ⟨⟨?_, ?_, ?_, ?_⟩, ?_⟩ <;> simp +contextual [cnext, ht, h1, h4, hcur, hlast]
      all_goals omega

theorem rrun_rfinal_asis : ∀ (l : List RRec) (r : RSt) (c c' : CSt), RInvA r c → crun c l = some c' →
    latestOnly c l = true → rrun false r l = l.map (·.depth) ∧ RInvA (rfinal false r l) c' := by
  intro l
  induction l with
  | nil => intro r c c' h hc _; cases hc; exact ⟨rfl, h⟩
  | cons x xs ih =>
    intro r c c' h hc hl
    simp only [crun, cstep] at hc
    simp only [latestOnly, Bool.and_eq_true] at hl
    by_cases hk : cok c x = true
    · simp only [hk, ↓reduceIte] at hc
      obtain ⟨h', hd⟩ := rstep_asis h hk hl.1
      obtain ⟨a, b⟩ := ih _ _ _ h' hc hl.2
      exact ⟨by simp only [rrun, List.map_cons, hd, a], b⟩
    · simp [hk] at hc

theorem rrun_asis (l : List RRec) (r : RSt) (c : CSt) (h : RInvA r c) (hc : coherent c l = true)
    (hl : latestOnly c l = true) : rrun false r l = l.map (·.depth) := by
  rw [coherent_iff_crun, Option.isSome_iff_exists] at hc
  obtain ⟨c', hc'⟩ := hc
  exact (rrun_rfinal_asis l r c c' h hc' hl).1

theorem rfinal_asis : ∀ (l : List RRec) (r : RSt) (c c' : CSt), RInvA r c → crun c l = some c' →
    latestOnly c l = true → RInvA (rfinal false r l) c' := fun l r c c' h hc hl => (rrun_rfinal_asis l r c c' h hc hl).2

theorem rinvA_init : RInvA RSt.init CSt.init :=
  ⟨rfl, (fun h => by cases h), (fun h => by cases h), (fun _ h => by cases h)⟩

end Uft.NonLocal

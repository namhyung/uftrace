import Uft.Lemmas.NonLocal.Inv
/-
C11 — the depth bookkeeping (`record_idx`, `rstack->depth`) along the steps of the machine.
-/
namespace Uft.NonLocal

/-- n-1, …, 1, 0 -/
def descFrom : Nat → List Nat
  | 0 => []
  | n + 1 => n :: descFrom n

@[simp] theorem descFrom_length (n : Nat) : (descFrom n).length = n := by
  induction n <;> simp_all [descFrom]

theorem descFrom_drop (n k : Nat) : (descFrom n).drop k = descFrom (n - k) := by
  induction k generalizing n with
  | zero => rfl
  | succ k ih =>
    cases n with
    | zero => simp [descFrom]
    | succ n => simp only [descFrom, List.drop_succ_cons]; rw [ih]; congr 1; omega

theorem depths_cons {e : Ent} {r : List Ent} :
    (e :: r).map Ent.depth = descFrom (e :: r).length ↔ e.depth = r.length ∧ r.map Ent.depth = descFrom r.length := by
  simp [descFrom]

/-- every entry's depth is the number of entries below it, `record_idx` is the number of entries,
    and so it was when each jmp_buf copy was taken -/
structure TraceInv (s : Sh) : Prop where
  idx : s.recIdx = s.rs.length
  depths : s.rs.map Ent.depth = descFrom s.rs.length
  jbs : ∀ j srs sidx, s.jbs.lookup j = some (srs, sidx) → sidx = srs.length ∧ srs.map Ent.depth = descFrom srs.length

theorem TraceInv.of_eq {s t : Sh} (h : TraceInv s) (h1 : t.recIdx = s.recIdx)
    (h2 : t.rs.map Ent.depth = s.rs.map Ent.depth) (h3 : t.jbs = s.jbs) : TraceInv t := by
  have hl : t.rs.length = s.rs.length := by
    have := congrArg List.length h2; simpa using this
  exact ⟨by rw [h1, hl]; exact h.idx, by rw [h2, hl]; exact h.depths, by rw [h3]; exact h.jbs⟩

theorem TraceInv.popped {s t : Sh} {n : Nat} (h : TraceInv s) (hp : Popped s t n) : TraceInv t := by
  have hl : t.rs.length = s.rs.length - n := by
    have := congrArg List.length hp.depth; simpa using this
  exact ⟨by rw [hp.recIdx, hl, h.idx], by rw [hp.depth, h.depths, descFrom_drop, hl], by rw [hp.jbs]; exact h.jbs⟩

theorem trace_pushHook {s : Sh} (h : TraceInv s) (loc child : Nat) (plt : Bool) :
    TraceInv (pushHook s loc child plt) := by
  refine ⟨by simp [h.idx], ?_, by simpa using h.jbs⟩
  simp [mkEnt, h.depths, h.idx, descFrom]

theorem trace_pltCall {s : Sh} (h : TraceInv s) (slot orig child : Nat) : TraceInv (pltCall s slot orig child) :=
  trace_pushHook (h.of_eq (t := progStore s slot orig) rfl rfl rfl) slot child true

theorem trace_exitTop {s : Sh} (h : TraceInv s) {x : Ctl} {xs : List Ctl} (hc : s.rs.map Ent.c = x :: xs) :
    TraceInv (exitTop s).1 := h.popped (exitTop_spec hc).2.2.2

theorem trace_beginCatch {m : M} (hi : Inv m) (ht : TraceInv m.sh) {fa : Nat}
    (hsep : m.sh.inExc = true → Separates m fa) : TraceInv (beginCatch Fix.all m.sh fa) := by
  obtain ⟨_, _, hp⟩ := beginCatch_hooked hi hsep
  exact (ht.of_eq (t := { m.sh with inExc := false }) rfl rfl rfl).popped hp

/-- ops after which nothing is claimed about record depths: the thread or process ends
    (pthread_exit, exit), or the depth theorem is not proved (vforkExec: H1/H5 only) -/
def Op.noDepthClaim : Op → Bool
  | .pthreadExit .. | .exit .. | .vforkExec .. => true
  | _ => false

theorem trace_step {m : M} (hi : Inv m) (ht : TraceInv m.sh) {op : Op} (hw : WellFormedOp m op)
    (hnt : op.noDepthClaim = false) : TraceInv (step Fix.all m op).sh := by
  cases op with
  | call k child slot orig fpw =>
    rw [step_call _ hi.nh]
    by_cases hk : k = .none
    · subst hk; exact ht.of_eq rfl rfl rfl
    · rw [hookEntry_hooked hk]
      exact trace_pushHook
        (trace_beginCatch (inv_call_instr hi hw) (ht.of_eq rfl rfl rfl) (call_separates hw hk)) _ _ _
  | ret =>
    obtain ⟨f, fs, hf⟩ := List.exists_cons_of_ne_nil hw.1
    rw [step_ret_eq _ hi.nh hf]
    rcases Bool.eq_false_or_eq_true m.sh.inExc with hx | hx
    · rw [hi.exc hx f (hf ▸ List.mem_cons_self ..), retLoop_stop (hi.origs f (hf ▸ List.mem_cons_self ..))]
      exact ht
    · have hh : Hooked (f :: fs) m.sh := hf ▸ hi.hooked hx
      exact ht.popped (hh.ret hi.vf (Nat.lt_succ_self _)).2.2.1.popped
  | tailcall k child =>
    obtain ⟨hne, hx, hk⟩ := hw
    obtain ⟨f, fs, hf⟩ := List.exists_cons_of_ne_nil hne
    have hkn : k ≠ .none := by rintro rfl; cases hk
    rw [step_tailcall _ hi.nh hf, hookEntry_hooked hkn, beginCatch_noexc _ hx]
    exact trace_pushHook ht _ _ _
  | setjmp j child slot orig =>
    rw [step_setjmp_all hi hw]
    have hc := ((hi.hooked hw.2.2).pltCall hw.1 hw.2.1 child).c
    have h1 := trace_pltCall ht slot orig child
    have h2 : TraceInv (setupJmpbuf Fix.all (pltCall m.sh slot orig child) j) := by
      refine ⟨h1.idx, h1.depths, fun j' srs sidx hj => ?_⟩
      simp only [setupJmpbuf, jbSet, lookup_set] at hj
      split at hj
      · cases hj
        exact ⟨h1.idx, h1.depths⟩
      · exact h1.jbs j' srs sidx hj
    exact trace_exitTop h2 (x := ⟨slot, orig, child, true, false, false⟩) (xs := expFrames m.fs) hc
  | longjmp j child slot orig =>
    obtain ⟨jb, hjb, _⟩ := hw.2.2.2
    obtain ⟨srs, sidx, hlk, hsc, _⟩ := hi.jb j jb hjb
    rw [step_longjmp_all hi hw hjb hlk]
    -- the copy taken at setjmp time comes back
    obtain ⟨h1, h2⟩ := ht.jbs j srs sidx hlk
    have hR : TraceInv { (pltCall m.sh slot orig child).record false with rs := markWritten srs, recIdx := sidx } :=
      ⟨by simp [h1, markWritten], by
        show (markWritten srs).map Ent.depth = descFrom (markWritten srs).length
        rw [markWritten_depth, h2]; simp [markWritten], by simpa using ht.jbs⟩
    exact trace_exitTop hR ((markWritten_c srs).trans hsc)
  | throw => rw [step_throw _ hi.nh]; exact ht.of_eq rfl rfl rfl
  | unwind => rw [step_unwind _ hi.nh]; exact ht
  | resume => rw [step_resume _ hi.nh]; exact ht.of_eq rfl rfl rfl
  | catch_ fa =>
    rw [step_catch _ hi.nh]
    exact trace_beginCatch hi ht hw
  | pthreadExit child slot orig => simp [Op.noDepthClaim] at hnt
  | exit child slot orig => simp [Op.noDepthClaim] at hnt
  | vforkExec a b c d e => simp [Op.noDepthClaim] at hnt
  | fork inChild child slot orig =>
    rw [step_fork_all hi hw]
    have hc := ((hi.hooked hw.2.2).pltCall hw.1 hw.2.1 child).c
    have h1 : TraceInv (forkSide inChild ((pltCall m.sh slot orig child).record false)) :=
      (trace_pltCall ht slot orig child).of_eq (by simp only [forkSide_eq, record_recIdx])
        (by simp only [forkSide_eq, record_depth]) (by simp only [forkSide_eq, record_jbs])
    exact trace_exitTop h1 (x := ⟨slot, orig, child, true, false, false⟩) (xs := expFrames m.fs)
      (by simp only [forkSide_eq, record_c]; exact hc)
  | exec child slot orig =>
    rw [step_exec _ hi.nh rfl]
    exact ⟨rfl, rfl, fun _ _ _ h => by cases h⟩
  | mtdDtor =>
    rw [step_mtdDtor _ hi.nh]
    exact ht.of_eq rfl (by simp [mtdDtor, mtdDtor_rs hi hw]) rfl

end Uft.NonLocal

import Uft.Lemmas.NonLocal.Shadow
/-
C11 — the invariant `Inv` ("in step"), what the ABI guarantees about the program's next step
(`WellFormedOp`), and the preservation of `Inv` by every step of the machine (repaired code: `Fix.all`).
While no exception is in flight `Inv` is `Hooked` plus bookkeeping, and each step is a composition of
the call instruction (`Hooked.frame`), the entry hook (`Hooked.link`), the exit hook (`Hooked.pop`) and
the return stub (`Hooked.ret`).
-/
namespace Uft.NonLocal

def setjmpCtl (jb : RJb) : Ctl := ⟨jb.sslot, jb.sorig, jb.schild, true, false, false⟩

def JbOk (sh : Sh) (j : Nat) (jb : RJb) : Prop :=
  ∃ srs sidx, sh.jbs.lookup j = some (srs, sidx) ∧
    srs.map Ent.c = setjmpCtl jb :: expFrames jb.frames ∧
    jb.pc = PTRAMP ∧ isTramp jb.sorig = false ∧ (∀ f ∈ jb.frames, jb.sslot < f.slot)

/-- entries left on the shadow stack by frames that the unwinder has dropped -/
def deadPart (m : M) : List Ent := m.sh.rs.take (m.sh.rs.length - (expFrames m.fs).length)

/-- "in step": the shadow stack is exactly what the live hooked frames account for
    (plus, while an exception is in flight, the entries of already unwound frames on top),
    every live return slot holds the real return address or the trampoline of its function,
    the top hooked slot is hooked, and every jmp_buf has its copy. -/
structure Inv (m : M) : Prop where
  nh : m.halted = false
  nd : m.sh.dead = false
  vf : m.sh.vf = none
  ctl : ∃ dead, m.sh.rs.map Ent.c = dead ++ expFrames m.fs ∧ (m.sh.inExc = false → dead = [])
  sorted : m.fs.Pairwise (fun a b => a.slot < b.slot)
  origs : ∀ f ∈ m.fs, isTramp f.orig = false
  memOk : MemOk m.fs m.sh.mem
  top : m.sh.inExc = false → TopOk m.fs m.sh.mem
  exc : m.sh.inExc = true → ∀ f ∈ m.fs, m.sh.mem f.slot = f.orig
  jb : ∀ j jb, m.rjb.lookup j = some jb → JbOk m.sh j jb

/-- a halted machine (after exit) is trivially in step: nothing returns any more -/
def InStep (m : M) : Prop := m.halted = true ∨ Inv m

/-! ### WellFormedOp: what C / the ABI guarantee about the program's next step -/

def Kind.hooked : Kind → Bool
  | .none => false
  | _ => true

/-- `fa` separates the entries of unwound frames from the live hooked frames -/
def Separates (m : M) (fa : Nat) : Prop :=
  (∀ d ∈ deadPart m, d.c.loc ≤ fa) ∧ (∀ f ∈ m.fs, f.chain ≠ [] → fa < f.slot)

/-- the frame address __mcount_entry derives from `parent_loc[-1]` (repaired fallback) -/
def entryFa (slot fpw : Nat) : Nat := if fpw < slot then slot else fpw

def WellFormedOp (m : M) : Op → Prop
  | .call k _ slot orig fpw =>
    -- a new frame below every live frame; the return address is a real code address;
    -- in a landing pad, the callee's frame pointer word separates dead from live frames
    1 ≤ slot ∧ (∀ f ∈ m.fs, slot < f.slot) ∧ isTramp orig = false ∧
    (m.sh.inExc = true → k = .mcount → Separates m (entryFa slot fpw)) ∧
    (m.sh.inExc = true → k = .plt → Separates m slot)
  | .ret =>
    -- only code that is not being unwound returns: during unwinding only unhooked helpers run
    m.fs ≠ [] ∧ (m.sh.inExc = true → ∀ f ∈ m.fs.head?, f.chain = [])
  | .tailcall k _ => m.fs ≠ [] ∧ m.sh.inExc = false ∧ k.hooked = true
  | .setjmp _ _ slot orig => (∀ f ∈ m.fs, slot < f.slot) ∧ isTramp orig = false ∧ m.sh.inExc = false
  | .longjmp j _ slot orig =>
    -- the target is a live setjmp frame, as C requires
    (∀ f ∈ m.fs, slot < f.slot) ∧ isTramp orig = false ∧ m.sh.inExc = false ∧
    ∃ jb, m.rjb.lookup j = some jb ∧ jb.frames <:+ m.fs
  | .throw => m.sh.inExc = false
  | .unwind => m.sh.inExc = true ∧ m.fs ≠ []
  | .resume => ∀ d ∈ deadPart m, ∀ f ∈ m.fs, d.c.loc ≠ f.slot
  | .catch_ fa => m.sh.inExc = true → Separates m fa
  | .pthreadExit _ slot orig => (∀ f ∈ m.fs, slot < f.slot) ∧ isTramp orig = false ∧ m.sh.inExc = false
  | .exit _ slot orig => (∀ f ∈ m.fs, slot < f.slot) ∧ isTramp orig = false ∧ m.sh.inExc = false
  | .vforkExec _ slot orig _ eorig =>
    (∀ f ∈ m.fs, slot < f.slot) ∧ isTramp orig = false ∧ isTramp eorig = false ∧ m.sh.inExc = false
  | .mtdDtor => m.sh.inExc = false ∧ ∀ f ∈ m.fs, f.chain = []
  | .fork _ _ slot orig => (∀ f ∈ m.fs, slot < f.slot) ∧ isTramp orig = false ∧ m.sh.inExc = false
  | .exec _ slot orig => (∀ f ∈ m.fs, slot < f.slot) ∧ isTramp orig = false ∧ m.sh.inExc = false

theorem Inv.hooked {m : M} (hi : Inv m) (hx : m.sh.inExc = false) : Hooked m.fs m.sh := by
  obtain ⟨dead, hc, hd0⟩ := hi.ctl
  cases hd0 hx
  exact ⟨hx, hc, hi.sorted, hi.origs, hi.memOk, hi.top hx⟩

theorem Hooked.inv {m : M} (hh : Hooked m.fs m.sh) (hn : m.halted = false) (hd : m.sh.dead = false)
    (hv : m.sh.vf = none) (hjb : ∀ j jb, m.rjb.lookup j = some jb → JbOk m.sh j jb) : Inv m :=
  ⟨hn, hd, hv, ⟨[], hh.c, fun _ => rfl⟩, hh.sorted, hh.origs, hh.memOk, fun _ => hh.top,
    fun h => absurd (hh.inExc.symm.trans h) (by decide), hjb⟩

theorem Inv.jb_keep {m : M} (hi : Inv m) {s : Sh} (h : s.jbs = m.sh.jbs) :
    ∀ j jb, m.rjb.lookup j = some jb → JbOk s j jb := by
  intro j jb hj
  obtain ⟨srs, sidx, h1, h2⟩ := hi.jb j jb hj
  exact ⟨srs, sidx, h ▸ h1, h2⟩

theorem deadPart_c {m : M} {dead : List Ctl} (h : m.sh.rs.map Ent.c = dead ++ expFrames m.fs) :
    (deadPart m).map Ent.c = dead := by
  have hl := congrArg List.length h
  simp only [List.length_map, List.length_append] at hl
  simp only [deadPart]
  rw [hl, List.map_take, h]
  simp

/-! ### what a step is, with the program's own stores written as `progWrite` / `progStore` -/

section step
variable (fx : Fix) {m : M} (hn : m.halted = false)
include hn

theorem step_call (k : Kind) (child slot orig fpw : Nat) :
    step fx m (.call k child slot orig fpw) =
      { m with fs := ⟨slot, orig, chainOf k child⟩ :: m.fs,
               sh := hookEntry fx (progWrite m.sh slot orig fpw) k slot child } :=
  if_neg (Bool.eq_false_iff.mp hn)

theorem step_ret_eq {f : Frame} {fs : List Frame} (hf : m.fs = f :: fs) :
    step fx m .ret =
      { m with fs := fs, sh := (retLoop (m.sh.rs.length + 1) m.sh (m.sh.mem f.slot)).1,
               last := (retLoop (m.sh.rs.length + 1) m.sh (m.sh.mem f.slot)).2 } :=
  (if_neg (Bool.eq_false_iff.mp hn)).trans (by rw [hf])

theorem step_tailcall {f : Frame} {fs : List Frame} (hf : m.fs = f :: fs) (k : Kind) (child : Nat) :
    step fx m (.tailcall k child) =
      { m with fs := { f with chain := chainOf k child ++ f.chain } :: fs, sh := hookEntry fx m.sh k f.slot child } :=
  (if_neg (Bool.eq_false_iff.mp hn)).trans (by rw [hf])

theorem step_throw : step fx m .throw = { m with sh := cxaThrow m.sh } := if_neg (Bool.eq_false_iff.mp hn)
theorem step_resume : step fx m .resume = { m with sh := cxaThrow m.sh } := if_neg (Bool.eq_false_iff.mp hn)
theorem step_unwind : step fx m .unwind = { m with fs := m.fs.tail } := if_neg (Bool.eq_false_iff.mp hn)
theorem step_catch (fa : Nat) : step fx m (.catch_ fa) = { m with sh := beginCatch fx m.sh fa } :=
  if_neg (Bool.eq_false_iff.mp hn)
theorem step_mtdDtor : step fx m .mtdDtor = { m with sh := mtdDtor m.sh } := if_neg (Bool.eq_false_iff.mp hn)

theorem step_setjmp {j child slot orig : Nat} {sh1 : Sh}
    (h1 : plthookEntry fx (progStore m.sh slot orig) slot child .setjmp j = sh1) :
    step fx m (.setjmp j child slot orig) =
      { m with sh := (retLoop (sh1.rs.length + 1) sh1 (sh1.mem slot)).1,
               last := (retLoop (sh1.rs.length + 1) sh1 (sh1.mem slot)).2,
               rjb := rjbSet m.rjb j ⟨m.fs, slot, orig, child, sh1.mem slot⟩ } :=
  h1 ▸ if_neg (Bool.eq_false_iff.mp hn)

theorem step_longjmp {j child slot orig : Nat} {sh1 : Sh} {jb : RJb}
    (h1 : plthookEntry fx (progStore m.sh slot orig) slot child .longjmp j = sh1) (hj : m.rjb.lookup j = some jb) :
    step fx m (.longjmp j child slot orig) =
      { m with fs := jb.frames, sh := (retLoop (ljFuel sh1 j) sh1 jb.pc).1, last := (retLoop (ljFuel sh1 j) sh1 jb.pc).2 } := by
  subst h1
  refine (if_neg (Bool.eq_false_iff.mp hn)).trans ?_
  rw [hj]
  rfl

theorem step_fork {inChild : Bool} {child slot orig : Nat} {sh2 : Sh}
    (h2 : forkSide inChild (plthookEntry fx (progStore m.sh slot orig) slot child .flush 0) = sh2) :
    step fx m (.fork inChild child slot orig) =
      { m with sh := (retLoop (sh2.rs.length + 1) sh2 (sh2.mem slot)).1,
               last := (retLoop (sh2.rs.length + 1) sh2 (sh2.mem slot)).2 } :=
  h2 ▸ if_neg (Bool.eq_false_iff.mp hn)

theorem step_exec {child slot orig : Nat} {sh1 : Sh}
    (h1 : plthookEntry fx (progStore m.sh slot orig) slot child .flush 0 = sh1) :
    step fx m (.exec child slot orig) =
      { M.init with sh := { Sh.init with out := sh1.out, pid := sh1.pid, child := sh1.child }, last := m.last } :=
  h1 ▸ if_neg (Bool.eq_false_iff.mp hn)

/-- vfork@plt in the parent, its return in the child, exec*@plt in the child, the return in the parent -/
theorem step_vforkExec {child slot orig echild eorig : Nat} {sh1 sA sh3 sB : Sh} {v1 v2 : Nat}
    (h1 : plthookEntry fx (progStore m.sh slot orig) slot child .vfork 0 = sh1)
    (h2 : retLoop (sh1.rs.length + 1) { sh1 with pid := sh1.pid + 1 } (sh1.mem slot) = (sA, v1))
    (h3 : plthookEntry fx (progStore sA slot eorig) slot echild .flush 0 = sh3)
    (h4 : retLoop (sh3.rs.length + 1) { sh3 with pid := sh3.pid - 1 } (sh1.mem slot) = (sB, v2)) :
    step fx m (.vforkExec child slot orig echild eorig) = { m with sh := sB, last := v2 } := by
  have hA : (retLoop (sh1.rs.length + 1) { sh1 with pid := sh1.pid + 1 } (sh1.mem slot)).1 = sA := by rw [h2]
  subst h1 hA h3
  show _ = ({ m with sh := (sB, v2).1, last := (sB, v2).2 } : M)
  rw [← h4]
  exact if_neg (Bool.eq_false_iff.mp hn)

theorem step_pthreadExit {child slot orig : Nat} {sh1 : Sh}
    (h1 : plthookEntry fx (progStore m.sh slot orig) slot child .plain 0 = sh1) :
    step fx m (.pthreadExit child slot orig) = { m with fs := [], sh := pthreadExitW fx sh1 } :=
  h1 ▸ if_neg (Bool.eq_false_iff.mp hn)
end step

theorem beginCatch_noexc (fx : Fix) {s : Sh} (h : s.inExc = false) (fa : Nat) : beginCatch fx s fa = s := by
  simp [beginCatch, h]

@[simp] theorem beginCatch_jbs (fx : Fix) (s : Sh) (fa : Nat) : (beginCatch fx s fa).jbs = s.jbs := by
  unfold beginCatch; split <;> rfl

@[simp] theorem beginCatch_inExc (fx : Fix) (s : Sh) (fa : Nat) : (beginCatch fx s fa).inExc = false := by
  unfold beginCatch
  split
  · rfl
  · simpa using ‹¬ s.inExc = true›

/-- the frame address the entry hook of kind `k` hands to mcount_rstack_rehook_exception -/
def hookFa (k : Kind) (s : Sh) (slot : Nat) : Nat :=
  match k with
  | .plt => slot
  | _ => entryFrameAddr Fix.all s slot

/-- both entry hooks begin like the __cxa_begin_catch wrapper:
    `if (in_exception) { mcount_rstack_rehook_exception(fa); in_exception = false; }` -/
theorem hookEntry_hooked {k : Kind} (hk : k ≠ .none) (s : Sh) (slot child : Nat) :
    hookEntry Fix.all s k slot child =
      pushHook (beginCatch Fix.all s (hookFa k s slot)) slot child (decide (k = .plt)) := by
  cases k with
  | none => exact absurd rfl hk
  | mcount => cases hx : s.inExc <;> simp [hookEntry, mcountEntry, beginCatch, excPre, hookFa, hx]
  | plt =>
    cases hx : s.inExc <;>
      simp [hookEntry, plthookEntry, beginCatch, excPre, hookFa, hx, Sym.flushes, Fix.all, pltSpecial]

theorem chainOf_hooked {k : Kind} (hk : k ≠ .none) (child : Nat) :
    chainOf k child = [⟨child, decide (k = .plt)⟩] := by
  cases k <;> simp_all [chainOf]

section plthookEntry
variable {s : Sh} (h : s.inExc = false) (slot orig child : Nat)
include h

theorem plthookEntry_plain :
    plthookEntry Fix.all (progStore s slot orig) slot child .plain 0 = pltCall s slot orig child := by
  simp [plthookEntry, h, Sym.flushes, pltSpecial]

theorem plthookEntry_setjmp (j : Nat) :
    plthookEntry Fix.all (progStore s slot orig) slot child .setjmp j =
      setupJmpbuf Fix.all (pltCall s slot orig child) j := by
  simp [plthookEntry, h, Sym.flushes, pltSpecial]

theorem plthookEntry_flush :
    plthookEntry Fix.all (progStore s slot orig) slot child .flush 0 = (pltCall s slot orig child).record false := by
  simp [plthookEntry, h, Sym.flushes, pltSpecial]
end plthookEntry

/-- the call instruction itself (also from a landing pad): a new frame that is not hooked so far -/
theorem Inv.frame {m : M} (hi : Inv m) {slot orig : Nat} {mem : Mem} (hlt : ∀ f ∈ m.fs, slot < f.slot)
    (hor : isTramp orig = false) (hslot : mem slot = orig) (hkeep : ∀ f ∈ m.fs, mem f.slot = m.sh.mem f.slot) :
    Inv { m with fs := ⟨slot, orig, []⟩ :: m.fs, sh := { m.sh with mem := mem } } := by
  rcases Bool.eq_false_or_eq_true m.sh.inExc with hx | hx
  · -- an exception is in flight: every slot holds its real return address
    have hall : ∀ f ∈ (⟨slot, orig, []⟩ :: m.fs : List Frame), mem f.slot = f.orig :=
      List.forall_mem_cons.mpr ⟨hslot, fun f hf => (hkeep f hf).trans (hi.exc hx f hf)⟩
    exact ⟨hi.nh, hi.nd, hi.vf, hi.ctl, List.pairwise_cons.mpr ⟨hlt, hi.sorted⟩,
      List.forall_mem_cons.mpr ⟨hor, hi.origs⟩, fun f hf => Or.inl (hall f hf),
      fun h => absurd (hx.symm.trans h) (by decide), fun _ => hall, hi.jb_keep rfl⟩
  · exact ((hi.hooked hx).frame hlt hor hslot hkeep).inv hi.nh hi.nd hi.vf (hi.jb_keep rfl)

theorem Inv.dead_le {m : M} {fa : Nat} (hsep : Separates m fa) {dead : List Ctl}
    (hc : m.sh.rs.map Ent.c = dead ++ expFrames m.fs) : ∀ d ∈ dead, d.loc ≤ fa := by
  intro d hd
  rw [← deadPart_c hc] at hd
  obtain ⟨e, he, rfl⟩ := List.mem_map.mp hd
  exact hsep.1 e he

/-- what `if (in_exception) { mcount_rstack_rehook_exception(fa); in_exception = false; }` leaves -/
theorem beginCatch_hooked {m : M} (hi : Inv m) {fa : Nat} (hsep : m.sh.inExc = true → Separates m fa) :
    Hooked m.fs (beginCatch Fix.all m.sh fa) ∧
    ∃ n, Popped { m.sh with inExc := false } (beginCatch Fix.all m.sh fa) n := by
  rcases Bool.eq_false_or_eq_true m.sh.inExc with hx | hx
  · obtain ⟨dead, hc, _⟩ := hi.ctl
    have sp := rehookException_spec hc hi.sorted (hi.exc hx) (Inv.dead_le (hsep hx) hc) (hsep hx).2
    have hb : beginCatch Fix.all m.sh fa = { rehookException Fix.all m.sh fa with inExc := false } := by
      simp [beginCatch, hx]
    rw [hb]
    refine ⟨⟨rfl, sp.c, hi.sorted, hi.origs, fun f hf => ?_, fun p ps hp => ?_⟩, dead.length,
      ⟨sp.recIdx, rfl, sp.jbs, sp.vf, sp.dead, sp.depth⟩⟩
    · show (rehookException Fix.all m.sh fa).mem f.slot = f.orig ∨ _
      rw [sp.hooked f hf]
      cases hcf : f.chain with
      | nil => exact Or.inl (hi.exc hx f hf)
      | cons l r => exact Or.inr ⟨l, r, rfl, rfl⟩
    · obtain ⟨g, hg, l, r, hgc, rfl⟩ := expFrames_head hp
      show (rehookException Fix.all m.sh fa).mem g.slot = hv l.plt
      rw [sp.hooked g hg, hgc]
  · rw [beginCatch_noexc _ hx]
    exact ⟨hi.hooked hx, 0, ⟨rfl, hx, rfl, rfl, rfl, rfl⟩⟩

theorem inv_call_instr {m : M} (hi : Inv m) {k : Kind} {child slot orig fpw : Nat}
    (hw : WellFormedOp m (.call k child slot orig fpw)) :
    Inv { m with fs := ⟨slot, orig, []⟩ :: m.fs, sh := progWrite m.sh slot orig fpw } :=
  hi.frame hw.2.1 hw.2.2.1 (progWrite_slot _ _ _ _ hw.1) (fun f hf => progWrite_above _ _ _ _ (hw.2.1 f hf))

/-- in a landing pad, the frame address the callee's entry hook works with separates the entries of the
    unwound frames from the live ones -/
theorem call_separates {m : M} {k : Kind} {child slot orig fpw : Nat}
    (hw : WellFormedOp m (.call k child slot orig fpw)) (hk : k ≠ .none) (hx : m.sh.inExc = true) :
    Separates { m with fs := ⟨slot, orig, []⟩ :: m.fs, sh := progWrite m.sh slot orig fpw }
      (hookFa k (progWrite m.sh slot orig fpw) slot) := by
  obtain ⟨_, _, _, hsm, hsp⟩ := hw
  have hfa : entryFrameAddr Fix.all (progWrite m.sh slot orig fpw) slot = entryFa slot fpw := by
    simp only [entryFrameAddr]
    rw [progWrite_below]; simp [entryFa, Fix.all]
  have hsep : Separates m (hookFa k (progWrite m.sh slot orig fpw) slot) := by
    cases k with
    | none => exact absurd rfl hk
    | mcount => rw [show hookFa .mcount _ slot = _ from hfa]; exact hsm hx rfl
    | plt => exact hsp hx rfl
  exact ⟨hsep.1, List.forall_mem_cons.mpr ⟨fun h => absurd rfl h, hsep.2⟩⟩

theorem inv_call {m : M} (hi : Inv m) {k : Kind} {child slot orig fpw : Nat}
    (hw : WellFormedOp m (.call k child slot orig fpw)) :
    Inv (step Fix.all m (.call k child slot orig fpw)) := by
  rw [step_call _ hi.nh]
  by_cases hk : k = .none
  · subst hk; exact inv_call_instr hi hw
  · -- a hooked callee; from a landing pad its entry hook first drops the entries of the unwound frames
    rw [hookEntry_hooked hk, chainOf_hooked hk]
    obtain ⟨hh, _, hp⟩ := beginCatch_hooked (inv_call_instr hi hw) (call_separates hw hk)
    exact (hh.link child _).inv hi.nh (by simpa [hp.dead] using hi.nd) (by simpa [hp.vf] using hi.vf)
      (hi.jb_keep (by simp))

theorem inv_tailcall {m : M} (hi : Inv m) {k : Kind} {child : Nat} (hw : WellFormedOp m (.tailcall k child)) :
    Inv (step Fix.all m (.tailcall k child)) := by
  obtain ⟨hne, hx, hk⟩ := hw
  obtain ⟨f, fs, hf⟩ := List.exists_cons_of_ne_nil hne
  have hkn : k ≠ .none := by rintro rfl; cases hk
  rw [step_tailcall _ hi.nh hf, hookEntry_hooked hkn, chainOf_hooked hkn, beginCatch_noexc _ hx]
  have hh : Hooked (f :: fs) m.sh := hf ▸ hi.hooked hx
  exact (hh.link child _).inv hi.nh (by simpa using hi.nd) (by simpa using hi.vf) (hi.jb_keep (by simp))

/-- the unwinder drops the top frame: its entries stay on the shadow stack for now -/
theorem Inv.drop_frame {m : M} (hi : Inv m) (hx : m.sh.inExc = true) {f : Frame} {fs : List Frame}
    (hf : m.fs = f :: fs) (last : Nat) : Inv { m with fs := fs, last := last } := by
  obtain ⟨dead, hc, _⟩ := hi.ctl
  have hsub : ∀ g ∈ fs, g ∈ m.fs := fun g hg => by rw [hf]; exact List.mem_cons_of_mem _ hg
  refine ⟨hi.nh, hi.nd, hi.vf, ⟨dead ++ expChain f.slot f.orig f.chain, ?_, fun h => absurd (hx.symm.trans h) (by decide)⟩,
    (hf ▸ hi.sorted : Sorted (f :: fs)).of_cons, fun g hg => hi.origs g (hsub g hg), fun g hg => hi.memOk g (hsub g hg),
    fun h => absurd (hx.symm.trans h) (by decide), fun h g hg => hi.exc h g (hsub g hg), hi.jb⟩
  rw [hc, hf]; simp [expFrames]

theorem ret_spec {m : M} (hi : Inv m) {f : Frame} {fs : List Frame} (hf : m.fs = f :: fs) : Inv (step Fix.all m .ret) ∧ (step Fix.all m .ret).last = f.orig := by
  have hfm : f ∈ m.fs := hf ▸ List.mem_cons_self ..
  rw [step_ret_eq _ hi.nh hf]
  rcases Bool.eq_false_or_eq_true m.sh.inExc with hx | hx
  · -- only unhooked helpers return while the stack is being unwound: no hook runs
    rw [hi.exc hx f hfm, retLoop_stop (hi.origs f hfm)]
    exact ⟨hi.drop_frame hx hf _, rfl⟩
  · have hh : Hooked (f :: fs) m.sh := hf ▸ hi.hooked hx
    obtain ⟨r1, r2, r3, _⟩ := hh.ret hi.vf (Nat.lt_succ_self _)
    exact ⟨r2.inv hi.nh (r3.popped.dead.trans hi.nd) (r3.popped.vf.trans hi.vf) (hi.jb_keep r3.popped.jbs), r1⟩

/-- memory after mcount_rstack_restore on an in-step stack (with dead entries on top) -/
theorem restore_all {m : M} (hi : Inv m) (hdl : ∀ d ∈ deadPart m, ∀ f ∈ m.fs, d.c.loc ≠ f.slot) :
    ∀ f ∈ m.fs, restoreMem m.sh.rs m.sh.mem f.slot = f.orig := by
  intro f hf
  obtain ⟨dead, hc, _⟩ := hi.ctl
  obtain ⟨l1, l2, hl, h1, h2⟩ := List.map_eq_append_iff.mp hc
  have hdp : deadPart m = l1 := by
    have hlen : l2.length = (expFrames m.fs).length := by rw [← h2]; simp
    simp only [deadPart, hl, List.length_append, hlen]
    simp
  rw [hl, restoreMem_append, restoreMem_frames m.fs l2 _ h2 hi.sorted hi.origs f hf]
  cases hch : f.chain with
  | nil =>
    simp only
    rw [restoreMem_other (fun e he => hdl e (hdp ▸ he) f hf)]
    exact hi.memOk.unhooked hf hch
  | cons l r => rfl

/-- the __cxa_throw / __cxa_rethrow / _Unwind_Resume wrappers: every live slot gets its real return address -/
theorem inv_throw_like {m : M} (hi : Inv m) (hdl : ∀ d ∈ deadPart m, ∀ f ∈ m.fs, d.c.loc ≠ f.slot) :
    Inv { m with sh := cxaThrow m.sh } := by
  have hr := restore_all hi hdl
  obtain ⟨dead, hc, _⟩ := hi.ctl
  exact ⟨hi.nh, hi.nd, hi.vf, ⟨dead, hc, fun h => by simp [cxaThrow] at h⟩, hi.sorted, hi.origs,
    fun f hf => Or.inl (hr f hf), (fun h => by simp [cxaThrow] at h), fun _ => hr, hi.jb⟩

theorem inv_throw {m : M} (hi : Inv m) (hw : WellFormedOp m .throw) : Inv (step Fix.all m .throw) := by
  rw [step_throw _ hi.nh]
  refine inv_throw_like hi (fun d hd => ?_)
  have h := deadPart_c (dead := []) (hi.hooked hw).c
  rw [List.map_eq_nil_iff.mp h] at hd
  cases hd

theorem inv_resume {m : M} (hi : Inv m) (hw : WellFormedOp m .resume) : Inv (step Fix.all m .resume) := by
  rw [step_resume _ hi.nh]
  exact inv_throw_like hi hw

theorem inv_unwind {m : M} (hi : Inv m) (hw : WellFormedOp m .unwind) : Inv (step Fix.all m .unwind) := by
  obtain ⟨f, fs, hf⟩ := List.exists_cons_of_ne_nil hw.2
  rw [step_unwind _ hi.nh, hf]
  exact hi.drop_frame hw.1 hf _

theorem inv_catch {m : M} (hi : Inv m) {fa : Nat} (hw : WellFormedOp m (.catch_ fa)) :
    Inv (step Fix.all m (.catch_ fa)) := by
  rw [step_catch _ hi.nh]
  obtain ⟨hh, _, hp⟩ := beginCatch_hooked hi hw
  exact hh.inv hi.nh (hp.dead.trans hi.nd) (hp.vf.trans hi.vf) (hi.jb_keep hp.jbs)

/-- `jbSet` and `rjbSet`: the new binding in front, older ones for the same key filtered out -/
theorem lookup_set {β : Type} (l : List (Nat × β)) (a b : Nat) (v : β) :
    ((a, v) :: l.filter (fun p => p.1 != a)).lookup b = if b = a then some v else l.lookup b := by
  by_cases h : b = a
  · simp [h]
  · have hb : (b == a) = false := by simp [h]
    simp only [List.lookup, hb, if_neg h]
    induction l with
    | nil => rfl
    | cons x xs ih =>
      by_cases hx : x.1 = a
      · simp [List.filter, hx, List.lookup, hb, ih]
      · have : (x.1 != a) = true := by simp [hx]
        simp only [List.filter, this, List.lookup]
        split <;> simp_all

/-- setjmp@plt and its first return: the copy of the shadow stack is taken while setjmp's own entry
    is on top, then that entry is left as usual -/
theorem step_setjmp_all {m : M} (hi : Inv m) {j child slot orig : Nat} (hw : WellFormedOp m (.setjmp j child slot orig)) :
    step Fix.all m (.setjmp j child slot orig) =
      { m with sh := (exitTop (setupJmpbuf Fix.all (pltCall m.sh slot orig child) j)).1, last := orig,
               rjb := rjbSet m.rjb j ⟨m.fs, slot, orig, child, PTRAMP⟩ } := by
  obtain ⟨hlt, hor, hx⟩ := hw
  have h1 := (hi.hooked hx).pltCall hlt hor child
  have hm : (setupJmpbuf Fix.all (pltCall m.sh slot orig child) j).mem slot = PTRAMP := h1.top.hooked rfl
  have hc : (setupJmpbuf Fix.all (pltCall m.sh slot orig child) j).rs.map Ent.c =
      ⟨slot, orig, child, true, false, false⟩ :: expFrames m.fs := h1.c
  rw [step_setjmp _ hi.nh (plthookEntry_setjmp hx slot orig child j),
    pltCall_ret _ hc hm (by simpa [setupJmpbuf] using hi.vf) hor, hm]

theorem inv_setjmp {m : M} (hi : Inv m) {j child slot orig : Nat} (hw : WellFormedOp m (.setjmp j child slot orig)) :
    Inv (step Fix.all m (.setjmp j child slot orig)) ∧ (step Fix.all m (.setjmp j child slot orig)).last = orig := by
  rw [step_setjmp_all hi hw]
  obtain ⟨hlt, hor, hx⟩ := hw
  have h1 := (hi.hooked hx).pltCall hlt hor child
  have hc : (setupJmpbuf Fix.all (pltCall m.sh slot orig child) j).rs.map Ent.c =
      ⟨slot, orig, child, true, false, false⟩ :: expFrames m.fs := h1.c
  have hh := Hooked.pop hc (by simpa [setupJmpbuf] using hx) hi.sorted hi.origs hlt h1.tail.2.2
  refine ⟨hh.inv hi.nh ((exitTop_spec hc).2.2.2.dead.trans (by simpa [setupJmpbuf] using hi.nd))
    (by simpa [setupJmpbuf] using hi.vf) (fun j' jb' hj' => ?_), rfl⟩
  have hjbs : (exitTop (setupJmpbuf Fix.all (pltCall m.sh slot orig child) j)).1.jbs =
      jbSet m.sh.jbs j ((pltCall m.sh slot orig child).rs, (pltCall m.sh slot orig child).recIdx) := by
    simp [setupJmpbuf]
  have hj'' : (if j' = j then some _ else m.rjb.lookup j') = some jb' := (lookup_set m.rjb j j' _).symm.trans hj'
  split at hj'' <;> rename_i hjj
  · cases hj''
    exact ⟨(pltCall m.sh slot orig child).rs, (pltCall m.sh slot orig child).recIdx,
      by rw [hjbs, jbSet, lookup_set, if_pos hjj], hc, rfl, hor, hlt⟩
  · obtain ⟨srs, sidx, h2, h3⟩ := hi.jb j' jb' hj''
    exact ⟨srs, sidx, by rw [hjbs, jbSet, lookup_set, if_neg hjj]; exact h2, h3⟩

@[simp] theorem forkSide_eq (b : Bool) (s : Sh) :
    forkSide b s = { s with child := b || s.child, pid := if b then s.pid + 1 else s.pid } := by
  cases b <;> rfl

/-- fork@plt (forced flush) and its return, in the parent and in the child (which owns a copy of everything) -/
theorem step_fork_all {m : M} (hi : Inv m) {inChild : Bool} {child slot orig : Nat}
    (hw : WellFormedOp m (.fork inChild child slot orig)) :
    step Fix.all m (.fork inChild child slot orig) =
      { m with sh := (exitTop (forkSide inChild ((pltCall m.sh slot orig child).record false))).1, last := orig } := by
  obtain ⟨hlt, hor, hx⟩ := hw
  have h1 := (hi.hooked hx).pltCall hlt hor child
  rw [step_fork _ hi.nh (congrArg (forkSide inChild) (plthookEntry_flush hx slot orig child)),
    pltCall_ret _ (by simp only [forkSide_eq, record_c]; exact h1.c)
      (by simp only [forkSide_eq, record_mem]; exact h1.top.hooked rfl) (by simpa using hi.vf) hor]

theorem inv_fork {m : M} (hi : Inv m) {inChild : Bool} {child slot orig : Nat}
    (hw : WellFormedOp m (.fork inChild child slot orig)) :
    Inv (step Fix.all m (.fork inChild child slot orig)) ∧
    (step Fix.all m (.fork inChild child slot orig)).last = orig := by
  rw [step_fork_all hi hw]
  obtain ⟨hlt, hor, hx⟩ := hw
  have h1 := (hi.hooked hx).pltCall hlt hor child
  have hc : (forkSide inChild ((pltCall m.sh slot orig child).record false)).rs.map Ent.c =
      ⟨slot, orig, child, true, false, false⟩ :: expFrames m.fs := by simp only [forkSide_eq, record_c]; exact h1.c
  have hh := Hooked.pop hc (by simpa using hx) hi.sorted hi.origs hlt (by simpa using h1.tail.2.2)
  exact ⟨hh.inv hi.nh ((exitTop_spec hc).2.2.2.dead.trans (by simpa using hi.nd)) (by simpa using hi.vf)
    (hi.jb_keep (by simp)), rfl⟩

theorem plthookEntry_longjmp {s : Sh} (h : s.inExc = false) (slot orig child j : Nat) :
    plthookEntry Fix.all (progStore s slot orig) slot child .longjmp j =
      { (pltCall s slot orig child).record false with
        rs := setTop ((pltCall s slot orig child).record false).rs
                fun e => { e with c := { e.c with ljmp := true }, jb := j } } := by
  simp [plthookEntry, h, Sym.flushes, pltSpecial]

def markWritten (l : List Ent) : List Ent := l.map (fun e => { e with written := true })

theorem markWritten_c (l : List Ent) : (markWritten l).map Ent.c = l.map Ent.c := by
  simp [markWritten, List.map_map, Function.comp_def]

theorem markWritten_depth (l : List Ent) : (markWritten l).map Ent.depth = l.map Ent.depth := by
  simp [markWritten, List.map_map, Function.comp_def]

/-- the return stub after longjmp: __plthook_exit finds the flagged entry on top, swaps in the copy taken
    at setjmp time and leaves through setjmp's entry -/
theorem retLoop_ljmp {R : Sh} {e : Ent} {r srs : List Ent} {j sidx : Nat} {x : Ctl} {xs : List Ctl} (n : Nat)
    (hr : R.rs = e :: r) (hj : R.jbs.lookup j = some (srs, sidx)) (hs : srs.map Ent.c = x :: xs)
    (hp : x.plt = true) (hxl : x.ljmp = false) (hxv : x.vfork = false) (hvf : R.vf = none)
    (hip : isTramp x.ip = false) :
    retLoop (n + 1)
      { R with rs := setTop R.rs fun e => { e with c := { e.c with ljmp := true }, jb := j } } PTRAMP =
      ((exitTop { R with rs := markWritten srs, recIdx := sidx }).1, x.ip) := by
  have hs' : (markWritten srs).map Ent.c = x :: xs := (markWritten_c srs).trans hs
  obtain ⟨e0, r0, hr0, he0, _⟩ := List.map_eq_cons_iff.mp hs'
  have h1 : e0.c.ljmp = false := by rw [he0]; exact hxl
  have h2 : e0.c.vfork = false := by rw [he0]; exact hxv
  have h3 : e0.c.plt = true := by rw [he0]; exact hp
  have hmw : List.map (fun e => ({ e with written := true } : Ent)) srs = e0 :: r0 := hr0
  have hexit : plthookExit { R with rs := setTop R.rs fun e => { e with c := { e.c with ljmp := true }, jb := j } } =
      exitTop { R with rs := markWritten srs, recIdx := sidx } := by
    simp [plthookExit, hr, setTop, restoreJmpbuf, hj, plthookExitCore, hmw, h1, h2, h3, hvf, markWritten]
  rw [retLoop_succ_ptramp, hexit, (exitTop_spec (s := { R with rs := markWritten srs, recIdx := sidx }) hs').1,
    retLoop_stop hip]

/-- longjmp@plt: the flush, then the exit through plthook_return with the copy taken at setjmp time -/
theorem step_longjmp_all {m : M} (hi : Inv m) {j child slot orig : Nat} (hw : WellFormedOp m (.longjmp j child slot orig))
    {jb : RJb} (hjb : m.rjb.lookup j = some jb) {srs : List Ent} {sidx : Nat}
    (hlk : m.sh.jbs.lookup j = some (srs, sidx)) :
    step Fix.all m (.longjmp j child slot orig) =
      { m with fs := jb.frames, last := jb.sorig,
               sh := (exitTop { (pltCall m.sh slot orig child).record false with
                                rs := markWritten srs, recIdx := sidx }).1 } := by
  obtain ⟨hlt, hor, hx, _⟩ := hw
  obtain ⟨srs', sidx', hlk', hsc, hpc, hso, _⟩ := hi.jb j jb hjb
  rw [hlk] at hlk'
  cases hlk'
  have h1 := (hi.hooked hx).pltCall hlt hor child
  have hrc : ((pltCall m.sh slot orig child).record false).rs.map Ent.c =
      ⟨slot, orig, child, true, false, false⟩ :: expFrames m.fs := by rw [record_c]; exact h1.c
  obtain ⟨e, r, hr, _, _⟩ := List.map_eq_cons_iff.mp hrc
  rw [step_longjmp _ hi.nh (plthookEntry_longjmp hx slot orig child j) hjb, hpc,
    show ljFuel _ j = _ + 1 from rfl,
    retLoop_ljmp (x := setjmpCtl jb) _ hr (by simpa using hlk) hsc rfl rfl rfl (by simpa using hi.vf) hso]
  rfl

theorem inv_longjmp {m : M} (hi : Inv m) {j child slot orig : Nat} (hw : WellFormedOp m (.longjmp j child slot orig)) :
    ∃ jb, m.rjb.lookup j = some jb ∧
      Inv (step Fix.all m (.longjmp j child slot orig)) ∧
      (step Fix.all m (.longjmp j child slot orig)).last = jb.sorig ∧
      (step Fix.all m (.longjmp j child slot orig)).fs = jb.frames := by
  obtain ⟨jb, hjb, hsuf⟩ := hw.2.2.2
  obtain ⟨srs, sidx, hlk, hsc, _, _, hsl⟩ := hi.jb j jb hjb
  rw [step_longjmp_all hi hw hjb hlk]
  obtain ⟨hlt, hor, hx, _⟩ := hw
  have h1 := (hi.hooked hx).pltCall hlt hor child
  have hsub : ∀ g ∈ jb.frames, g ∈ m.fs := fun g hg => hsuf.mem hg
  have hsRc : ({ (pltCall m.sh slot orig child).record false with rs := markWritten srs, recIdx := sidx } : Sh).rs.map Ent.c
      = setjmpCtl jb :: expFrames jb.frames := (markWritten_c srs).trans hsc
  have hh := Hooked.pop hsRc (by simpa using hx) (hi.sorted.sublist hsuf.sublist) (fun g hg => hi.origs g (hsub g hg)) hsl
    (fun g hg => by simpa using h1.tail.2.2 g (hsub g hg))
  exact ⟨jb, hjb, hh.inv hi.nh ((exitTop_spec hsRc).2.2.2.dead.trans (by simpa using hi.nd)) (by simpa using hi.vf)
    (hi.jb_keep (by simp)), rfl, rfl⟩

theorem Inv.of_empty {m : M} (hf : m.fs = []) (hr : m.sh.rs = []) (hn : m.halted = false) (hd : m.sh.dead = false)
    (hv : m.sh.vf = none) (hjb : ∀ j jb, m.rjb.lookup j = some jb → JbOk m.sh j jb) : Inv m := by
  refine ⟨hn, hd, hv, ⟨[], by rw [hf, hr]; rfl, fun _ => rfl⟩, ?_, ?_, ?_, ?_, ?_, hjb⟩ <;> rw [hf]
  · exact List.Pairwise.nil
  · exact fun _ h => by cases h
  · exact fun _ h => by cases h
  · exact fun _ _ _ h => by cases h
  · exact fun _ _ h => by cases h

theorem inv_init : Inv M.init := Inv.of_empty rfl rfl rfl rfl rfl (fun _ _ h => by cases h)

/-- the invariant is not vacuous: the initial machine is in step -/
example : Inv M.init := inv_init

theorem inv_pthreadExit {m : M} (hi : Inv m) {child slot orig : Nat}
    (hw : WellFormedOp m (.pthreadExit child slot orig)) :
    Inv (step Fix.all m (.pthreadExit child slot orig)) := by
  rw [step_pthreadExit _ hi.nh (plthookEntry_plain hw.2.2 slot orig child)]
  have hw : pthreadExitW Fix.all (pltCall m.sh slot orig child) =
      { exitFilterRecord (pltCall m.sh slot orig child) false with
        mem := restoreMem (exitFilterRecord (pltCall m.sh slot orig child) false).rs
                (exitFilterRecord (pltCall m.sh slot orig child) false).mem,
        rs := [] } := by
    simp only [pthreadExitW, pushHook_rs, Fix.all, ↓reduceIte]
  rw [hw]
  exact Inv.of_empty rfl rfl hi.nh (by simpa [exitFilterRecord] using hi.nd) (by simpa [exitFilterRecord] using hi.vf)
    (hi.jb_keep (by simp [exitFilterRecord]))

/-- when the thread destructor runs nothing is hooked any more: the shadow stack is already empty -/
theorem mtdDtor_rs {m : M} (hi : Inv m) (hw : WellFormedOp m .mtdDtor) : m.sh.rs = [] := by
  have hc := (hi.hooked hw.1).c
  rw [expFrames_nil_of_chains hw.2] at hc
  simpa using hc

theorem inv_mtdDtor {m : M} (hi : Inv m) (hw : WellFormedOp m .mtdDtor) : Inv (step Fix.all m .mtdDtor) := by
  have hrs := mtdDtor_rs hi hw
  rw [step_mtdDtor _ hi.nh]
  have hh : Hooked m.fs (mtdDtor m.sh) :=
    (hi.hooked hw.1).congr (by simp [mtdDtor, hrs]) (by simp [mtdDtor, hrs, restoreMem]) rfl
  exact hh.inv hi.nh hi.nd hi.vf (hi.jb_keep rfl)

/-- exec: whatever the shadow stack held is gone with the process image; the new image starts in step -/
theorem inv_exec {m : M} (hi : Inv m) (child slot orig : Nat) : Inv (step Fix.all m (.exec child slot orig)) := by
  rw [step_exec _ hi.nh rfl]
  exact Inv.of_empty rfl rfl rfl rfl rfl (fun _ _ h => by cases h)

theorem plthookEntry_vfork {s : Sh} (h : s.inExc = false) (slot orig child : Nat) :
    plthookEntry Fix.all (progStore s slot orig) slot child .vfork 0 =
      prepareVfork { (pltCall s slot orig child).record false with
        rs := setTop ((pltCall s slot orig child).record false).rs
                fun e => { e with c := { e.c with vfork := true } } } := by
  simp [plthookEntry, h, Sym.flushes, pltSpecial]

/-- __plthook_exit in the vfork child: new shmem, leave through the vfork entry -/
theorem plthookExit_vfork_child {s : Sh} {e : Ent} {r : List Ent} {v : VSave} (hr : s.rs = e :: r)
    (hl : e.c.ljmp = false) (hvk : e.c.vfork = true) (hp : e.c.plt = true) (hvf : s.vf = some v)
    (hpid : s.pid ≠ v.parent) : plthookExit s = exitTop { s with child := true } := by
  simp [plthookExit, plthookExitCore, hr, hl, hvk, hp, hvf, restoreVfork, hpid]

/-- __plthook_exit in the parent after the child is gone: the saved vfork entry comes back -/
theorem plthookExit_vfork_parent {s : Sh} {e : Ent} {r : List Ent} {v : VSave} (hr : s.rs = e :: r)
    (hl : e.c.ljmp = false) (hvk : e.c.vfork = false) (hvf : s.vf = some v) (hpid : s.pid = v.parent)
    (hidx : v.idx - 1 = r.length) (hp : v.ent.c.plt = true) :
    plthookExit s = exitTop { s with child := false, rs := v.ent :: r, recIdx := v.recIdx, vf := none } := by
  have hle : v.idx - 1 ≤ r.length + 1 := by omega
  have hd : List.drop (r.length + 1 - (v.idx - 1)) (e :: r) = r := by
    rw [hidx]; simp
  simp [plthookExit, plthookExitCore, hr, hl, hvk, hvf, restoreVfork, hpid, hle, hd, hp]

/-- the parent comes back from vfork to its caller, in step, although the child used the shared shadow
    stack in between (prepare_vfork / setup_vfork / restore_vfork) -/
theorem inv_vforkExec {m : M} (hi : Inv m) {child slot orig echild eorig : Nat}
    (hw : WellFormedOp m (.vforkExec child slot orig echild eorig)) :
    Inv (step Fix.all m (.vforkExec child slot orig echild eorig)) ∧
    (step Fix.all m (.vforkExec child slot orig echild eorig)).last = orig := by
  obtain ⟨hlt, hor, heor, hx⟩ := hw
  have h1 := (hi.hooked hx).pltCall hlt hor child
  -- vfork@plt in the parent: the entry is flagged and saved
  let s1 := pltCall m.sh slot orig child
  have hrc : (s1.record false).rs.map Ent.c = ⟨slot, orig, child, true, false, false⟩ :: expFrames m.fs := by
    rw [record_c]; exact h1.c
  obtain ⟨e, r, hr, he, hrr⟩ := List.map_eq_cons_iff.mp hrc
  let ev : Ent := { e with c := { e.c with vfork := true } }
  let v : VSave := ⟨m.sh.pid, r.length + 1, s1.recIdx, { ev with written := true }⟩
  let sh1 : Sh := { s1.record false with rs := ev :: r, vf := some v }
  have hpe : plthookEntry Fix.all (progStore m.sh slot orig) slot child .vfork 0 = sh1 := by
    rw [plthookEntry_vfork hx]
    show prepareVfork { s1.record false with rs := setTop (s1.record false).rs _ } = sh1
    simp only [hr, setTop, prepareVfork]
    simp [sh1, v, ev, s1]
  have hsaved : sh1.mem slot = PTRAMP := by
    show (s1.record false).mem slot = PTRAMP
    rw [record_mem]; exact h1.top.hooked rfl
  -- the child returns from vfork through the flagged entry
  let sC : Sh := { sh1 with pid := sh1.pid + 1, child := true }
  have hcC : sC.rs.map Ent.c = ⟨slot, orig, child, true, false, true⟩ :: expFrames m.fs := by
    show (ev :: r).map Ent.c = _
    simp [ev, he, hrr]
  have hC : Hooked m.fs (exitTop sC).1 :=
    Hooked.pop hcC (by simpa [sC, sh1, s1] using hx) hi.sorted hi.origs hlt
      (by show MemOk m.fs (s1.record false).mem; rw [record_mem]; exact h1.tail.2.2)
  have hA : retLoop (sh1.rs.length + 1) { sh1 with pid := sh1.pid + 1 } (sh1.mem slot) = ((exitTop sC).1, orig) := by
    rw [hsaved, retLoop_succ_ptramp,
      plthookExit_vfork_child (e := ev) (r := r) (v := v) rfl (by simp [ev, he]) rfl (by simp [ev, he]) rfl
        (by show (s1.record false).pid + 1 ≠ m.sh.pid; simp [s1]),
      (exitTop_spec hcC).1]
    exact retLoop_stop hor _ _
  -- the child calls exec: an ordinary PLT call with a forced flush
  have hE := hC.pltCall hlt heor echild
  let s3 := (pltCall (exitTop sC).1 slot eorig echild).record false
  have hc3 : s3.rs.map Ent.c = ⟨slot, eorig, echild, true, false, false⟩ :: expFrames m.fs := by
    rw [record_c]; exact hE.c
  obtain ⟨e3, r3, hr3, he3, hrr3⟩ := List.map_eq_cons_iff.mp hc3
  -- exec: the parent returns from vfork; restore_vfork puts the saved entry back
  let sQ : Sh := { s3 with pid := s3.pid - 1, child := false, rs := v.ent :: r3, recIdx := v.recIdx, vf := none }
  have hcQ : sQ.rs.map Ent.c = ⟨slot, orig, child, true, false, true⟩ :: expFrames m.fs := by
    show (v.ent :: r3).map Ent.c = _
    simp [v, ev, he, hrr3]
  have hQ : Hooked m.fs (exitTop sQ).1 :=
    Hooked.pop hcQ (by simpa [sQ, s3] using hC.inExc) hi.sorted hi.origs hlt
      (by show MemOk m.fs s3.mem; rw [record_mem]; exact hE.tail.2.2)
  have hlen3 : r3.length = r.length := by
    have h1 := congrArg List.length hrr3
    have h2 := congrArg List.length hrr
    simp at h1 h2; omega
  have hB : retLoop (s3.rs.length + 1) { s3 with pid := s3.pid - 1 } (sh1.mem slot) = ((exitTop sQ).1, orig) := by
    rw [hsaved, retLoop_succ_ptramp,
      plthookExit_vfork_parent (s := { s3 with pid := s3.pid - 1 }) (e := e3) (r := r3) (v := v) hr3 (by simp [he3]) (by simp [he3])
        (by simp [s3, sC, sh1]) (by simp [s3, sC, sh1, s1, v]) (by show r.length + 1 - 1 = r3.length; omega)
        (by simp [v, ev, he]),
      (exitTop_spec hcQ).1]
    exact retLoop_stop hor _ _
  rw [step_vforkExec _ hi.nh hpe hA (plthookEntry_flush hC.inExc slot eorig echild) hB]
  refine ⟨hQ.inv hi.nh ?_ (by simp [sQ]) (hi.jb_keep (by simp [sQ, s3, sC, sh1, s1])), rfl⟩
  rw [(exitTop_spec hcQ).2.2.2.dead]
  show s3.dead = false
  simp only [s3, record_dead, pushHook_eq, progStore_dead]
  rw [(exitTop_spec hcC).2.2.2.dead]
  simpa [sC, sh1, s1] using hi.nd

theorem step_halted (fx : Fix) {m : M} (h : m.halted = true) (op : Op) : step fx m op = m := by
  cases op <;> exact if_pos h

/-- every step but `exit`, which halts the machine, takes a machine that is in step to one that is -/
theorem inv_step {m : M} {op : Op} (hi : Inv m) (hw : WellFormedOp m op) (hne : ∀ c s o, op ≠ .exit c s o) :
    Inv (step Fix.all m op) := by
  cases op with
  | call k child slot orig fpw => exact inv_call hi hw
  | ret =>
    obtain ⟨f, fs, hf⟩ := List.exists_cons_of_ne_nil hw.1
    exact (ret_spec hi hf).1
  | tailcall k child => exact inv_tailcall hi hw
  | setjmp j child slot orig => exact (inv_setjmp hi hw).1
  | longjmp j child slot orig =>
    obtain ⟨jb, _, h, _⟩ := inv_longjmp hi hw
    exact h
  | throw => exact inv_throw hi hw
  | unwind => exact inv_unwind hi hw
  | resume => exact inv_resume hi hw
  | catch_ fa => exact inv_catch hi hw
  | pthreadExit child slot orig => exact inv_pthreadExit hi hw
  | exit child slot orig => exact absurd rfl (hne child slot orig)
  | vforkExec a b c d e => exact (inv_vforkExec hi hw).1
  | mtdDtor => exact inv_mtdDtor hi hw
  | fork ic child slot orig => exact (inv_fork hi hw).1
  | exec child slot orig => exact inv_exec hi child slot orig

theorem instep_step {m : M} {op : Op} (hi : InStep m) (hw : WellFormedOp m op) : InStep (step Fix.all m op) := by
  rcases hi with hh | hi
  · rw [step_halted _ hh]; exact Or.inl hh
  · cases op with
    | exit child slot orig =>
      exact Or.inl (congrArg M.halted (if_neg (Bool.eq_false_iff.mp hi.nh) : step Fix.all m (.exit child slot orig) = _))
    | _ => exact Or.inr (inv_step hi hw (fun _ _ _ h => by cases h))

end Uft.NonLocal

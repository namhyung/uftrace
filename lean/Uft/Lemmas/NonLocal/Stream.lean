import Uft.Lemmas.NonLocal.Depth
import Uft.Lemmas.NonLocal.Replay
/-
C11 — the record side: along a history the records libmcount writes for the task form a locally
coherent stream, which is replay's hypothesis.
-/
namespace Uft.NonLocal

theorem crun_append (c : CSt) (a b : List RRec) : crun c (a ++ b) = (crun c a).bind (fun c' => crun c' b) := by
  induction a generalizing c with
  | nil => rfl
  | cons r rs ih =>
    simp only [List.cons_append, crun]
    cases cstep c r with
    | none => rfl
    | some c' => exact ih c'

theorem crun_snoc {c c1 : CSt} {a : List RRec} {r : RRec} (h : crun c a = some c1) (hk : cok c1 r = true) :
    crun c (a ++ [r]) = some (cnext c1 r) := by
  rw [crun_append, h]
  simp [crun, cstep, hk]

/-- the task's stream grows by records of the task itself that the checker accepts -/
theorem crun_out_append {out new : List Rec} {c c' : CSt} (h : crun CSt.init (taskStream out) = some c)
    (htid : ∀ r ∈ new, r.tid = 0) (hn : crun c (new.map toRRec) = some c') :
    crun CSt.init (taskStream (out ++ new)) = some c' := by
  have : taskStream (out ++ new) = taskStream out ++ new.map toRRec := by
    simp only [taskStream, List.filter_append, List.map_append]
    congr 2
    exact List.filter_eq_self.mpr (fun r hr => by simp [htid r hr])
  rw [this, crun_append, h]
  exact hn

/-- number of entries whose ENTRY record is out -/
def wc : List Ent → Nat
  | [] => 0
  | e :: r => (if e.written then 1 else 0) + wc r

def AllW (l : List Ent) : Prop := ∀ e ∈ l, e.written = true

/-- WRITTEN is downward closed -/
def WOk : List Ent → Prop
  | [] => True
  | e :: r => (e.written = true → AllW r) ∧ WOk r

def okKind (child : Nat) : Prop := symKind child ≠ .longjmp ∧ symKind child ≠ .exec

/-- no entry on the stack is a longjmp or an exec: those never stay on the stack between two steps -/
def NoJump (l : List Ent) : Prop := ∀ e ∈ l, okKind e.c.child

theorem wc_allW {l : List Ent} (h : AllW l) : wc l = l.length := by
  induction l with
  | nil => rfl
  | cons e r ih =>
    simp only [wc, h e (by simp), ↓reduceIte, List.length_cons]
    rw [ih (List.forall_mem_cons.mp h).2]; omega

theorem WOk_allW {l : List Ent} (h : AllW l) : WOk l := by
  induction l with
  | nil => trivial
  | cons e r ih =>
    exact ⟨fun _ x hx => h x (by simp [hx]), ih (List.forall_mem_cons.mp h).2⟩

def SeenLe (c c' : CSt) : Prop := ∀ d, c.seen d = true → c'.seen d = true

theorem SeenLe.refl (c : CSt) : SeenLe c c := fun _ h => h
theorem SeenLe.trans {a b c : CSt} (h1 : SeenLe a b) (h2 : SeenLe b c) : SeenLe a c := fun d h => h2 d (h1 d h)

/-- the checker state `c` after the records so far fits the stack `l` -/
structure Sync (c : CSt) (l : List Ent) : Prop where
  af : c.afterLj = false
  cur : c.cur = wc l
  st : c.started = false → wc l = 0
  wok : WOk l
  dep : l.map Ent.depth = descFrom l.length

theorem Sync.tail {c : CSt} {e : Ent} {r : List Ent} (h : Sync c (e :: r)) (he : e.written = false) : Sync c r := by
  refine ⟨h.af, ?_, ?_, h.wok.2, ?_⟩
  · rw [h.cur]; simp [wc, he]
  · intro hs; have := h.st hs; simpa [wc, he] using this
  · exact (depths_cons.mp h.dep).2

theorem Sync.head_depth {c : CSt} {e : Ent} {r : List Ent} (h : Sync c (e :: r)) : e.depth = r.length :=
  (depths_cons.mp h.dep).1

theorem cok_entry {c : CSt} {e : Ent} (haf : c.afterLj = false) (hcur : c.cur = e.depth) :
    cok c (toRRec (entryRec 0 e)) = true := by
  simp only [cok, toRRec, entryRec, ↓reduceIte, haf, Bool.not_false, Bool.true_and, beq_iff_eq]
  split
  · exact hcur.symm
  · rfl

theorem cnext_entry_props (c : CSt) (e : Ent) :
    (cnext c (toRRec (entryRec 0 e))).started = true ∧
    (cnext c (toRRec (entryRec 0 e))).afterLj = decide (symKind e.c.child = .longjmp) ∧
    (cnext c (toRRec (entryRec 0 e))).cur = (if symKind e.c.child = .exec then 0 else e.depth + 1) ∧
    SeenLe c (cnext c (toRRec (entryRec 0 e))) ∧
    (symKind e.c.child = .setjmp → (cnext c (toRRec (entryRec 0 e))).seen e.depth = true) := by
  refine ⟨by simp [cnext, toRRec, entryRec], rfl, rfl, ?_, ?_⟩
  · intro d hd
    simp only [cnext, toRRec, entryRec, ↓reduceIte]
    by_cases hk : symKind e.c.child = .setjmp
    · simp only [hk, ↓reduceIte]; by_cases hde : d = e.depth <;> simp [hde, hd]
    · simp only [hk, ↓reduceIte]; exact hd
  · intro hk
    simp [cnext, toRRec, entryRec, hk]

/-- record_trace_data's ENTRY part on a stack that fits the stream: afterwards everything is written and
    the checker has accepted every new record -/
theorem writeEntries_stream : ∀ (l : List Ent) (c : CSt), Sync c l → NoJump l →
    ∃ c', crun c ((writeEntries 0 l).2.map toRRec) = some c' ∧ c'.afterLj = false ∧ c'.cur = l.length ∧
      SeenLe c c' ∧ AllW (writeEntries 0 l).1 ∧
      (∀ e r, l = e :: r → c'.started = true ∧
        (symKind e.c.child = .setjmp → c'.seen e.depth = true ∨ e.written = true)) := by
  intro l
  induction l with
  | nil =>
    intro c h _
    exact ⟨c, rfl, h.af, by rw [h.cur]; rfl, SeenLe.refl c, (fun _ h => by cases h), (fun _ _ h => by cases h)⟩
  | cons e r ih =>
    intro c h hn
    by_cases hw : e.written = true
    · have hall : AllW (e :: r) := List.forall_mem_cons.mpr ⟨hw, h.wok.1 hw⟩
      refine ⟨c, by simp [writeEntries, hw, crun], h.af, by rw [h.cur, wc_allW hall], SeenLe.refl c, ?_, ?_⟩
      · simpa [writeEntries, hw] using hall
      · intro e' r' he
        cases he
        refine ⟨?_, fun _ => Or.inr hw⟩
        -- an ENTRY record is out, so the stream has begun
        rcases Bool.eq_false_or_eq_true c.started with hs | hs
        · exact hs
        · have := h.st hs
          simp [wc, hw] at this
    · have hw' : e.written = false := by simpa using hw
      obtain ⟨c1, h1, haf1, hcur1, hs1, hall1, _⟩ := ih c (h.tail hw') (List.forall_mem_cons.mp hn).2
      have hd := h.head_depth
      have hk := cok_entry (e := e) haf1 (hcur1.trans hd.symm)
      obtain ⟨p1, p2, p3, p4, p5⟩ := cnext_entry_props c1 e
      have hne := hn e (by simp)
      refine ⟨cnext c1 (toRRec (entryRec 0 e)), ?_, ?_, ?_, hs1.trans p4, ?_, ?_⟩
      · simp only [writeEntries, hw', Bool.false_eq_true, ↓reduceIte, List.map_append, List.map_cons,
          List.map_nil]
        exact crun_snoc h1 hk
      · rw [p2]; simp [hne.1]
      · rw [p3]; simp [hne.2, hd]
      · simp only [writeEntries, hw', Bool.false_eq_true, ↓reduceIte]
        exact List.forall_mem_cons.mpr ⟨rfl, hall1⟩
      · intro e' r' he
        cases he
        exact ⟨p1, fun hk' => Or.inl (p5 hk')⟩

theorem NoJump.congr {l l' : List Ent} (h : NoJump l) (hc : l.map Ent.c = l'.map Ent.c) : NoJump l' := by
  intro e he
  have : e.c ∈ l'.map Ent.c := List.mem_map_of_mem he
  rw [← hc] at this
  obtain ⟨x, hx, e1⟩ := List.mem_map.mp this
  rw [← e1]; exact h x hx

theorem Sync_allW {c : CSt} {l : List Ent} (haf : c.afterLj = false) (hall : AllW l) (hcur : c.cur = l.length)
    (hst : c.started = true) (hd : l.map Ent.depth = descFrom l.length) : Sync c l :=
  ⟨haf, by rw [hcur, wc_allW hall], (fun h => by rw [hst] at h; cases h), WOk_allW hall, hd⟩

theorem entryRec_tid (t : Nat) (e : Ent) : (entryRec t e).tid = t := rfl
theorem exitRec_tid (t : Nat) (e : Ent) : (exitRec t e).tid = t := rfl

theorem writeEntries_tid (t : Nat) : ∀ l : List Ent, ∀ r ∈ (writeEntries t l).2, r.tid = t := by
  intro l
  induction l with
  | nil => intro r hr; simp [writeEntries] at hr
  | cons e rs ih =>
    intro r hr
    simp only [writeEntries] at hr
    split at hr
    · simp at hr
    · simp only [List.mem_append, List.mem_cons, List.not_mem_nil, or_false] at hr
      rcases hr with hr | hr
      · exact ih r hr
      · rw [hr]; rfl

/-- what a forced flush or an exit adds to the stream belongs to the task -/
theorem flushed_tid (l : List Ent) (x : Rec) (hx : x.tid = 0) : ∀ r ∈ (writeEntries 0 l).2 ++ [x], r.tid = 0 := by
  intro r hr
  rcases List.mem_append.mp hr with hr | hr
  · exact writeEntries_tid 0 _ r hr
  · rw [List.mem_singleton.mp hr]; exact hx

/-- the records written so far are accepted by the checker, whose state fits the shadow stack -/
structure SOk (s : Sh) (c : CSt) : Prop where
  child : s.child = false
  run : crun CSt.init (taskStream s.out) = some c
  sync : Sync c s.rs
  idx : s.recIdx = s.rs.length

theorem cok_exit {c : CSt} {e : Ent} {n : Nat} (haf : c.afterLj = false) (hcur : c.cur = n + 1) (hd : e.depth = n)
    (hst : c.started = true) : cok c (toRRec (exitRec 0 e)) = true := by
  simp [cok, toRRec, exitRec, haf, hst, hcur, hd]

theorem cnext_exit_props (c : CSt) (e : Ent) :
    (cnext c (toRRec (exitRec 0 e))).started = true ∧ (cnext c (toRRec (exitRec 0 e))).afterLj = false ∧
    (cnext c (toRRec (exitRec 0 e))).cur = e.depth ∧ (cnext c (toRRec (exitRec 0 e))).seen = c.seen := by
  simp [cnext, toRRec, exitRec]

theorem SOk.of_eq {s t : Sh} {c : CSt} (h : SOk s c) (h1 : t.child = s.child) (h2 : t.out = s.out) (h3 : t.rs = s.rs)
    (h4 : t.recIdx = s.recIdx) : SOk t c :=
  ⟨by rw [h1]; exact h.child, by rw [h2]; exact h.run, by rw [h3]; exact h.sync, by rw [h4, h3]; exact h.idx⟩

theorem SOk.tid {s : Sh} {c : CSt} (h : SOk s c) : s.tid = 0 := by simp [Sh.tid, h.child]

theorem Sync.push {c : CSt} {l : List Ent} (h : Sync c l) {e : Ent} (hw : e.written = false) (hd : e.depth = l.length) :
    Sync c (e :: l) := by
  refine ⟨h.af, by rw [h.cur]; simp [wc, hw], (fun hs => by simpa [wc, hw] using h.st hs),
    ⟨(fun hh => by rw [hw] at hh; cases hh), h.wok⟩, ?_⟩
  simp [descFrom, hd, h.dep]

theorem stream_pushHook {s : Sh} {c : CSt} (h : SOk s c) (loc child : Nat) (plt : Bool) :
    SOk (pushHook s loc child plt) c := by
  refine ⟨by simp [h.child], by simp [h.run], ?_, by simp [h.idx]⟩
  rw [pushHook_rs]
  exact h.sync.push rfl (by simp [mkEnt, h.idx])

/-- a forced flush (record_trace_data without an EXIT) when the top entry is still unwritten -/
theorem stream_flush {s : Sh} {c : CSt} (h : SOk s c) {e : Ent} {r : List Ent} (hr : s.rs = e :: r)
    (hw : e.written = false) (hn : NoJump r) :
    ∃ c1, crun CSt.init (taskStream (s.record false).out) = some (cnext c1 (toRRec (entryRec 0 e))) ∧
      c1.afterLj = false ∧ c1.cur = r.length ∧ SeenLe c c1 ∧ AllW (s.record false).rs := by
  have hsync : Sync c (e :: r) := hr ▸ h.sync
  obtain ⟨c1, h1, haf1, hcur1, hs1, hall1, _⟩ := writeEntries_stream r c (hsync.tail hw) hn
  have hk := cok_entry (e := e) haf1 (hcur1.trans hsync.head_depth.symm)
  have hrec : s.record false =
      { s with rs := ({ e with written := true } :: (writeEntries 0 r).1),
               out := s.out ++ ((writeEntries 0 r).2 ++ [entryRec 0 e]) } := by
    simp [Sh.record, hr, h.tid, writeEntries, hw]
  rw [hrec]
  refine ⟨c1, ?_, haf1, hcur1, hs1, List.forall_mem_cons.mpr ⟨rfl, hall1⟩⟩
  refine crun_out_append h.run (flushed_tid _ _ rfl) ?_
  simp only [List.map_append, List.map_cons, List.map_nil]
  exact crun_snoc h1 hk

/-- one entry leaves the stack (the exit hook; a dead entry in mcount_rstack_rehook_exception): the ENTRY
    records still owed and its EXIT record are accepted, and everything that stays is written -/
theorem stream_exit_one {c : CSt} {e : Ent} {r : List Ent} {out : List Rec}
    (hrun : crun CSt.init (taskStream out) = some c) (hs : Sync c (e :: r)) (hn : NoJump (e :: r)) :
    ∃ c', crun CSt.init (taskStream (out ++ (writeEntries 0 (e :: r)).2 ++ [exitRec 0 e])) = some c' ∧
      Sync c' (writeEntries 0 (e :: r)).1.tail ∧ NoJump (writeEntries 0 (e :: r)).1.tail ∧ SeenLe c c' ∧
      c'.started = true ∧ (symKind e.c.child = .setjmp → c'.seen e.depth = true ∨ e.written = true) := by
  obtain ⟨c1, h1, haf1, hcur1, hs1, hall1, hhead⟩ := writeEntries_stream (e :: r) c hs hn
  obtain ⟨hst, hseen⟩ := hhead e r rfl
  have hwd := writeEntries_depth 0 (e :: r)
  obtain ⟨e', r', hr', he', hrc'⟩ := List.map_eq_cons_iff.mp (writeEntries_c 0 (e :: r))
  have hd : e.depth = r.length := hs.head_depth
  have hrl : r'.length = r.length := by
    have := congrArg List.length hrc'; simpa using this
  have hk : cok c1 (toRRec (exitRec 0 e)) = true := cok_exit haf1 (by rw [hcur1]; rfl) hd hst
  obtain ⟨q1, q2, q3, q4⟩ := cnext_exit_props c1 e
  have hdr : r'.map Ent.depth = descFrom r'.length := by
    rw [hr'] at hwd
    rw [(List.cons.inj hwd).2, hrl]
    exact (depths_cons.mp hs.dep).2
  rw [hr'] at hall1 ⊢
  simp only [List.tail_cons]
  refine ⟨cnext c1 (toRRec (exitRec 0 e)), ?_, Sync_allW q2 (List.forall_mem_cons.mp hall1).2 (by rw [q3, hd, hrl]) q1 hdr,
    NoJump.congr (List.forall_mem_cons.mp hn).2 hrc'.symm, fun d hd' => by rw [q4]; exact hs1 d hd', q1,
    by rw [q4]; exact hseen⟩
  rw [List.append_assoc]
  refine crun_out_append hrun (flushed_tid _ _ rfl) ?_
  simp only [List.map_append, List.map_cons, List.map_nil]
  exact crun_snoc h1 hk

/-- the exit of the top entry (mcount_exit / plthook_exit after `again:`) -/
theorem stream_exitTop {s : Sh} {c : CSt} (h : SOk s c) (hn : NoJump s.rs) {e : Ent} {r : List Ent}
    (hr : s.rs = e :: r) :
    ∃ c', SOk (exitTop s).1 c' ∧ SeenLe c c' ∧ c'.started = true ∧ NoJump (exitTop s).1.rs ∧
      (symKind e.c.child = .setjmp → c'.seen e.depth = true ∨ e.written = true) := by
  obtain ⟨c', a1, a2, a3, a4, a5, a6⟩ := stream_exit_one h.run (hr ▸ h.sync) (hr ▸ hn)
  rw [exitTop_cons hr, h.tid]
  refine ⟨c', ⟨h.child, a1, a2, ?_⟩, a4, a5, a3, a6⟩
  show s.recIdx - 1 = (writeEntries 0 (e :: r)).1.tail.length
  rw [List.length_tail, writeEntries_length, h.idx, hr]

/-- a run of exit hooks (the return stubs on a tail-call chain) -/
theorem stream_exits {s t : Sh} {n : Nat} (h : Exits s t n) : ∀ {c : CSt}, SOk s c → NoJump s.rs →
    ∃ c', SOk t c' ∧ SeenLe c c' ∧ NoJump t.rs := by
  induction h with
  | refl s => exact fun {c} hs hn => ⟨c, hs, SeenLe.refl c, hn⟩
  | step hr _ ih =>
    intro c hs hn
    obtain ⟨c1, a1, a2, _, a4, _⟩ := stream_exitTop hs hn hr
    obtain ⟨c', b1, b2, b3⟩ := ih a1 a4
    exact ⟨c', b1, a2.trans b2, b3⟩

/-- the loop of mcount_rstack_rehook_exception, on the stream -/
theorem stream_popDead (fa : Nat) : ∀ (n : Nat) (l : List Ent) (ri : Nat) (out : List Rec) (c : CSt),
    crun CSt.init (taskStream out) = some c → Sync c l → NoJump l → ri = l.length →
    ∃ c', crun CSt.init (taskStream (popDead 0 fa n l ri out).2.2) = some c' ∧
      Sync c' (popDead 0 fa n l ri out).1 ∧ NoJump (popDead 0 fa n l ri out).1 ∧
      (popDead 0 fa n l ri out).2.1 = (popDead 0 fa n l ri out).1.length ∧ SeenLe c c' := by
  intro n
  induction n with
  | zero => intro l ri out c hrun hs hn hri; exact ⟨c, hrun, hs, hn, hri, SeenLe.refl c⟩
  | succ n ih =>
    intro l ri out c hrun hs hn hri
    cases l with
    | nil => exact ⟨c, hrun, hs, hn, hri, SeenLe.refl c⟩
    | cons e r =>
      simp only [popDead]
      split
      · exact ⟨c, hrun, hs, hn, hri, SeenLe.refl c⟩
      · obtain ⟨c1, a1, a2, a3, a4, _⟩ := stream_exit_one hrun hs hn
        obtain ⟨c', b1, b2, b3, b4, b5⟩ := ih _ (ri - 1) _ c1 a1 a2 a3
          (by rw [hri, List.length_tail, writeEntries_length])
        exact ⟨c', b1, b2, b3, b4, a4.trans b5⟩

/-- `if (in_exception) { mcount_rstack_rehook_exception(); in_exception = false; }` on the stream -/
theorem stream_beginCatch {m : M} {c : CSt} (hi : Inv m) (h : SOk m.sh c) (hn : NoJump m.sh.rs) {fa : Nat}
    (hsep : m.sh.inExc = true → Separates m fa) :
    ∃ c', SOk (beginCatch Fix.all m.sh fa) c' ∧ SeenLe c c' ∧ NoJump (beginCatch Fix.all m.sh fa).rs := by
  rcases Bool.eq_false_or_eq_true m.sh.inExc with hx | hx
  · obtain ⟨dead, hc, _⟩ := hi.ctl
    obtain ⟨rs, ri, out, hp, he, _⟩ :=
      rehookException_eq hc hi.sorted (hi.exc hx) (Inv.dead_le (hsep hx) hc) (hsep hx).2
    have hb : beginCatch Fix.all m.sh fa = { rehookException Fix.all m.sh fa with inExc := false } := by
      simp [beginCatch, hx]
    obtain ⟨c', a1, a2, a3, a4, a5⟩ := stream_popDead fa m.sh.rs.length m.sh.rs m.sh.recIdx m.sh.out c h.run h.sync hn h.idx
    rw [← h.tid, hp] at a1 a2 a3 a4
    rw [hb, he]
    exact ⟨c', ⟨h.child, a1, a2, a4⟩, a5, a3⟩
  · rw [beginCatch_noexc _ hx]
    exact ⟨c, h, SeenLe.refl c, hn⟩

theorem exitTop_written_top {s : Sh} {e : Ent} {r : List Ent} (hr : s.rs = e :: r) (hw : e.written = true)
    (htid : s.tid = 0) :
    (exitTop s).1.out = s.out ++ [exitRec 0 e] ∧ (exitTop s).1.rs = r ∧ (exitTop s).1.recIdx = s.recIdx - 1 ∧
    (exitTop s).1.child = s.child := by
  rw [exitTop_cons hr, htid]
  simp [writeEntries, hw]

/-- the symbols of the program are what replay takes them for: setjmp/longjmp/exec* are called through
    their own ops only; the ops without a depth claim are not part of such a history -/
def SymOk : Op → Prop
  | .call k child _ _ _ => k ≠ .none → okKind child
  | .tailcall _ child => okKind child
  | .setjmp _ child _ _ => symKind child = .setjmp
  | .longjmp _ child _ _ => symKind child = .longjmp
  | .fork inChild child _ _ => inChild = false ∧ okKind child
  | .exec child _ _ => symKind child = .exec
  | .pthreadExit .. => False
  | .exit .. => False
  | .vforkExec .. => False
  | _ => True

/-- the records written so far are accepted, no jump is on the stack, and every jmp_buf copy was taken
    under a setjmp entry whose ENTRY record (at the depth of the copy) has been seen -/
structure StreamInv (s : Sh) (c : CSt) : Prop where
  ok : SOk s c
  nj : NoJump s.rs
  jb : ∀ j srs sidx, s.jbs.lookup j = some (srs, sidx) →
        ∃ e r, srs = e :: r ∧ c.seen r.length = true ∧ NoJump r

theorem StreamInv.jb_mono {s : Sh} {c c' : CSt} (h : StreamInv s c) (hs : SeenLe c c') {jbs : List (Nat × (List Ent × Nat))}
    (hj : jbs = s.jbs) :
    ∀ j srs sidx, jbs.lookup j = some (srs, sidx) → ∃ e r, srs = e :: r ∧ c'.seen r.length = true ∧ NoJump r := by
  intro j srs sidx hl
  rw [hj] at hl
  obtain ⟨e, r, h1, h2, h3⟩ := h.jb j srs sidx hl
  exact ⟨e, r, h1, hs _ h2, h3⟩

theorem nojump_pushHook {s : Sh} {loc child : Nat} {plt : Bool} (hok : okKind child) (hn : NoJump s.rs) :
    NoJump (pushHook s loc child plt).rs := by
  rw [pushHook_rs]; exact List.forall_mem_cons.mpr ⟨hok, hn⟩

theorem stream_pltCall {s : Sh} {c : CSt} (h : SOk s c) (slot orig child : Nat) : SOk (pltCall s slot orig child) c :=
  stream_pushHook (h.of_eq (t := progStore s slot orig) rfl rfl rfl rfl) slot child true

/-- a call through the PLT with a forced flush (longjmp, fork, exec*): every ENTRY record up to and
    including that of the call is out -/
theorem stream_pltFlush {s : Sh} {c : CSt} (h : SOk s c) (hn : NoJump s.rs) (slot orig child : Nat) :
    ∃ c2, crun CSt.init (taskStream ((pltCall s slot orig child).record false).out) = some c2 ∧
      c2.started = true ∧ c2.afterLj = decide (symKind child = .longjmp) ∧
      c2.cur = (if symKind child = .exec then 0 else s.rs.length + 1) ∧ SeenLe c c2 ∧
      AllW ((pltCall s slot orig child).record false).rs := by
  obtain ⟨c1, f1, _, _, f4, f5⟩ := stream_flush (stream_pltCall h slot orig child) (pushHook_rs ..) rfl hn
  obtain ⟨p1, p2, p3, p4, _⟩ := cnext_entry_props c1
    (mkEnt slot ((progStore s slot orig).mem slot) child true (progStore s slot orig).recIdx)
  exact ⟨_, f1, p1, p2, by rw [p3]; simp [mkEnt, h.idx], fun d hd => p4 d (f4 d hd), f5⟩

theorem logicalDepth_suffix {a b : List Frame} (h : a <:+ b) : logicalDepth a ≤ logicalDepth b := by
  obtain ⟨t, rfl⟩ := h
  induction t with
  | nil => exact Nat.le_refl _
  | cons f t ih => simp only [List.cons_append, logicalDepth]; omega

theorem stream_step {m : M} {c : CSt} (hi : Inv m) (ht : TraceInv m.sh) (hs : StreamInv m.sh c) {op : Op}
    (hw : WellFormedOp m op) (hk : SymOk op) :
    ∃ c', StreamInv (step Fix.all m op).sh c' ∧ SeenLe c c' := by
  cases op with
  | call k child slot orig fpw =>
    rw [step_call _ hi.nh]
    have h0 : SOk (progWrite m.sh slot orig fpw) c := hs.ok.of_eq rfl rfl rfl rfl
    by_cases hkn : k = .none
    · subst hkn; exact ⟨c, ⟨h0, hs.nj, hs.jb⟩, SeenLe.refl c⟩
    · rw [hookEntry_hooked hkn]
      obtain ⟨c', a1, a2, a3⟩ := stream_beginCatch (inv_call_instr hi hw) h0 hs.nj (call_separates hw hkn)
      exact ⟨c', ⟨stream_pushHook a1 _ _ _, nojump_pushHook (hk hkn) a3, hs.jb_mono a2 (by simp)⟩, a2⟩
  | ret =>
    obtain ⟨f, fs, hf⟩ := List.exists_cons_of_ne_nil hw.1
    have hfm : f ∈ m.fs := hf ▸ List.mem_cons_self ..
    rw [step_ret_eq _ hi.nh hf]
    rcases Bool.eq_false_or_eq_true m.sh.inExc with hx | hx
    · -- only unhooked helpers return while the stack is being unwound: no hook runs
      rw [hi.exc hx f hfm, retLoop_stop (hi.origs f hfm)]
      exact ⟨c, hs, SeenLe.refl c⟩
    · have hh : Hooked (f :: fs) m.sh := hf ▸ hi.hooked hx
      obtain ⟨_, _, he, _⟩ := hh.ret hi.vf (Nat.lt_succ_self _)
      obtain ⟨c', a1, a2, a3⟩ := stream_exits he hs.ok hs.nj
      exact ⟨c', ⟨a1, a3, hs.jb_mono a2 he.popped.jbs⟩, a2⟩
  | tailcall k child =>
    obtain ⟨hne, hx, hkk⟩ := hw
    obtain ⟨f, fs, hf⟩ := List.exists_cons_of_ne_nil hne
    have hkn : k ≠ .none := by rintro rfl; cases hkk
    rw [step_tailcall _ hi.nh hf, hookEntry_hooked hkn, beginCatch_noexc _ hx]
    exact ⟨c, ⟨stream_pushHook hs.ok _ _ _, nojump_pushHook hk hs.nj, hs.jb_mono (SeenLe.refl c) (by simp)⟩,
      SeenLe.refl c⟩
  | setjmp j child slot orig =>
    rw [step_setjmp_all hi hw]
    have hkk : symKind child = .setjmp := hk
    have hs1 : SOk (setupJmpbuf Fix.all (pltCall m.sh slot orig child) j) c :=
      (stream_pltCall hs.ok slot orig child).of_eq rfl rfl rfl rfl
    have hnj1 : NoJump (setupJmpbuf Fix.all (pltCall m.sh slot orig child) j).rs :=
      nojump_pushHook (by rw [okKind, hkk]; decide) hs.nj
    obtain ⟨c', b1, b2, _, b4, b5⟩ := stream_exitTop hs1 hnj1 (pushHook_rs ..)
    have hseen : c'.seen m.sh.rs.length = true := by
      rcases b5 hkk with h | h
      · simpa [mkEnt, hs.ok.idx] using h
      · simp [mkEnt] at h
    refine ⟨c', ⟨b1, b4, fun j' srs sidx hl => ?_⟩, b2⟩
    have hjbs : (exitTop (setupJmpbuf Fix.all (pltCall m.sh slot orig child) j)).1.jbs =
        jbSet m.sh.jbs j ((pltCall m.sh slot orig child).rs, (pltCall m.sh slot orig child).recIdx) := by
      rw [exitTop_jbs]; simp [setupJmpbuf]
    rw [hjbs, jbSet, lookup_set] at hl
    split at hl
    · cases hl
      exact ⟨_, m.sh.rs, pushHook_rs .., hseen, hs.nj⟩
    · obtain ⟨e, r, h1, h2, h3⟩ := hs.jb j' srs sidx hl
      exact ⟨e, r, h1, b2 _ h2, h3⟩
  | longjmp j child slot orig =>
    obtain ⟨jb, hjb, hsuf⟩ := hw.2.2.2
    obtain ⟨srs, sidx, hlk, hsc, _⟩ := hi.jb j jb hjb
    rw [step_longjmp_all hi hw hjb hlk]
    obtain ⟨e0, r0, hsr, hseen0, hnj0⟩ := hs.jb j srs sidx hlk
    obtain ⟨hsidx, hsdep⟩ := ht.jbs j srs sidx hlk
    -- the stream: flush up to and including the longjmp ENTRY, then setjmp's EXIT
    obtain ⟨c2, f1, p1, p2, p3, p4, _⟩ := stream_pltFlush hs.ok hs.nj slot orig child
    have hkk : symKind child = .longjmp := hk
    have hle : r0.length ≤ m.sh.rs.length := by
      have h1 := congrArg List.length (hi.hooked hw.2.2.1).c
      have h2 := congrArg List.length hsc
      rw [hsr] at h2
      simp only [List.length_map, List.length_cons, expFrames_length] at h1 h2
      have := logicalDepth_suffix hsuf
      omega
    -- the exit of the saved setjmp entry
    let e0w : Ent := { e0 with written := true }
    let sR : Sh := { (pltCall m.sh slot orig child).record false with rs := markWritten srs, recIdx := sidx }
    have hmw : markWritten srs = e0w :: markWritten r0 := by simp [markWritten, hsr, e0w]
    have hdep := depths_cons.mp (hsr ▸ hsdep)
    have hk2 : cok c2 (toRRec (exitRec 0 e0w)) = true := by
      have hcur : c2.cur = m.sh.rs.length + 1 := by rw [p3, hkk]; rfl
      simp only [cok, toRRec, exitRec, p2, hkk, decide_true, ↓reduceIte, p1, hcur, show e0w.depth = r0.length from hdep.1,
        p4 _ hseen0, Bool.and_true]
      simp
      omega
    obtain ⟨q1, q2, q3, q4⟩ := cnext_exit_props c2 e0w
    have htid : sR.tid = 0 := by simp [Sh.tid, sR, hs.ok.child]
    obtain ⟨hout, hrsF, hrecF, hchF⟩ := exitTop_written_top (s := sR) (e := e0w) (r := markWritten r0) hmw rfl htid
    have hallF : AllW (markWritten r0) := by
      intro x hx
      simp only [markWritten, List.mem_map] at hx
      obtain ⟨y, _, rfl⟩ := hx
      rfl
    have hdepF : (markWritten r0).map Ent.depth = descFrom (markWritten r0).length := by
      rw [markWritten_depth, hdep.2]; simp [markWritten]
    have hle' : SeenLe c (cnext c2 (toRRec (exitRec 0 e0w))) := fun d hd => by rw [q4]; exact p4 _ hd
    refine ⟨cnext c2 (toRRec (exitRec 0 e0w)), ⟨⟨?_, ?_, ?_, ?_⟩, ?_, hs.jb_mono hle' (by rw [exitTop_jbs]; simp)⟩, hle'⟩
    · rw [hchF]; simp [sR, hs.ok.child]
    · rw [hout]
      refine crun_out_append (c := c2) f1 (fun x hx => by rw [List.mem_singleton.mp hx]; rfl) ?_
      simp only [List.map_cons, List.map_nil, crun, cstep, hk2, ↓reduceIte]
    · rw [hrsF]
      exact Sync_allW q2 hallF (by rw [q3]; simp [e0w, hdep.1, markWritten]) q1 hdepF
    · rw [hrsF, hrecF, show sR.recIdx = sidx from rfl, hsidx, hsr]; simp [markWritten]
    · rw [hrsF]
      exact NoJump.congr hnj0 (markWritten_c r0).symm
  | throw =>
    rw [step_throw _ hi.nh]
    exact ⟨c, ⟨hs.ok.of_eq rfl rfl rfl rfl, hs.nj, hs.jb⟩, SeenLe.refl c⟩
  | unwind =>
    rw [step_unwind _ hi.nh]
    exact ⟨c, hs, SeenLe.refl c⟩
  | resume =>
    rw [step_resume _ hi.nh]
    exact ⟨c, ⟨hs.ok.of_eq rfl rfl rfl rfl, hs.nj, hs.jb⟩, SeenLe.refl c⟩
  | catch_ fa =>
    rw [step_catch _ hi.nh]
    obtain ⟨c', a1, a2, a3⟩ := stream_beginCatch hi hs.ok hs.nj hw
    exact ⟨c', ⟨a1, a3, hs.jb_mono a2 (by simp)⟩, a2⟩
  | pthreadExit child slot orig => exact absurd hk id
  | exit child slot orig => exact absurd hk id
  | vforkExec a b c d e => exact absurd hk id
  | mtdDtor =>
    rw [step_mtdDtor _ hi.nh]
    have hrs := mtdDtor_rs hi hw
    exact ⟨c, ⟨hs.ok.of_eq rfl rfl (by simp [mtdDtor, hrs]) rfl, fun x hx => by simp [mtdDtor] at hx, hs.jb⟩,
      SeenLe.refl c⟩
  | fork inChild child slot orig =>
    obtain ⟨hic, hok⟩ := hk
    subst hic
    rw [step_fork_all hi hw]
    obtain ⟨c2, f1, p1, p2, p3, p4, f5⟩ := stream_pltFlush hs.ok hs.nj slot orig child
    have hrl : ((pltCall m.sh slot orig child).record false).rs.length = m.sh.rs.length + 1 := by simp
    have hsok : SOk ((pltCall m.sh slot orig child).record false) c2 := by
      refine ⟨by simp [hs.ok.child], f1, ?_, by simp [hs.ok.idx]⟩
      apply Sync_allW _ f5 _ p1
      · rw [record_depth, hrl, (stream_pltCall hs.ok slot orig child).sync.dep]; simp
      · rw [p2]; simp [hok.1]
      · rw [p3, hrl]; simp [hok.2]
    have hnj1 : NoJump ((pltCall m.sh slot orig child).record false).rs :=
      NoJump.congr (l := (pltCall m.sh slot orig child).rs) (nojump_pushHook hok hs.nj) (record_c _ false).symm
    obtain ⟨e, r, hr⟩ := List.exists_cons_of_ne_nil
      (List.ne_nil_of_length_pos (l := ((pltCall m.sh slot orig child).record false).rs) (by omega))
    obtain ⟨c', b1, b2, _, b4, _⟩ := stream_exitTop hsok hnj1 hr
    exact ⟨c', ⟨b1, b4, hs.jb_mono (p4.trans b2) (by simp)⟩, p4.trans b2⟩
  | exec child slot orig =>
    rw [step_exec _ hi.nh (plthookEntry_flush hw.2.2 slot orig child)]
    obtain ⟨c2, f1, p1, p2, p3, p4, _⟩ := stream_pltFlush hs.ok hs.nj slot orig child
    have hkk : symKind child = .exec := hk
    refine ⟨c2, ⟨⟨by simp [hs.ok.child], f1, ⟨?_, ?_, fun _ => rfl, trivial, rfl⟩, rfl⟩, fun x hx => by simp [Sh.init] at hx,
      fun j' srs sidx hl => by simp [Sh.init] at hl⟩, p4⟩
    · rw [p2]; simp [hkk]
    · rw [p3]; simp [hkk, wc, Sh.init]

end Uft.NonLocal

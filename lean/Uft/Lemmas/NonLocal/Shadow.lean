import Uft.Model.NonLocal
/-
C11 — the shadow stack that a given real stack accounts for (`expFrames`), and what the
libmcount routines of the model do to a shadow stack of that shape.  `Hooked fs s` says that
the shadow state `s` is in step with the frames `fs` while no exception is in flight; the entry
hook, the exit hook and the return stub preserve it.
-/
namespace Uft.NonLocal

@[simp] theorem upd_same (m : Mem) (a v : Nat) : upd m a v a = v := by simp [upd]
theorem upd_other (m : Mem) {a b : Nat} (v : Nat) (h : b ≠ a) : upd m a v b = m b := by simp [upd, h]

@[simp] theorem isTramp_hv (b : Bool) : isTramp (hv b) = true := by cases b <;> decide
@[simp] theorem isTramp_TRAMP : isTramp TRAMP = true := by decide
@[simp] theorem isTramp_PTRAMP : isTramp PTRAMP = true := by decide

theorem hv_eq_tramp (b : Bool) : hv b = TRAMP ↔ b = false := by cases b <;> decide
theorem hv_eq_ptramp (b : Bool) : hv b = PTRAMP ↔ b = true := by cases b <;> decide

/-! ### what the shadow stack must look like for a given real stack -/

def Link.ctl (slot ip : Nat) (l : Link) : Ctl := ⟨slot, ip, l.child, l.plt, false, false⟩

/-- the saved return address of a chain element: the trampoline of the element below it,
    or the frame's real return address for the first one -/
def belowIp (orig : Nat) : List Link → Nat
  | [] => orig
  | l :: _ => hv l.plt

def expChain (slot orig : Nat) : List Link → List Ctl
  | [] => []
  | l :: r => l.ctl slot (belowIp orig r) :: expChain slot orig r

def expFrames : List Frame → List Ctl
  | [] => []
  | f :: fs => expChain f.slot f.orig f.chain ++ expFrames fs

/-- number of hooked logical calls that are open -/
def logicalDepth : List Frame → Nat
  | [] => 0
  | f :: fs => f.chain.length + logicalDepth fs

abbrev Sorted (fs : List Frame) : Prop := fs.Pairwise (fun a b => a.slot < b.slot)

@[simp] theorem expChain_length (slot orig : Nat) (c : List Link) : (expChain slot orig c).length = c.length := by
  induction c <;> simp_all [expChain]

theorem expFrames_length (fs : List Frame) : (expFrames fs).length = logicalDepth fs := by
  induction fs <;> simp_all [expFrames, logicalDepth]

theorem belowIp_tramp_of_ne {orig : Nat} {r : List Link} (h : r ≠ []) : isTramp (belowIp orig r) = true := by
  cases r with
  | nil => exact absurd rfl h
  | cons l r => simp [belowIp]

theorem expChain_loc {slot orig : Nat} {c : List Link} {x : Ctl} (h : x ∈ expChain slot orig c) : x.loc = slot := by
  induction c with
  | nil => simp [expChain] at h
  | cons l r ih =>
    simp only [expChain, List.mem_cons] at h
    rcases h with h | h
    · subst h; rfl
    · exact ih h

theorem expFrames_loc {fs : List Frame} {x : Ctl} (h : x ∈ expFrames fs) : ∃ f ∈ fs, x.loc = f.slot := by
  induction fs with
  | nil => simp [expFrames] at h
  | cons f fs ih =>
    simp only [expFrames, List.mem_append] at h
    rcases h with h | h
    · exact ⟨f, by simp, expChain_loc h⟩
    · obtain ⟨g, hg, e⟩ := ih h
      exact ⟨g, by simp [hg], e⟩

theorem expFrames_loc_ne {f : Frame} {fs : List Frame} (h : Sorted (f :: fs)) {x : Ctl} (hx : x ∈ expFrames fs) :
    x.loc ≠ f.slot := by
  obtain ⟨g, hg, e⟩ := expFrames_loc hx
  rw [e]; exact Nat.ne_of_gt (List.rel_of_pairwise_cons h hg)

theorem mem_c {l : List Ent} {xs : List Ctl} (h : l.map Ent.c = xs) {e : Ent} (he : e ∈ l) : e.c ∈ xs :=
  h ▸ List.mem_map_of_mem he

theorem expFrames_head {fs : List Frame} {p : Ctl} {ps : List Ctl} (h : expFrames fs = p :: ps) :
    ∃ g ∈ fs, ∃ l r, g.chain = l :: r ∧ p = l.ctl g.slot (belowIp g.orig r) := by
  induction fs with
  | nil => simp [expFrames] at h
  | cons f fs ih =>
    cases hc : f.chain with
    | nil =>
      simp only [expFrames, hc, expChain, List.nil_append] at h
      obtain ⟨g, hg, rest⟩ := ih h
      exact ⟨g, by simp [hg], rest⟩
    | cons l r =>
      simp only [expFrames, hc, expChain, List.cons_append, List.cons.injEq] at h
      exact ⟨f, by simp, l, r, hc, h.1.symm⟩

theorem expFrames_nil_of_chains {fs : List Frame} (h : ∀ f ∈ fs, f.chain = []) : expFrames fs = [] := by
  induction fs with
  | nil => rfl
  | cons f fs ih => simp [expFrames, h f (by simp), expChain, ih (List.forall_mem_cons.mp h).2]

theorem sorted_slot_inj {fs : List Frame} (hs : Sorted fs) {f g : Frame} (hf : f ∈ fs) (hg : g ∈ fs)
    (h : f.slot = g.slot) : f = g := by
  induction fs with
  | nil => cases hf
  | cons a fs ih =>
    rcases List.mem_cons.mp hf with rfl | hf' <;> rcases List.mem_cons.mp hg with rfl | hg'
    · rfl
    · have := List.rel_of_pairwise_cons hs hg'; omega
    · have := List.rel_of_pairwise_cons hs hf'; omega
    · exact ih hs.of_cons hf' hg'

/-- the top hooked frame holds the trampoline of its current function -/
def TopOk (fs : List Frame) (m : Mem) : Prop :=
  ∀ p ps, expFrames fs = p :: ps → m p.loc = hv p.plt

/-- every live return slot holds the real return address or the trampoline of its function -/
def MemOk (fs : List Frame) (m : Mem) : Prop :=
  ∀ f ∈ fs, m f.slot = f.orig ∨ (∃ l r, f.chain = l :: r ∧ m f.slot = hv l.plt)

theorem MemOk.mono {fs : List Frame} {m m' : Mem} (h : MemOk fs m) (he : ∀ f ∈ fs, m' f.slot = m f.slot) :
    MemOk fs m' := by
  intro f hf
  rw [he f hf]; exact h f hf

theorem MemOk.unhooked {fs : List Frame} {m : Mem} (h : MemOk fs m) {f : Frame} (hf : f ∈ fs) (hc : f.chain = []) :
    m f.slot = f.orig := by
  rcases h f hf with h | ⟨l, r, h, _⟩
  · exact h
  · rw [hc] at h; cases h

theorem TopOk.hooked {f : Frame} {fs : List Frame} {m : Mem} (h : TopOk (f :: fs) m) {l : Link} {r : List Link}
    (hc : f.chain = l :: r) : m f.slot = hv l.plt :=
  h (l.ctl f.slot (belowIp f.orig r)) (expChain f.slot f.orig r ++ expFrames fs) (by simp [expFrames, hc, expChain])

/-- hooking the slot of the top entry again: what the exit hook leaves when it uncovers another slot -/
def rehookTop (m : Mem) : List Ctl → Mem
  | [] => m
  | p :: _ => upd m p.loc (hv p.plt)

theorem rehookTop_ok {fs : List Frame} {m : Mem} (hs : Sorted fs) (hm : MemOk fs m) :
    MemOk fs (rehookTop m (expFrames fs)) ∧ TopOk fs (rehookTop m (expFrames fs)) := by
  cases hexp : expFrames fs with
  | nil => exact ⟨hm, fun p ps hp => by rw [hexp] at hp; cases hp⟩
  | cons p ps =>
    obtain ⟨g0, hg0, l, r, hgc, rfl⟩ := expFrames_head hexp
    have e : rehookTop m (l.ctl g0.slot (belowIp g0.orig r) :: ps) = upd m g0.slot (hv l.plt) := rfl
    rw [e]
    refine ⟨fun g hg => ?_, fun p' ps' hp => ?_⟩
    · by_cases hgg : g.slot = g0.slot
      · cases sorted_slot_inj hs hg hg0 hgg
        exact Or.inr ⟨l, r, hgc, upd_same ..⟩
      · rw [upd_other _ _ hgg]; exact hm g hg
    · rw [hexp] at hp
      cases hp
      exact upd_same ..

theorem writeEntries_c (tid : Nat) (l : List Ent) : (writeEntries tid l).1.map Ent.c = l.map Ent.c := by
  induction l with
  | nil => rfl
  | cons e r ih =>
    simp only [writeEntries]
    split
    · rfl
    · simp [ih]

theorem writeEntries_depth (tid : Nat) (l : List Ent) :
    (writeEntries tid l).1.map Ent.depth = l.map Ent.depth := by
  induction l with
  | nil => rfl
  | cons e r ih =>
    simp only [writeEntries]
    split
    · rfl
    · simp [ih]

theorem writeEntries_length (tid : Nat) (l : List Ent) : (writeEntries tid l).1.length = l.length := by
  simpa using congrArg List.length (writeEntries_c tid l)

section record
variable (s : Sh) (b : Bool)

@[simp] theorem record_c : (s.record b).rs.map Ent.c = s.rs.map Ent.c := by
  unfold Sh.record
  split
  · rfl
  · exact writeEntries_c _ _
@[simp] theorem record_depth : (s.record b).rs.map Ent.depth = s.rs.map Ent.depth := by
  unfold Sh.record
  split
  · rfl
  · exact writeEntries_depth _ _
@[simp] theorem record_mem : (s.record b).mem = s.mem := by unfold Sh.record; split <;> rfl
@[simp] theorem record_recIdx : (s.record b).recIdx = s.recIdx := by unfold Sh.record; split <;> rfl
@[simp] theorem record_inExc : (s.record b).inExc = s.inExc := by unfold Sh.record; split <;> rfl
@[simp] theorem record_jbs : (s.record b).jbs = s.jbs := by unfold Sh.record; split <;> rfl
@[simp] theorem record_vf : (s.record b).vf = s.vf := by unfold Sh.record; split <;> rfl
@[simp] theorem record_dead : (s.record b).dead = s.dead := by unfold Sh.record; split <;> rfl
@[simp] theorem record_pid : (s.record b).pid = s.pid := by unfold Sh.record; split <;> rfl
@[simp] theorem record_child : (s.record b).child = s.child := by unfold Sh.record; split <;> rfl
@[simp] theorem record_length : (s.record b).rs.length = s.rs.length := by
  have := congrArg List.length (record_c s b)
  simp only [List.length_map] at this
  exact this

@[simp] theorem efr_length : (exitFilterRecord s b).rs.length = s.rs.length := by simp [exitFilterRecord]
end record

/-- the return address, and the word below it -/
def progWrite (s : Sh) (slot orig fpw : Nat) : Sh :=
  { s with mem := upd (upd s.mem slot orig) (slot - 1) fpw }

section progWrite
variable (s : Sh) (slot orig fpw : Nat)
@[simp] theorem progWrite_rs : (progWrite s slot orig fpw).rs = s.rs := rfl
@[simp] theorem progWrite_recIdx : (progWrite s slot orig fpw).recIdx = s.recIdx := rfl
@[simp] theorem progWrite_inExc : (progWrite s slot orig fpw).inExc = s.inExc := rfl
@[simp] theorem progWrite_jbs : (progWrite s slot orig fpw).jbs = s.jbs := rfl
@[simp] theorem progWrite_vf : (progWrite s slot orig fpw).vf = s.vf := rfl
@[simp] theorem progWrite_dead : (progWrite s slot orig fpw).dead = s.dead := rfl
theorem progWrite_slot (h : 1 ≤ slot) : (progWrite s slot orig fpw).mem slot = orig := by
  simp only [progWrite]; rw [upd_other _ _ (by omega), upd_same]
theorem progWrite_below : (progWrite s slot orig fpw).mem (slot - 1) = fpw := upd_same _ _ _
theorem progWrite_above {a : Nat} (h : slot < a) : (progWrite s slot orig fpw).mem a = s.mem a := by
  simp only [progWrite]; rw [upd_other _ _ (by omega), upd_other _ _ (by omega)]
end progWrite

/-- the plain store of the return address by a call instruction -/
def progStore (s : Sh) (slot orig : Nat) : Sh := { s with mem := upd s.mem slot orig }

section progStore
variable (s : Sh) (slot orig : Nat)
@[simp] theorem progStore_rs : (progStore s slot orig).rs = s.rs := rfl
@[simp] theorem progStore_recIdx : (progStore s slot orig).recIdx = s.recIdx := rfl
@[simp] theorem progStore_inExc : (progStore s slot orig).inExc = s.inExc := rfl
@[simp] theorem progStore_jbs : (progStore s slot orig).jbs = s.jbs := rfl
@[simp] theorem progStore_vf : (progStore s slot orig).vf = s.vf := rfl
@[simp] theorem progStore_dead : (progStore s slot orig).dead = s.dead := rfl
@[simp] theorem progStore_pid : (progStore s slot orig).pid = s.pid := rfl
@[simp] theorem progStore_child : (progStore s slot orig).child = s.child := rfl
@[simp] theorem progStore_out : (progStore s slot orig).out = s.out := rfl
theorem progStore_slot : (progStore s slot orig).mem slot = orig := upd_same _ _ _
theorem progStore_above {a : Nat} (h : slot < a) : (progStore s slot orig).mem a = s.mem a :=
  upd_other _ _ (by omega)
end progStore

theorem autoRestore_eq (s : Sh) : ∃ mem, autoRestore s = { s with mem := mem } := by
  unfold autoRestore
  repeat' split
  all_goals exact ⟨_, rfl⟩

/-- the memory after the entry hook; `pushHook_mem` says what it holds -/
def pushMem (s : Sh) (loc child : Nat) (plt : Bool) : Mem := (pushHook s loc child plt).mem

@[simp] theorem pushHook_eq (s : Sh) (loc child : Nat) (plt : Bool) :
    pushHook s loc child plt =
      { s with rs := mkEnt loc (s.mem loc) child plt s.recIdx :: s.rs, mem := pushMem s loc child plt,
               recIdx := s.recIdx + 1 } := by
  obtain ⟨mem, h⟩ := autoRestore_eq
    { s with rs := mkEnt loc (s.mem loc) child plt s.recIdx :: s.rs, mem := upd s.mem loc (hv plt) }
  simp only [pushMem, pushHook, h]

theorem pushHook_rs (s : Sh) (loc child : Nat) (plt : Bool) :
    (pushHook s loc child plt).rs = mkEnt loc (s.mem loc) child plt s.recIdx :: s.rs := by
  rw [pushHook_eq]

/-- mcount_auto_restore looks for the first entry with a real return address: the last element of
    the top chain, which carries the return address of that frame -/
theorem firstReal_exp : ∀ (fs : List Frame) (l : List Ent), l.map Ent.c = expFrames fs →
    (∀ f ∈ fs, isTramp f.orig = false) → ∀ p ps, expFrames fs = p :: ps →
    ∃ g ∈ fs, p.loc = g.slot ∧ ∃ e, firstReal l = some e ∧ e.c.loc = g.slot ∧ e.c.ip = g.orig := by
  intro fs
  induction fs with
  | nil => intro l _ _ p ps hp; cases hp
  | cons f fs ih =>
    intro l hl ho p ps hp
    cases hc : f.chain with
    | nil =>
      simp only [expFrames, hc, expChain, List.nil_append] at hl hp
      obtain ⟨g, hg, h⟩ := ih l hl (List.forall_mem_cons.mp ho).2 p ps hp
      exact ⟨g, by simp [hg], h⟩
    | cons lk r =>
      simp only [expFrames, hc] at hl hp
      refine ⟨f, by simp, by simp only [expChain, List.cons_append, List.cons.injEq] at hp; rw [← hp.1]; rfl, ?_⟩
      have hof := ho f (by simp)
      clear hc ih ho hp
      induction r generalizing lk l with
      | nil =>
        obtain ⟨e, l', rfl, he, _⟩ := List.map_eq_cons_iff.mp hl
        have : e.c.ip = f.orig := by rw [he]; rfl
        exact ⟨e, by simp [firstReal, this, hof], by rw [he]; rfl, this⟩
      | cons l2 r2 ih2 =>
        obtain ⟨e, l', rfl, he, hl'⟩ := List.map_eq_cons_iff.mp hl
        have : isTramp e.c.ip = true := by rw [he]; simp [Link.ctl, belowIp]
        simp only [firstReal, this, ↓reduceIte]
        exact ih2 l' l2 hl'

/-- the memory after an entry hook: the slot is hooked; the only other word that may change is the
    return slot of the hooked frame that was on top, which gets its real return address back -/
theorem pushHook_mem {s : Sh} {fs : List Frame} (loc child : Nat) (plt : Bool)
    (hx : s.inExc = false) (hc : s.rs.map Ent.c = expFrames fs) (ho : ∀ f ∈ fs, isTramp f.orig = false) :
    (pushHook s loc child plt).mem loc = hv plt ∧
    ∀ a, a ≠ loc → (pushHook s loc child plt).mem a = s.mem a ∨
      ∃ g ∈ fs, a = g.slot ∧ (∃ p ps, expFrames fs = p :: ps ∧ p.loc = a) ∧
        (pushHook s loc child plt).mem a = g.orig := by
  cases hr : s.rs with
  | nil =>
    have : (pushHook s loc child plt).mem = upd s.mem loc (hv plt) := by simp [pushHook, autoRestore, hr]
    rw [this]
    exact ⟨upd_same .., fun a ha => Or.inl (upd_other _ _ ha)⟩
  | cons e0 r =>
    rw [hr] at hc
    have hp : expFrames fs = e0.c :: r.map Ent.c := hc.symm
    by_cases hl : loc = e0.c.loc
    · have : (pushHook s loc child plt).mem = upd s.mem loc (hv plt) := by
        simp [pushHook, autoRestore, hr, hx, mkEnt, hl]
      rw [this]
      exact ⟨upd_same .., fun a ha => Or.inl (upd_other _ _ ha)⟩
    · obtain ⟨g, hg, hgl, e, he, hel, hei⟩ := firstReal_exp fs (e0 :: r) hc ho _ _ hp
      have : (pushHook s loc child plt).mem = upd (upd s.mem loc (hv plt)) g.slot g.orig := by
        simp [pushHook, autoRestore, hr, hx, mkEnt, hl, he, hel, hei]
      rw [this]
      have hgs : loc ≠ g.slot := by rw [← hgl]; exact hl
      refine ⟨by rw [upd_other _ _ hgs, upd_same], fun a ha => ?_⟩
      by_cases hag : a = g.slot
      · exact Or.inr ⟨g, hg, hag, ⟨_, _, hp, by rw [hag]; exact hgl⟩, by rw [hag, upd_same]⟩
      · exact Or.inl (by rw [upd_other _ _ hag, upd_other _ _ ha])

theorem exitTop_nil {s : Sh} (hr : s.rs = []) : exitTop s = ({ s with dead := true }, 0) := by
  simp [exitTop, hr]

/-- the memory after the exit of the entry `x` that sat on `xs` -/
def exitMem (inExc : Bool) (m : Mem) (x : Ctl) (xs : List Ctl) : Mem :=
  match xs with
  | [] => m
  | p :: _ => if inExc then m else if x.loc = p.loc then m else upd m p.loc (hv p.plt)

theorem exitTop_cons {s : Sh} {e : Ent} {r : List Ent} (hr : s.rs = e :: r) :
    exitTop s =
      ({ s with rs := (writeEntries s.tid (e :: r)).1.tail, mem := exitMem s.inExc s.mem e.c (r.map Ent.c),
                recIdx := s.recIdx - 1,
                out := s.out ++ (writeEntries s.tid (e :: r)).2 ++ [exitRec s.tid e] }, e.c.ip) := by
  obtain ⟨e', r', hw, he', hr'⟩ := List.map_eq_cons_iff.mp (writeEntries_c s.tid (e :: r))
  simp only [exitTop, hr, exitFilterRecord, Sh.record, autoRehook, hw, ↓reduceIte, List.tail_cons, ← he', ← hr']
  cases r' with
  | nil => rfl
  | cons p r2 =>
    simp only [exitMem, List.map_cons]
    split <;> (try split) <;> rfl

section exitTop
variable (s : Sh)
@[simp] theorem exitTop_inExc : (exitTop s).1.inExc = s.inExc := by
  cases hr : s.rs with
  | nil => rw [exitTop_nil hr]
  | cons e r => rw [exitTop_cons hr]
@[simp] theorem exitTop_jbs : (exitTop s).1.jbs = s.jbs := by
  cases hr : s.rs with
  | nil => rw [exitTop_nil hr]
  | cons e r => rw [exitTop_cons hr]
@[simp] theorem exitTop_vf : (exitTop s).1.vf = s.vf := by
  cases hr : s.rs with
  | nil => rw [exitTop_nil hr]
  | cons e r => rw [exitTop_cons hr]
@[simp] theorem exitTop_pid : (exitTop s).1.pid = s.pid := by
  cases hr : s.rs with
  | nil => rw [exitTop_nil hr]
  | cons e r => rw [exitTop_cons hr]
end exitTop

/-- `t` is `s` after `n` exit hooks, as far as neither the control part of the stack nor the memory is concerned -/
structure Popped (s t : Sh) (n : Nat) : Prop where
  recIdx : t.recIdx = s.recIdx - n
  inExc : t.inExc = s.inExc
  jbs : t.jbs = s.jbs
  vf : t.vf = s.vf
  dead : t.dead = s.dead
  depth : t.rs.map Ent.depth = (s.rs.map Ent.depth).drop n

theorem Popped.trans {s t u : Sh} {a b : Nat} (h1 : Popped s t a) (h2 : Popped t u b) : Popped s u (a + b) :=
  ⟨by rw [h2.recIdx, h1.recIdx, Nat.sub_sub], h2.inExc.trans h1.inExc, h2.jbs.trans h1.jbs, h2.vf.trans h1.vf,
    h2.dead.trans h1.dead, by rw [h2.depth, h1.depth, List.drop_drop]⟩

theorem exitMem_rehook {m : Mem} {x : Ctl} {xs : List Ctl} (h : ∀ p ps, xs = p :: ps → x.loc ≠ p.loc) :
    exitMem false m x xs = rehookTop m xs := by
  cases xs with
  | nil => rfl
  | cons p ps => simp [exitMem, rehookTop, h p ps rfl]

theorem exitTop_spec {s : Sh} {x : Ctl} {xs : List Ctl} (h : s.rs.map Ent.c = x :: xs) :
    (exitTop s).2 = x.ip ∧ (exitTop s).1.rs.map Ent.c = xs ∧
    (exitTop s).1.mem = exitMem s.inExc s.mem x xs ∧ Popped s (exitTop s).1 1 := by
  obtain ⟨e, r, hr, rfl, rfl⟩ := List.map_eq_cons_iff.mp h
  rw [exitTop_cons hr]
  refine ⟨rfl, ?_, rfl, rfl, rfl, rfl, rfl, rfl, ?_⟩
  · simpa using congrArg List.tail (writeEntries_c s.tid (e :: r))
  · simpa [hr] using congrArg List.tail (writeEntries_depth s.tid (e :: r))

/-- `t` is reached from `s` by `n` exit hooks, each run on a non-empty stack -/
inductive Exits : Sh → Sh → Nat → Prop
  | refl (s : Sh) : Exits s s 0
  | step {s t : Sh} {e : Ent} {r : List Ent} {n : Nat} : s.rs = e :: r → Exits (exitTop s).1 t n → Exits s t (n + 1)

theorem Exits.popped {s t : Sh} {n : Nat} (h : Exits s t n) : Popped s t n := by
  induction h with
  | refl s => exact ⟨rfl, rfl, rfl, rfl, rfl, rfl⟩
  | @step s t e r n hr _ ih =>
    have h1 := (exitTop_spec (s := s) (x := e.c) (xs := r.map Ent.c) (by rw [hr]; rfl)).2.2.2
    exact Nat.add_comm 1 n ▸ h1.trans ih

theorem plthookExit_eq_exitTop {s : Sh} {x : Ctl} {xs : List Ctl} (h : s.rs.map Ent.c = x :: xs)
    (hp : x.plt = true) (hl : x.ljmp = false) (hv' : x.vfork = false) (hvf : s.vf = none) :
    plthookExit s = exitTop s := by
  obtain ⟨e, r, hr, he, _⟩ := List.map_eq_cons_iff.mp h
  have h1 : e.c.ljmp = false := by rw [he]; exact hl
  have h2 : e.c.vfork = false := by rw [he]; exact hv'
  have h3 : e.c.plt = true := by rw [he]; exact hp
  simp [plthookExit, plthookExitCore, hr, h1, h2, h3, hvf]

theorem retLoop_succ_ptramp (n : Nat) (s : Sh) :
    retLoop (n + 1) s PTRAMP = retLoop n (plthookExit s).1 (plthookExit s).2 := by
  have : PTRAMP ≠ TRAMP := by decide
  simp [retLoop, this]

theorem retLoop_stop {v : Nat} (h : isTramp v = false) (k : Nat) (t : Sh) : retLoop k t v = (t, v) := by
  simp only [isTramp, Bool.or_eq_false_iff, beq_eq_false_iff_ne] at h
  cases k with
  | zero => rfl
  | succ k => simp [retLoop, h.1, h.2]

theorem retLoop_succ_hv {s : Sh} {x : Ctl} {xs : List Ctl} (n : Nat) (h : s.rs.map Ent.c = x :: xs)
    (hl : x.ljmp = false) (hv' : x.vfork = false) (hvf : s.vf = none) :
    retLoop (n + 1) s (hv x.plt) = retLoop n (exitTop s).1 (exitTop s).2 := by
  cases hp : x.plt with
  | false => simp [retLoop, mcountExit, hv]
  | true =>
    have : hv true = PTRAMP := by decide
    rw [this, retLoop_succ_ptramp, plthookExit_eq_exitTop h hp hl hv' hvf]

/-- returning through a tail-call chain: each exit hands control to the trampoline of the chain element
    below it, the last one to the real return address; only the last exit uncovers another slot -/
theorem retLoop_chain {slot orig : Nat} (ho : isTramp orig = false) {rest : List Ctl}
    (hrest : ∀ p ps, rest = p :: ps → p.loc ≠ slot) :
    ∀ (ch : List Link) (s : Sh) (n : Nat),
      s.rs.map Ent.c = expChain slot orig ch ++ rest → s.inExc = false → s.vf = none → ch.length ≤ n →
      (retLoop n s (belowIp orig ch)).2 = orig ∧ (retLoop n s (belowIp orig ch)).1.rs.map Ent.c = rest ∧
      (retLoop n s (belowIp orig ch)).1.mem = (if ch = [] then s.mem else rehookTop s.mem rest) ∧
      Exits s (retLoop n s (belowIp orig ch)).1 ch.length := by
  intro ch
  induction ch with
  | nil =>
    intro s n hc _ _ _
    rw [show belowIp orig [] = orig from rfl, retLoop_stop ho]
    exact ⟨rfl, hc, rfl, .refl _⟩
  | cons lk r ih =>
    intro s n hc hx hvf hn
    obtain ⟨n, rfl⟩ : ∃ k, n = k + 1 := ⟨n - 1, by simp at hn; omega⟩
    simp only [expChain, List.cons_append] at hc
    obtain ⟨h1, h2, h3, _⟩ := exitTop_spec hc
    obtain ⟨e, r', hr, _⟩ := List.map_eq_cons_iff.mp hc
    have hl : retLoop (n + 1) s (belowIp orig (lk :: r)) = retLoop n (exitTop s).1 (belowIp orig r) := by
      rw [← show (exitTop s).2 = belowIp orig r from h1]
      exact retLoop_succ_hv (x := lk.ctl slot (belowIp orig r)) n hc rfl rfl hvf
    rw [hl]
    obtain ⟨a1, a2, a3, a4⟩ := ih (exitTop s).1 n h2 (by simpa using hx) (by simpa using hvf) (by simp at hn; omega)
    refine ⟨a1, a2, ?_, .step hr a4⟩
    rw [a3, h3, hx, if_neg (List.cons_ne_nil _ _)]
    cases r with
    | nil => exact exitMem_rehook (fun p ps hp h => hrest p ps hp h.symm)
    | cons l2 r2 => simp [exitMem, Link.ctl, expChain]

theorem restoreMem_append (l1 l2 : List Ent) (m : Mem) :
    restoreMem (l1 ++ l2) m = restoreMem l2 (restoreMem l1 m) := by
  induction l1 generalizing m with
  | nil => rfl
  | cons e r ih => simp [restoreMem, ih]

theorem restoreMem_other {l : List Ent} {a : Nat} (h : ∀ e ∈ l, e.c.loc ≠ a) (m : Mem) :
    restoreMem l m a = m a := by
  induction l generalizing m with
  | nil => rfl
  | cons e r ih =>
    simp only [restoreMem]
    rw [ih (List.forall_mem_cons.mp h).2]
    split
    · rfl
    · exact upd_other _ _ (fun hh => h e (by simp) hh.symm)

theorem restoreMem_chain {slot orig : Nat} (ho : isTramp orig = false) :
    ∀ (ch : List Link) (l : List Ent) (m : Mem), l.map Ent.c = expChain slot orig ch → ch ≠ [] →
      restoreMem l m slot = orig := by
  intro ch
  induction ch with
  | nil => intro l m _ h; exact absurd rfl h
  | cons lk r ih =>
    intro l m hl _
    obtain ⟨e, l', rfl, he, hl'⟩ := List.map_eq_cons_iff.mp hl
    simp only [restoreMem]
    cases r with
    | nil =>
      have hl0 : l' = [] := by simpa [expChain] using hl'
      subst hl0
      have hip : e.c.ip = orig := by rw [he]; rfl
      have hloc : e.c.loc = slot := by rw [he]; rfl
      simp [restoreMem, hip, ho, hloc]
    | cons l2 r2 =>
      exact ih l' _ hl' (by simp)

theorem rehookBottomUp_append (l1 l2 : List Ent) (m : Mem) :
    rehookBottomUp (l1 ++ l2) m = rehookBottomUp l1 (rehookBottomUp l2 m) := by
  induction l1 with
  | nil => rfl
  | cons e r ih => simp [rehookBottomUp, ih]

theorem rehookBottomUp_other {l : List Ent} {a : Nat} (h : ∀ e ∈ l, e.c.loc ≠ a) (m : Mem) :
    rehookBottomUp l m a = m a := by
  induction l with
  | nil => rfl
  | cons e r ih =>
    simp only [rehookBottomUp]
    rw [upd_other _ _ (fun hh => h e (by simp) hh.symm)]
    exact ih (List.forall_mem_cons.mp h).2

theorem chain_locs {slot orig : Nat} {ch : List Link} {l : List Ent} (h : l.map Ent.c = expChain slot orig ch) :
    ∀ e ∈ l, e.c.loc = slot := fun _ he => expChain_loc (mem_c h he)

theorem frames_locs_ne {f : Frame} {fs : List Frame} (hs : Sorted (f :: fs)) {l : List Ent}
    (h : l.map Ent.c = expFrames fs) : ∀ e ∈ l, e.c.loc ≠ f.slot := fun _ he => expFrames_loc_ne hs (mem_c h he)

theorem frames_locs_other {fs : List Frame} {l : List Ent} (h : l.map Ent.c = expFrames fs) {a : Nat}
    (ha : ∀ f ∈ fs, f.slot ≠ a) : ∀ e ∈ l, e.c.loc ≠ a := by
  intro e he
  obtain ⟨f, hf, e1⟩ := expFrames_loc (mem_c h he)
  rw [e1]; exact ha f hf

theorem restoreMem_frames : ∀ (fs : List Frame) (l : List Ent) (m : Mem), l.map Ent.c = expFrames fs →
    Sorted fs → (∀ f ∈ fs, isTramp f.orig = false) →
    ∀ f ∈ fs, restoreMem l m f.slot = (match f.chain with | [] => m f.slot | _ :: _ => f.orig) := by
  intro fs
  induction fs with
  | nil => intro l m _ _ _ f hf; cases hf
  | cons g fs ih =>
    intro l m hl hs ho f hf
    simp only [expFrames] at hl
    obtain ⟨l1, l2, rfl, h1, h2⟩ := List.map_eq_append_iff.mp hl
    rw [restoreMem_append]
    rcases List.mem_cons.mp hf with rfl | hf'
    · rw [restoreMem_other (frames_locs_ne hs h2)]
      cases hc : f.chain with
      | nil =>
        have : l1 = [] := by simpa [hc, expChain] using h1
        subst this; rfl
      | cons lk r =>
        simp only
        exact restoreMem_chain (ho f (by simp)) f.chain l1 m h1 (by simp [hc])
    · rw [ih l2 _ h2 hs.of_cons (List.forall_mem_cons.mp ho).2 f hf']
      have hne : f.slot ≠ g.slot := Nat.ne_of_gt (List.rel_of_pairwise_cons hs hf')
      rw [restoreMem_other (fun e he => by rw [chain_locs h1 e he]; exact hne.symm)]

theorem restoreMem_frames_other {fs : List Frame} {l : List Ent} (h : l.map Ent.c = expFrames fs) {a : Nat}
    (ha : ∀ f ∈ fs, f.slot ≠ a) (m : Mem) : restoreMem l m a = m a :=
  restoreMem_other (frames_locs_other h ha) m

theorem rehookBottomUp_frames : ∀ (fs : List Frame) (l : List Ent) (m : Mem), l.map Ent.c = expFrames fs →
    Sorted fs →
    ∀ f ∈ fs, rehookBottomUp l m f.slot = (match f.chain with | [] => m f.slot | lk :: _ => hv lk.plt) := by
  intro fs
  induction fs with
  | nil => intro l m _ _ f hf; cases hf
  | cons g fs ih =>
    intro l m hl hs f hf
    simp only [expFrames] at hl
    obtain ⟨l1, l2, rfl, h1, h2⟩ := List.map_eq_append_iff.mp hl
    rw [rehookBottomUp_append]
    rcases List.mem_cons.mp hf with rfl | hf'
    · cases hc : f.chain with
      | nil =>
        have : l1 = [] := by simpa [hc, expChain] using h1
        subst this
        simp only [rehookBottomUp]
        exact rehookBottomUp_other (frames_locs_ne hs h2) m
      | cons lk r =>
        rw [hc] at h1
        obtain ⟨e, l1', rfl, he, _⟩ := List.map_eq_cons_iff.mp h1
        simp only [rehookBottomUp]
        have h1 : e.c.loc = f.slot := by rw [he]; rfl
        have h2 : e.c.plt = lk.plt := by rw [he]; rfl
        rw [h1, upd_same, h2]
    · have hne : f.slot ≠ g.slot := Nat.ne_of_gt (List.rel_of_pairwise_cons hs hf')
      rw [rehookBottomUp_other (fun e he => by rw [chain_locs h1 e he]; exact hne.symm)]
      exact ih l2 m h2 hs.of_cons f hf'

theorem popDead_spec (tid fa : Nat) : ∀ (dead : List Ctl) (n : Nat) (l : List Ent) (live : List Ctl) (ri : Nat)
    (out : List Rec), l.map Ent.c = dead ++ live → (∀ d ∈ dead, d.loc ≤ fa) →
    (∀ p ps, live = p :: ps → fa < p.loc) → dead.length ≤ n →
    (popDead tid fa n l ri out).1.map Ent.c = live ∧ (popDead tid fa n l ri out).2.1 = ri - dead.length ∧
    (popDead tid fa n l ri out).1.map Ent.depth = (l.map Ent.depth).drop dead.length := by
  intro dead
  induction dead with
  | nil =>
    intro n l live ri out hl _ hlive _
    simp only [List.nil_append] at hl
    subst hl
    cases n with
    | zero => simp [popDead]
    | succ n =>
      cases l with
      | nil => simp [popDead]
      | cons e r => simp [popDead, hlive e.c (r.map Ent.c) rfl]
  | cons d ds ih =>
    intro n l live ri out hl hd hlive hn
    obtain ⟨n, rfl⟩ : ∃ k, n = k + 1 := ⟨n - 1, by simp at hn; omega⟩
    simp only [List.cons_append] at hl
    obtain ⟨e, r, rfl, he, hr⟩ := List.map_eq_cons_iff.mp hl
    have hle : ¬ fa < e.c.loc := by rw [he]; exact Nat.not_lt.mpr (hd d (by simp))
    simp only [popDead, hle, ↓reduceIte]
    have hw := writeEntries_c tid (e :: r)
    have hwd := writeEntries_depth tid (e :: r)
    obtain ⟨e', r', hr', _, hrc⟩ := List.map_eq_cons_iff.mp hw
    have hrd : r'.map Ent.depth = r.map Ent.depth := by
      rw [hr'] at hwd; simpa using (List.cons.inj hwd).2
    rw [hr']
    simp only [List.tail_cons]
    have key := fun o => ih n r' live (ri - 1) o (by rw [hrc, hr]) (List.forall_mem_cons.mp hd).2 hlive
      (by simp at hn; omega)
    refine ⟨(key _).1, ?_, ?_⟩
    · rw [(key _).2.1]; simp; omega
    · rw [(key _).2.2, hrd]; simp

theorem ent_ip_eta (e : Ent) : ({ e with c := { e.c with ip := e.c.ip } } : Ent) = e := by
  cases e with | mk c d w j => cases c; rfl

theorem fixChain_id {slot orig : Nat} (m : Mem) (hm : m slot = orig) :
    ∀ (ch : List Link) (lk : Link) (l : List Ent) (rest : List Ctl),
      l.map Ent.c = expChain slot orig (lk :: ch) ++ rest → (∀ p ps, rest = p :: ps → p.loc ≠ slot) →
      fixChain m l = l := by
  intro ch
  induction ch with
  | nil =>
    intro lk l rest hl hrest
    simp only [expChain, List.cons_append, List.nil_append] at hl
    obtain ⟨e, r, rfl, he, hr⟩ := List.map_eq_cons_iff.mp hl
    have hloc : e.c.loc = slot := by rw [he]; rfl
    have hip : e.c.ip = orig := by rw [he]; rfl
    have hfix : ({ e with c := { e.c with ip := m e.c.loc } } : Ent) = e := by
      rw [hloc, hm, ← hip]
    subst hr
    cases r with
    | nil => simp [fixChain, hfix]
    | cons e2 r2 =>
      have : e.c.loc ≠ e2.c.loc := hloc ▸ (hrest e2.c (r2.map Ent.c) rfl).symm
      simp [fixChain, this, hfix]
  | cons l2 ch ih =>
    intro lk l rest hl hrest
    simp only [expChain, List.cons_append] at hl
    obtain ⟨e, r, rfl, he, hr⟩ := List.map_eq_cons_iff.mp hl
    obtain ⟨e2, r2, rfl, he2, hr2⟩ := List.map_eq_cons_iff.mp hr
    have : e.c.loc = e2.c.loc := by rw [he, he2]; rfl
    simp only [fixChain, this, ↓reduceIte]
    have := ih l2 (e2 :: r2) rest (by simpa [expChain] using hr) hrest
    rw [this]

/-- on a stack of restored frames "do not overwrite the current return address" changes nothing -/
theorem fixChain_frames : ∀ (fs : List Frame) (l : List Ent) (m : Mem), l.map Ent.c = expFrames fs →
    Sorted fs → (∀ f ∈ fs, m f.slot = f.orig) → fixChain m l = l := by
  intro fs
  induction fs with
  | nil =>
    intro l m hl _ _
    have : l = [] := by simpa [expFrames] using hl
    subst this; rfl
  | cons f fs ih =>
    intro l m hl hs hm
    cases hc : f.chain with
    | nil =>
      simp only [expFrames, hc, expChain, List.nil_append] at hl
      exact ih l m hl hs.of_cons (List.forall_mem_cons.mp hm).2
    | cons lk ch =>
      simp only [expFrames, hc] at hl
      exact fixChain_id m (hm f (by simp)) ch lk l (expFrames fs) hl
        (fun p ps hp => expFrames_loc_ne hs (by rw [hp]; simp))

/-- `r` is `s` after mcount_rstack_rehook_exception has dropped `ndead` entries of unwound frames
    from a stack whose live part belongs to `fs` -/
structure RehookSpec (s r : Sh) (fs : List Frame) (ndead : Nat) : Prop where
  c : r.rs.map Ent.c = expFrames fs
  hooked : ∀ f ∈ fs, r.mem f.slot = (match f.chain with | [] => s.mem f.slot | lk :: _ => hv lk.plt)
  other : ∀ a, (∀ f ∈ fs, f.slot ≠ a) → r.mem a = s.mem a
  recIdx : r.recIdx = s.recIdx - ndead
  inExc : r.inExc = s.inExc
  jbs : r.jbs = s.jbs
  vf : r.vf = s.vf
  dead : r.dead = s.dead
  depth : r.rs.map Ent.depth = (s.rs.map Ent.depth).drop ndead

/-- on an in-step stack with restored return slots the routine is: drop the dead entries (writing their
    records), hook every live slot again -/
theorem rehookException_eq {s : Sh} {fs : List Frame} {dead : List Ctl} {fa : Nat}
    (hc : s.rs.map Ent.c = dead ++ expFrames fs) (hs : Sorted fs) (hm : ∀ f ∈ fs, s.mem f.slot = f.orig)
    (hd : ∀ d ∈ dead, d.loc ≤ fa) (hl : ∀ f ∈ fs, f.chain ≠ [] → fa < f.slot) :
    ∃ rs ri out, popDead s.tid fa s.rs.length s.rs s.recIdx s.out = (rs, ri, out) ∧
      rehookException Fix.all s fa = { s with rs := rs, recIdx := ri, out := out, mem := rehookBottomUp rs s.mem } ∧
      rs.map Ent.c = expFrames fs ∧ ri = s.recIdx - dead.length ∧
      rs.map Ent.depth = (s.rs.map Ent.depth).drop dead.length := by
  have hlive : ∀ p ps, expFrames fs = p :: ps → fa < p.loc := by
    intro p ps hp
    obtain ⟨g, hg, l, r, hgc, rfl⟩ := expFrames_head hp
    exact hl g hg (by simp [hgc])
  have hp := popDead_spec s.tid fa dead s.rs.length s.rs (expFrames fs) s.recIdx s.out hc hd hlive (by
    have := congrArg List.length hc
    simp at this; omega)
  refine ⟨_, _, _, rfl, ?_, hp⟩
  simp only [rehookException, rehookMem, Fix.all, ↓reduceIte]
  rw [fixChain_frames fs _ s.mem hp.1 hs hm]

theorem rehookException_spec {s : Sh} {fs : List Frame} {dead : List Ctl} {fa : Nat}
    (hc : s.rs.map Ent.c = dead ++ expFrames fs) (hs : Sorted fs) (hm : ∀ f ∈ fs, s.mem f.slot = f.orig)
    (hd : ∀ d ∈ dead, d.loc ≤ fa) (hl : ∀ f ∈ fs, f.chain ≠ [] → fa < f.slot) :
    RehookSpec s (rehookException Fix.all s fa) fs dead.length := by
  obtain ⟨rs, ri, out, _, he, h1, h2, h3⟩ := rehookException_eq hc hs hm hd hl
  rw [he]
  exact ⟨h1, rehookBottomUp_frames fs rs s.mem h1 hs,
    fun a ha => rehookBottomUp_other (frames_locs_other h1 ha) s.mem, h2, rfl, rfl, rfl, rfl, h3⟩

/-- the shadow stack is exactly what the hooked frames account for, every return slot holds the real
    return address or the trampoline of its function, and the top hooked slot is hooked -/
structure Hooked (fs : List Frame) (s : Sh) : Prop where
  inExc : s.inExc = false
  c : s.rs.map Ent.c = expFrames fs
  sorted : Sorted fs
  origs : ∀ f ∈ fs, isTramp f.orig = false
  memOk : MemOk fs s.mem
  top : TopOk fs s.mem

theorem Hooked.congr {fs : List Frame} {s t : Sh} (h : Hooked fs s) (hc : t.rs.map Ent.c = s.rs.map Ent.c)
    (hm : t.mem = s.mem) (hx : t.inExc = s.inExc) : Hooked fs t :=
  ⟨hx.trans h.inExc, hc.trans h.c, h.sorted, h.origs, hm ▸ h.memOk, hm ▸ h.top⟩

theorem Hooked.frame {fs : List Frame} {s : Sh} (h : Hooked fs s) {slot orig : Nat} {mem : Mem}
    (hlt : ∀ f ∈ fs, slot < f.slot) (hor : isTramp orig = false) (hslot : mem slot = orig)
    (hkeep : ∀ f ∈ fs, mem f.slot = s.mem f.slot) : Hooked (⟨slot, orig, []⟩ :: fs) { s with mem := mem } := by
  refine ⟨h.inExc, h.c, List.pairwise_cons.mpr ⟨hlt, h.sorted⟩, List.forall_mem_cons.mpr ⟨hor, h.origs⟩, ?_, ?_⟩
  · intro f hf
    rcases List.mem_cons.mp hf with rfl | hf'
    · exact Or.inl hslot
    · exact h.memOk.mono hkeep f hf'
  · intro p ps hp
    have hp' : expFrames fs = p :: ps := hp
    obtain ⟨g, hg, e⟩ := expFrames_loc (hp' ▸ List.mem_cons_self ..)
    show mem p.loc = hv p.plt
    rw [e, hkeep g hg, ← e]
    exact h.top p ps hp'

theorem Hooked.slot_eq {f : Frame} {fs : List Frame} {s : Sh} (h : Hooked (f :: fs) s) :
    s.mem f.slot = belowIp f.orig f.chain := by
  cases hch : f.chain with
  | nil => exact h.memOk.unhooked (List.mem_cons_self ..) hch
  | cons l r => exact h.top.hooked hch

/-- the entry hook run for the function that now owns the top frame (a call into a hooked function,
    or a tail call from the function that owned it) -/
theorem Hooked.link {f : Frame} {fs : List Frame} {s : Sh} (h : Hooked (f :: fs) s) (child : Nat) (plt : Bool) :
    Hooked ({ f with chain := ⟨child, plt⟩ :: f.chain } :: fs) (pushHook s f.slot child plt) := by
  have hfm : f ∈ f :: fs := List.mem_cons_self ..
  -- the saved return address is what the slot holds
  have hip := h.slot_eq
  obtain ⟨hnew, hoth⟩ := pushHook_mem f.slot child plt h.inExc h.c h.origs
  have hexp : expFrames ({ f with chain := ⟨child, plt⟩ :: f.chain } :: fs) =
      ⟨f.slot, belowIp f.orig f.chain, child, plt, false, false⟩ :: expFrames (f :: fs) := by
    simp [expFrames, expChain, Link.ctl]
  refine ⟨by simpa using h.inExc, ?_, ?_, ?_, ?_, ?_⟩
  · rw [hexp]; simp [mkEnt, hip, h.c]
  · exact List.pairwise_cons.mpr ⟨fun g hg => List.rel_of_pairwise_cons h.sorted hg, h.sorted.of_cons⟩
  · exact List.forall_mem_cons.mpr ⟨h.origs f hfm, fun g hg => h.origs g (List.mem_cons_of_mem _ hg)⟩
  · intro g hg
    rcases List.mem_cons.mp hg with rfl | hg'
    · exact Or.inr ⟨_, _, rfl, hnew⟩
    · have hgm : g ∈ f :: fs := List.mem_cons_of_mem _ hg'
      rcases hoth g.slot (Nat.ne_of_gt (List.rel_of_pairwise_cons h.sorted hg')) with e | ⟨g0, hg0, hgg, _, e⟩
      · rw [e]; exact h.memOk g hgm
      · cases sorted_slot_inj h.sorted hgm hg0 hgg
        exact Or.inl e
  · intro p ps hp
    rw [hexp] at hp
    cases hp
    exact hnew

/-- the exit of an entry that sits alone on a slot below all frames (the entry of a PLT call while
    the callee runs) -/
theorem Hooked.pop {fs : List Frame} {s : Sh} {x : Ctl} (hc : s.rs.map Ent.c = x :: expFrames fs)
    (hx : s.inExc = false) (hs : Sorted fs) (ho : ∀ f ∈ fs, isTramp f.orig = false)
    (hlt : ∀ f ∈ fs, x.loc < f.slot) (hmo : MemOk fs s.mem) : Hooked fs (exitTop s).1 := by
  obtain ⟨_, h2, h3, h4⟩ := exitTop_spec hc
  have hm : (exitTop s).1.mem = rehookTop s.mem (expFrames fs) := by
    rw [h3, hx]
    apply exitMem_rehook
    intro p ps hp
    obtain ⟨g, hg, e⟩ := expFrames_loc (hp ▸ List.mem_cons_self ..)
    rw [e]; exact Nat.ne_of_lt (hlt g hg)
  obtain ⟨a, b⟩ := rehookTop_ok hs hmo
  exact ⟨h4.inExc.trans hx, h2, hs, ho, hm ▸ a, hm ▸ b⟩

theorem Hooked.tail {f : Frame} {fs : List Frame} {s : Sh} (h : Hooked (f :: fs) s) :
    Sorted fs ∧ (∀ g ∈ fs, isTramp g.orig = false) ∧ MemOk fs s.mem :=
  ⟨h.sorted.of_cons, fun g hg => h.origs g (List.mem_cons_of_mem _ hg),
    fun g hg => h.memOk g (List.mem_cons_of_mem _ hg)⟩

/-- the return instruction of the top frame: the stubs run one exit hook per chain element, control
    arrives at the real caller, and the only word that may change is the slot of the frame now on top -/
theorem Hooked.ret {f : Frame} {fs : List Frame} {s : Sh} (h : Hooked (f :: fs) s) (hvf : s.vf = none) {n : Nat}
    (hn : s.rs.length < n) :
    (retLoop n s (s.mem f.slot)).2 = f.orig ∧ Hooked fs (retLoop n s (s.mem f.slot)).1 ∧
    Exits s (retLoop n s (s.mem f.slot)).1 f.chain.length ∧
    ∀ a, (∀ p ps, expFrames fs = p :: ps → a ≠ p.loc) → (retLoop n s (s.mem f.slot)).1.mem a = s.mem a := by
  obtain ⟨hs, ho, hmo⟩ := h.tail
  have hc : s.rs.map Ent.c = expChain f.slot f.orig f.chain ++ expFrames fs := h.c
  have hlen : f.chain.length ≤ n := by
    have := congrArg List.length hc
    simp at this; omega
  obtain ⟨r1, r2, r3, r4⟩ := retLoop_chain (rest := expFrames fs) (h.origs f (List.mem_cons_self ..))
    (fun p ps hp => expFrames_loc_ne h.sorted (hp ▸ List.mem_cons_self ..)) f.chain s n hc h.inExc hvf hlen
  rw [h.slot_eq]
  by_cases hch : f.chain = []
  · -- not hooked: no hook runs
    rw [if_pos hch] at r3
    have hexp : expFrames (f :: fs) = expFrames fs := by simp [expFrames, hch, expChain]
    have ht : TopOk fs s.mem := fun p ps hp => h.top p ps (hexp ▸ hp)
    exact ⟨r1, ⟨r4.popped.inExc.trans h.inExc, r2, hs, ho, r3 ▸ hmo, r3 ▸ ht⟩, r4, fun _ _ => by rw [r3]⟩
  · rw [if_neg hch] at r3
    obtain ⟨a, b⟩ := rehookTop_ok hs hmo
    refine ⟨r1, ⟨r4.popped.inExc.trans h.inExc, r2, hs, ho, r3 ▸ a, r3 ▸ b⟩, r4, fun a ha => ?_⟩
    rw [r3]
    cases hexp : expFrames fs with
    | nil => rfl
    | cons p ps => exact upd_other _ _ (ha p ps hexp)

/-- the state in which a function called through the PLT starts to run: the call instruction has
    stored the return address and `__plthook_entry` has pushed its entry -/
abbrev pltCall (s : Sh) (slot orig child : Nat) : Sh := pushHook (progStore s slot orig) slot child true

theorem Hooked.pltCall {fs : List Frame} {s : Sh} (h : Hooked fs s) {slot orig : Nat}
    (hlt : ∀ f ∈ fs, slot < f.slot) (hor : isTramp orig = false) (child : Nat) :
    Hooked (⟨slot, orig, [⟨child, true⟩]⟩ :: fs) (pltCall s slot orig child) :=
  (h.frame (mem := upd s.mem slot orig) hlt hor (upd_same ..)
    (fun f hf => upd_other _ _ (Nat.ne_of_gt (hlt f hf)))).link child true

theorem pltCall_ret {s : Sh} {slot orig child : Nat} {xs : List Ctl} (n : Nat)
    (hc : s.rs.map Ent.c = ⟨slot, orig, child, true, false, false⟩ :: xs) (hm : s.mem slot = PTRAMP)
    (hvf : s.vf = none) (hor : isTramp orig = false) :
    retLoop (n + 1) s (s.mem slot) = ((exitTop s).1, orig) := by
  rw [hm]
  exact (retLoop_succ_hv (x := ⟨slot, orig, child, true, false, false⟩) n hc rfl rfl hvf).trans
    (by rw [(exitTop_spec hc).1, retLoop_stop hor])

end Uft.NonLocal

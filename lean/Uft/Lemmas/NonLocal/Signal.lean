import Uft.Lemmas.NonLocal.Inv
/-
C11 — signal handlers: a balanced history of calls and returns inserted at an arbitrary point
leaves the machine in step and everything later steps depend on unchanged.
-/
namespace Uft.NonLocal

/-! ### a call and its return leave the rest of the state alone -/

theorem call_frame {m m' : M} (hi : Inv m) (hx : m.sh.inExc = false) {k : Kind} {child slot orig fpw : Nat}
    (hw : WellFormedOp m (.call k child slot orig fpw)) (h : step Fix.all m (.call k child slot orig fpw) = m') :
    m'.fs = ⟨slot, orig, chainOf k child⟩ :: m.fs ∧ m'.sh.inExc = false ∧ m'.sh.jbs = m.sh.jbs ∧ m'.rjb = m.rjb ∧
    m'.sh.recIdx = m.sh.recIdx + (chainOf k child).length ∧
    ∀ a, a ≠ slot → a ≠ slot - 1 → (∀ p ps, expFrames m.fs = p :: ps → a ≠ p.loc) → m'.sh.mem a = m.sh.mem a := by
  subst h
  rw [step_call _ hi.nh]
  have hpw : ∀ a, a ≠ slot → a ≠ slot - 1 → (progWrite m.sh slot orig fpw).mem a = m.sh.mem a := by
    intro a h1 h2
    simp only [progWrite]; rw [upd_other _ _ h2, upd_other _ _ h1]
  by_cases hk : k = .none
  · subst hk
    exact ⟨rfl, hx, rfl, rfl, rfl, fun a h1 h2 _ => hpw a h1 h2⟩
  · rw [hookEntry_hooked hk, chainOf_hooked hk, beginCatch_noexc _ (by exact hx)]
    refine ⟨rfl, by simpa using hx, by simp, rfl, by simp, fun a ha1 ha2 ha3 => ?_⟩
    have hh := hi.hooked hx
    rcases (pushHook_mem (s := progWrite m.sh slot orig fpw) slot child _ hx hh.c hh.origs).2 a ha1 with
      e | ⟨_, _, _, ⟨p, ps, hp, hpa⟩, _⟩
    · exact e.trans (hpw a ha1 ha2)
    · exact absurd hpa.symm (ha3 p ps hp)

theorem ret_frame {m m' : M} (hi : Inv m) (hx : m.sh.inExc = false) {f : Frame} {fs : List Frame} (hf : m.fs = f :: fs)
    (h : step Fix.all m .ret = m') :
    m'.sh.inExc = false ∧ m'.sh.jbs = m.sh.jbs ∧ m'.rjb = m.rjb ∧ m'.sh.recIdx = m.sh.recIdx - f.chain.length ∧
    ∀ a, (∀ p ps, expFrames fs = p :: ps → a ≠ p.loc) → m'.sh.mem a = m.sh.mem a := by
  subst h
  rw [step_ret_eq _ hi.nh hf]
  have hh : Hooked (f :: fs) m.sh := hf ▸ hi.hooked hx
  obtain ⟨_, r2, r3, r4⟩ := hh.ret hi.vf (Nat.lt_succ_self _)
  exact ⟨r2.inExc, r3.popped.jbs, rfl, r3.popped.recIdx, r4⟩

/-- well-nested calls and returns: what a (traced or untraced) signal handler and everything it
    calls do between the arrival of the signal and sigreturn -/
inductive Balanced : List Op → Prop
  | nil : Balanced []
  | wrap {k : Kind} {child slot orig fpw : Nat} {h1 h2 : List Op} :
      Balanced h1 → Balanced h2 → Balanced (.call k child slot orig fpw :: h1 ++ .ret :: h2)

/-- every op of the history is well formed in the state it is executed in -/
def WFRun (m : M) : List Op → Prop
  | [] => True
  | op :: r => WellFormedOp m op ∧ WFRun (step Fix.all m op) r

theorem run_append (fx : Fix) (m : M) (a b : List Op) : run fx m (a ++ b) = run fx (run fx m a) b := by
  simp [run, List.foldl_append]

theorem WFRun_append {m : M} {a b : List Op} (h : WFRun m (a ++ b)) : WFRun m a ∧ WFRun (run Fix.all m a) b := by
  induction a generalizing m with
  | nil => exact ⟨trivial, h⟩
  | cons op r ih =>
    obtain ⟨h1, h2⟩ := h
    obtain ⟨h3, h4⟩ := ih h2
    exact ⟨⟨h1, h3⟩, h4⟩

/-- everything that later steps can depend on is the same -/
structure SameState (m m' : M) : Prop where
  fs : m'.fs = m.fs
  ctl : m'.sh.rs.map Ent.c = m.sh.rs.map Ent.c
  mem : ∀ f ∈ m.fs, m'.sh.mem f.slot = m.sh.mem f.slot
  recIdx : m'.sh.recIdx = m.sh.recIdx
  inExc : m'.sh.inExc = m.sh.inExc
  jbs : m'.sh.jbs = m.sh.jbs
  rjb : m'.rjb = m.rjb

theorem SameState.trans {a b c : M} (h1 : SameState a b) (h2 : SameState b c) : SameState a c :=
  ⟨h2.fs.trans h1.fs, h2.ctl.trans h1.ctl,
    fun f hf => (h2.mem f (by rw [h1.fs]; exact hf)).trans (h1.mem f hf),
    h2.recIdx.trans h1.recIdx, h2.inExc.trans h1.inExc, h2.jbs.trans h1.jbs, h2.rjb.trans h1.rjb⟩

theorem signal_transparent {h : List Op} (hb : Balanced h) :
    ∀ {m : M}, Inv m → m.sh.inExc = false → WFRun m h →
      Inv (run Fix.all m h) ∧ SameState m (run Fix.all m h) := by
  induction hb with
  | nil => intro m hi _ _; exact ⟨hi, ⟨rfl, rfl, fun _ _ => rfl, rfl, rfl, rfl, rfl⟩⟩
  | @wrap k child slot orig fpw h1 h2 _ _ ih1 ih2 =>
    intro m hi hx hw
    obtain ⟨hwc, hw'⟩ := hw
    obtain ⟨hw1, _, hw2⟩ := WFRun_append hw'
    have hrun : run Fix.all m (.call k child slot orig fpw :: h1 ++ .ret :: h2) =
        run Fix.all (step Fix.all (run Fix.all (step Fix.all m (.call k child slot orig fpw)) h1) .ret) h2 := by
      show run Fix.all (step Fix.all m _) (h1 ++ .ret :: h2) = _
      rw [run_append]; rfl
    rw [hrun]
    obtain ⟨c1, c2, c3, c4, c5, c6⟩ := call_frame hi hx hwc rfl
    obtain ⟨hi2, s12⟩ := ih1 (inv_call hi hwc) c2 hw1
    have hx2 := s12.inExc.trans c2
    have hf2 := s12.fs.trans c1
    obtain ⟨hi3, _⟩ := ret_spec hi2 hf2
    obtain ⟨r1, r2, r3, r4, r5⟩ := ret_frame hi2 hx2 hf2 rfl
    have hfs3 : (step Fix.all (run Fix.all (step Fix.all m (.call k child slot orig fpw)) h1) .ret).fs = m.fs := by
      rw [step_ret_eq _ hi2.nh hf2]
    have s03 : SameState m (step Fix.all (run Fix.all (step Fix.all m (.call k child slot orig fpw)) h1) .ret) := by
      refine ⟨hfs3, ?_, fun g hg => ?_, ?_, r1.trans hx.symm, by rw [r2, s12.jbs, c3], by rw [r3, s12.rjb, c4]⟩
      · rw [(hi3.hooked r1).c, (hi.hooked hx).c, hfs3]
      · by_cases htop : ∃ p ps, expFrames m.fs = p :: ps ∧ g.slot = p.loc
        · -- the top hooked frame: hooked before and after
          obtain ⟨p, ps, hp, hgp⟩ := htop
          rw [hgp, hi3.top r1 p ps (by rw [hfs3]; exact hp), hi.top hx p ps hp]
        · have hne : ∀ p ps, expFrames m.fs = p :: ps → g.slot ≠ p.loc :=
            fun p ps hp h => htop ⟨p, ps, hp, h⟩
          have hgs : slot < g.slot := hwc.2.1 g hg
          rw [r5 g.slot hne, s12.mem g (by rw [c1]; simp [hg]), c6 g.slot (by omega) (by omega) hne]
      · rw [r4, s12.recIdx, c5]; simp
    obtain ⟨hi4, s34⟩ := ih2 hi3 r1 hw2
    exact ⟨hi4, s03.trans s34⟩

/-- the theorem is not vacuous: a handler calling a traced and a PLT function on top of main -/
example : Balanced [.call .mcount 5 20 3000 29, .call .plt 100 10 3001 0, .ret, .ret] :=
  Balanced.wrap (h1 := [.call .plt 100 10 3001 0, .ret]) (h2 := [])
    (Balanced.wrap (h1 := []) (h2 := []) Balanced.nil Balanced.nil) Balanced.nil

end Uft.NonLocal

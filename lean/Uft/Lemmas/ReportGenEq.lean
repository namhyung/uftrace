/-
C08 — the sort comparators generated from utils/report.c by translators/c2lean.py
(`Uft.Gen.ReportC.cmp_total`, … the functions the `SORT_KEY` macro defines, and `cmp_func`) are the model's
`Key.cmp` (`Uft/Model/Report.lean`).

Mapping (`RowRel`): the members of `*a` and `*b` the comparators read hold the model rows.  `cmp_func` is
`strcmp(b->name, a->name)`; the model orders names like its keys, which enters as the hypothesis `hname` of
`c08_gen_cmp_func_eq` (`Uft/Props/C08Gen.lean`).
-/
import Uft.Model.Report
import Uft.Gen.ReportC
namespace Uft.ReportGenEq
open Uft.Report Uft.Gen.C
open Uft.Gen.ReportC (Oracles cmp_total cmp_total_avg cmp_total_min cmp_total_max cmp_self cmp_self_avg cmp_self_min
  cmp_self_max cmp_call cmp_size cmp_func)
/-- the generated field structure -/
abbrev GSt := Uft.Gen.ReportC.St

/-- `*a` and `*b` hold the model rows `a` and `b` -/
structure RowRel (a b : Row) (s : GSt) : Prop where
  a_tsum : s.a_total_sum = a.tsum
  a_tavg : s.a_total_avg = a.tavg
  a_tmin : s.a_total_min = a.tmin
  a_tmax : s.a_total_max = a.tmax
  a_ssum : s.a_self_sum = a.ssum
  a_savg : s.a_self_avg = a.savg
  a_smin : s.a_self_min = a.smin
  a_smax : s.a_self_max = a.smax
  a_call : s.a_call = a.call
  a_size : s.a_size = a.size
  b_tsum : s.b_total_sum = b.tsum
  b_tavg : s.b_total_avg = b.tavg
  b_tmin : s.b_total_min = b.tmin
  b_tmax : s.b_total_max = b.tmax
  b_ssum : s.b_self_sum = b.ssum
  b_savg : s.b_self_avg = b.savg
  b_smin : s.b_self_min = b.smin
  b_smax : s.b_self_max = b.smax
  b_call : s.b_call = b.call
  b_size : s.b_size = b.size

/-- the generated comparator of a sort key -/
def genCmp : Key → Oracles → Ptr → Ptr → GSt → GSt × Int
  | .total => cmp_total
  | .totalAvg => cmp_total_avg
  | .totalMin => cmp_total_min
  | .totalMax => cmp_total_max
  | .self => cmp_self
  | .selfAvg => cmp_self_avg
  | .selfMin => cmp_self_min
  | .selfMax => cmp_self_max
  | .call => cmp_call
  | .size => cmp_size
  | .func => cmp_func

/-- the body the `SORT_KEY` macro expands to, on two members `x` and `y` -/
theorem sortKey_eq (s : GSt) (x y : Nat) :
    (if (x == y) = true then (s, (0 : Int)) else (s, if decide (x > y) = true then 1 else -1)) = (s, cmpNat x y) := by
  unfold cmpNat
  by_cases h : x = y <;> simp [h]

/-- every `SORT_KEY` comparator is the model's `Key.cmp` and changes no memory -/
theorem cmp_key_eq (k : Key) (hk : k ≠ .func) (o : Oracles) (pa pb : Ptr) (a b : Row) (s : GSt)
    (hr : RowRel a b s) : genCmp k o pa pb s = (s, Key.cmp k a b) := by
  obtain ⟨a1, a2, a3, a4, a5, a6, a7, a8, a9, a10, b1, b2, b3, b4, b5, b6, b7, b8, b9, b10⟩ := hr
  cases k
  case func => exact absurd rfl hk
  -- each comparator unfolds to `sortKey_eq` on the two members it reads; `RowRel` turns them into the rows' fields
  all_goals
    refine (sortKey_eq s _ _).trans ?_
    simp only [Key.cmp, *]

end Uft.ReportGenEq

import Uft.Model.MemRegion
/-
Lemmas about the repaired check_mem_region / copy loop (`fixed = true`) of Uft.Model.MemRegion.
-/
namespace Uft.MemRegion

theorem pageOf_idem (a : Nat) : pageOf (pageOf a) = pageOf a := by
  unfold pageOf PAGE; omega

theorem pageOf_of_mod {a : Nat} (h : a % PAGE = 0) : pageOf a = a := by
  unfold pageOf; unfold PAGE at *; omega

theorem pageOf_succ {a : Nat} (h : (a + 1) % PAGE ≠ 0) : pageOf (a + 1) = pageOf a := by
  unfold pageOf; unfold PAGE at *; omega

theorem le_pageOf_iff {s : Nat} (hs : s % PAGE = 0) (a : Nat) : s ≤ pageOf a ↔ s ≤ a := by
  unfold pageOf
  unfold PAGE at *
  constructor <;> intro h <;> omega

theorem pageOf_lt_iff {e : Nat} (he : e % PAGE = 0) (a : Nat) : pageOf a < e ↔ a < e :=
  Nat.not_le.symm.trans ((not_congr (le_pageOf_iff he a)).trans Nat.not_le)

/-- protections are per page -/
theorem has_page_eq (m : Mapping) (hs : m.start % PAGE = 0) (he : m.stop % PAGE = 0) {a b : Nat}
    (hab : pageOf a = pageOf b) : m.has a = m.has b := by
  have h1 : (m.start ≤ a) = (m.start ≤ b) := by
    rw [← le_pageOf_iff hs a, ← le_pageOf_iff hs b, hab]
  have h2 : (a < m.stop) = (b < m.stop) := by
    rw [← pageOf_lt_iff he a, ← pageOf_lt_iff he b, hab]
  unfold Mapping.has
  simp only [h1, h2]

theorem readable_page_eq {sp : Space} (hal : Aligned sp) {a b : Nat} (hab : pageOf a = pageOf b) :
    readable sp a = readable sp b := by
  unfold readable
  induction sp with
  | nil => rfl
  | cons m r ih =>
    have hm := hal m (by simp)
    simp only [List.any_cons]
    rw [has_page_eq m hm.1 hm.2 hab, ih (fun x hx => hal x (by simp [hx]))]

/-- on a page-granular address space the probe is exact -/
theorem probe_eq_readable {sp : Space} (hal : Aligned sp) (a : Nat) : probe sp a = readable sp a := by
  unfold probe
  exact readable_page_eq hal (pageOf_idem a)

/-! ### the copy loop loads readable bytes only -/

/-- within a page the verdict of the probe does not change; at the first byte of a page it is asked for again -/
theorem probe_succ {sp : Space} {a : Nat} (h : probe sp a = true)
    (hc : ¬ ((a + 1) % PAGE = 0 ∧ probe sp (a + 1) = false)) : probe sp (a + 1) = true := by
  by_cases hpg : (a + 1) % PAGE = 0
  · cases hp : probe sp (a + 1)
    · exact absurd ⟨hpg, hp⟩ hc
    · rfl
  · unfold probe at h ⊢
    rw [pageOf_succ hpg]
    exact h

/-- when every iteration either stops before its load or finds the page of `&str[i]` probed, every load is
    from a probed page -/
theorem loopFrom_probed (sp : Space) (get : Nat → MByte) (p room : Nat) :
    ∀ (fuel i : Nat), (¬ (0 < i ∧ (p + i) % PAGE = 0 ∧ probe sp (p + i) = false) → probe sp (p + i) = true) →
      ∀ a ∈ loopFrom true sp get p room fuel i, probe sp a = true := by
  intro fuel
  induction fuel with
  | zero => intro i _ a ha; simp [loopFrom] at ha
  | succ n ih =>
    intro i h a ha
    rw [loopFrom] at ha
    split at ha
    · split at ha
      · cases ha
      · rename_i hstop
        have hi : probe sp (p + i) = true := h fun hc => hstop ⟨rfl, hc⟩
        rcases List.mem_cons.mp ha with rfl | ha
        · exact hi
        · split at ha
          · cases ha
          · exact ih (i + 1) (fun hc => probe_succ hi fun hc' => hc ⟨Nat.succ_pos i, hc'⟩) a ha
    · cases ha

theorem firstFault_none {sp : Space} {rs : List Nat} (h : ∀ a ∈ rs, readable sp a = true) : firstFault sp rs = none := by
  unfold firstFault
  rw [List.find?_eq_none]
  intro a ha
  simp [h a ha]

theorem firstFault_some {sp : Space} {rs : List Nat} {a : Nat} (h : firstFault sp rs = some a) :
    a ∈ rs ∧ readable sp a = false := by
  unfold firstFault at h
  have h1 := List.mem_of_find?_eq_some h
  have h2 := List.find?_some h
  exact ⟨h1, by simpa using h2⟩

/-- the repaired `char *` path never loads from an address that is not readable now -/
theorem strCall_fixed_reads {sp : Space} (hal : Aligned sp) (get : Nat → MByte) (p room : Nat)
    (hchk : probe sp p = true) : ∀ a ∈ loopReads true sp get p room, readable sp a = true := by
  intro a ha
  rw [← probe_eq_readable hal]
  exact loopFrom_probed sp get p room 100 0 (fun _ => hchk) a ha

theorem strCall_fixed_no_fault {sp : Space} (hal : Aligned sp) (c : Cache) (get : Nat → MByte) (p room : Nat) :
    isFault (strCall true c sp get p room).1 = false ∧ (strCall true c sp get p room).2 = c := by
  unfold strCall check
  simp only [if_true]
  split
  · exact ⟨rfl, rfl⟩
  · split
    · exact ⟨rfl, rfl⟩
    · rename_i hne hk
      have hchk : probe sp p = true := by
        cases h : probe sp p <;> simp_all
      rw [firstFault_none (strCall_fixed_reads hal get p room hchk)]
      exact ⟨rfl, rfl⟩

/-- 16 bytes whose first and last byte lie in readable pages are readable -/
theorem range_readable {sp : Space} (hal : Aligned sp) (a n : Nat) (hn : n ≤ PAGE + 1)
    (h1 : probe sp a = true) (h2 : n = 0 ∨ probe sp (a + n - 1) = true) :
    ∀ j, j < n → readable sp (a + j) = true := by
  intro j hj
  rcases h2 with h2 | h2
  · omega
  · rw [probe_eq_readable hal] at h1 h2
    have : pageOf (a + j) = pageOf a ∨ pageOf (a + j) = pageOf (a + n - 1) := by
      unfold pageOf; unfold PAGE at *; omega
    rcases this with h | h
    · rw [readable_page_eq hal h]; exact h1
    · rw [readable_page_eq hal h]; exact h2

theorem objCall_fixed_no_fault {sp : Space} (hal : Aligned sp) (c : Cache) (get : Nat → MByte) (b room : Nat) :
    isFault (objCall true c sp get b room).1 = false ∧ (objCall true c sp get b room).2 = c := by
  unfold objCall check
  simp only [if_true]
  split
  · rename_i hok
    simp only [Bool.and_eq_true] at hok
    have hall : ∀ a ∈ objReads b, readable sp a = true := by
      intro a ha
      simp only [objReads, List.mem_map, List.mem_range] at ha
      obtain ⟨j, hj, rfl⟩ := ha
      exact range_readable hal b 16 (by unfold PAGE; omega) hok.1 (Or.inr (by simpa using hok.2)) j hj
    rw [firstFault_none hall]
    exact strCall_fixed_no_fault hal c get _ room
  · split
    · exact ⟨rfl, rfl⟩
    · exact ⟨rfl, rfl⟩

theorem AlignedHist.aligned : ∀ (evs : List Ev) (sp : Space), AlignedHist sp evs → Aligned sp
  | [], _, h => h
  | .space _ _ :: _, _, h => h.1
  | .str _ _ :: r, sp, h => AlignedHist.aligned r sp h
  | .obj _ _ :: r, sp, h => AlignedHist.aligned r sp h

/-! ### what the repaired code captures -/

/-- the `n` bytes at `p` -/
def bytesAt (get : Nat → MByte) (p n : Nat) : List MByte := (List.range' p n).map get

/-- while nothing stops the loop it loads one address after the other -/
theorem loopFrom_goes (sp : Space) (get : Nat → MByte) (p room : Nat) :
    ∀ (k fuel : Nat),
      (∀ j, j < k → j < room ∧ j ≠ STR_MAX ∧ get (p + j) ≠ 0 ∧
        ¬ (0 < j ∧ (p + j) % PAGE = 0 ∧ probe sp (p + j) = false)) →
      loopFrom true sp get p room (fuel + k) 0 = List.range' p k ++ loopFrom true sp get p room fuel k := by
  intro k
  induction k with
  | zero => intro fuel _; rfl
  | succ k ih =>
    intro fuel hg
    obtain ⟨hroom, h98, hnz, hpg⟩ := hg k (Nat.lt_succ_self k)
    rw [← Nat.add_assoc, Nat.add_right_comm, ih (fuel + 1) (fun j hj => hg j (Nat.lt_succ_of_lt hj)), loopFrom,
      if_pos hroom, if_neg (fun h => hpg h.2), if_neg (fun h => h.elim h98 hnz), List.range'_concat,
      List.append_assoc, Nat.one_mul]
    rfl

theorem copied_append (get : Nat → MByte) (l r : List Nat) (hl : ∀ x ∈ l, get x ≠ 0) :
    copied get (l ++ r) = l.map get ++ copied get r := by
  unfold copied
  induction l with
  | nil => rfl
  | cons x l ih =>
    rw [List.cons_append, List.map_cons, List.takeWhile_cons_of_pos (by simpa using hl x (by simp)),
      ih (fun y hy => hl y (by simp [hy]))]
    rfl

/-- a string whose first `n ≤ 98` bytes can be read and are not NUL: the repaired call loads and copies these one
    after the other (no fault: `strCall_fixed_reads`); what follows is decided by the iteration at `n` -/
theorem strCall_fixed_prefix {sp : Space} (hal : Aligned sp) (c : Cache) (get : Nat → MByte) (p room n : Nat)
    (hp : p ≠ 0) (h0 : readable sp p = true) (hn : n ≤ STR_MAX) (hroom : n ≤ room)
    (hr : ∀ j, j < n → readable sp (p + j) = true) (hnz : ∀ j, j < n → get (p + j) ≠ 0) :
    ∃ f, loopReads true sp get p room = List.range' p n ++ loopFrom true sp get p room (f + 1) n ∧
      strCall true c sp get p room =
        (.str (bytesAt get p n ++ copied get (loopFrom true sp get p room (f + 1) n)), c) := by
  unfold STR_MAX at hn
  obtain ⟨f, hf⟩ : ∃ f, 100 = f + 1 + n := ⟨99 - n, by omega⟩
  have hreads : loopReads true sp get p room = List.range' p n ++ loopFrom true sp get p room (f + 1) n := by
    unfold loopReads
    rw [hf]
    exact loopFrom_goes sp get p room n (f + 1) fun j hj =>
      ⟨by omega, by unfold STR_MAX; omega, hnz j hj, fun h => by
        rw [probe_eq_readable hal, hr j hj] at h
        exact absurd h.2.2 (by decide)⟩
  have hchk : probe sp p = true := by
    rw [probe_eq_readable hal]
    exact h0
  have hcopy : ∀ x ∈ List.range' p n, get x ≠ 0 := by
    intro x hx
    rw [List.mem_range'_1] at hx
    have e : x = p + (x - p) := by omega
    rw [e]
    exact hnz _ (by omega)
  refine ⟨f, hreads, ?_⟩
  unfold strCall check
  rw [if_neg hp]
  simp only [if_true]
  rw [if_neg (by rw [hchk]; decide), firstFault_none (strCall_fixed_reads hal get p room hchk), hreads,
    copied_append get _ _ hcopy]
  rfl

end Uft.MemRegion

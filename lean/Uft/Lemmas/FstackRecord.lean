import Uft.Model.Fstack
import Uft.Lemmas.McountCore
import Uft.Lemmas.McountRestore
/- C07, the record-time hooks (Uft.Mcount, C02/C05) against the documented selection: for a call forest under
   -F / -N / -D / -t they write `specCalls ∘ pruneCalls` (`record_out`).  The ENTRY record of a call is owed until
   the call itself or something below it is written (`pend`, `mark`); `Flush` holds the invariant of that lazy
   writer. -/
namespace Uft.Fstack
open Uft.Mcount

/-- record-time option sets made of -F, -N, -D, -t only (regular build, repaired -pg path) -/
structure FND (cfg : Cfg) : Prop where
  fast : cfg.fast = false
  fixd : cfg.f4fixed = true
  locIn : cfg.locIn = false
  caller : cfg.callerMode = false
  minSize : cfg.minSize = 0
  en : cfg.enabled0 = true
  trig : ∀ f, cfg.trig f = { filter := (cfg.trig f).filter }

/-- how the thread's filter state corresponds to the lexical environment of the specification -/
structure RRel (cfg : Cfg) (s : St) (E : Env) (d : Nat) : Prop where
  inC : s.filt.inCount = E.inC
  outC : s.filt.outCount = E.outC
  bud : E.outC = 0 → s.filt.depth + E.budget = cfg.depthOpt
  maxD : s.filt.maxDepth = noMaxDepth
  time : s.filt.time = noTime
  size : s.filt.size = 0
  ridx : s.recordIdx = d
  en : s.enabled = true
  over : s.over = 0

/-- ENTRY records `record_trace_data` would add for the open frames, and the frames afterwards -/
def pend (fs : List Frame) : List Rec := (flushBelow fs).2
def mark (fs : List Frame) : List Frame := (flushBelow fs).1

theorem flushBelow_idem (fs : List Frame) : flushBelow (flushBelow fs).1 = ((flushBelow fs).1, []) := by
  induction fs with
  | nil => rfl
  | cons f r ih =>
    simp only [flushBelow]
    by_cases hw : f.written = true
    · simp [hw, flushBelow]
    · simp only [hw, Bool.false_eq_true, ↓reduceIte]
      by_cases hs : f.skip = true
      · simp [hs, flushBelow, hw, ih]
      · simp [hs, flushBelow]

theorem pend_mark (fs : List Frame) : pend (mark fs) = [] := by
  simp [pend, mark, flushBelow_idem]

theorem mark_mark (fs : List Frame) : mark (mark fs) = mark fs := by
  simp [mark, flushBelow_idem]

theorem mark_length (fs : List Frame) : (mark fs).length = fs.length := by
  have := congrArg List.length (flushBelow_core fs)
  simpa [mark] using this

theorem pend_cons_skip (F : Frame) (fs : List Frame) (hw : F.written = false) (hs : F.norecord = true) :
    pend (F :: fs) = pend fs ∧ mark (F :: fs) = F :: mark fs := by
  simp [pend, mark, flushBelow, hw, Frame.skip, hs]

theorem pend_cons_vis (F : Frame) (fs : List Frame) (hw : F.written = false) (hs : F.norecord = false)
    (hd : F.disabled = false) :
    pend (F :: fs) = pend fs ++ [entryRec F] ∧ mark (F :: fs) = { F with written := true } :: mark fs := by
  simp [pend, mark, flushBelow, hw, Frame.skip, hs, hd]

/-- the exit hook never changes the trace on/off switch -/
theorem exit_enabled (cfg : Cfg) (s : St) (t : Nat) : (exit cfg s t).enabled = s.enabled := by
  unfold exit
  split
  · rfl
  · split
    · rfl
    · exact (exitFilterRecord_keeps cfg _).2.1

/-- what an entry hook did with the call of `f` at record depth `d`: it pushed a fresh frame, recordable iff the
    call is shown (`vis`), or (a -pg hook that does not take a call that is not shown) left the shadow stack alone -/
def Pushed (s : St) (p : St × Bool) (vis : Bool) (f t0 d : Nat) : Prop :=
  (p.2 = true ∧ ∃ F : Frame, p.1.frames = F :: s.frames ∧ F.norecord = !vis ∧ F.written = false ∧
      F.disabled = false ∧ F.trace = false ∧ F.addr = f ∧ F.depth = d ∧ (vis = true → F.start = t0)) ∨
  (p.2 = false ∧ p.1.frames = s.frames ∧ vis = false)

theorem Pushed.length {s : St} {p : St × Bool} {vis : Bool} {f t0 d : Nat} (h : Pushed s p vis f t0 d) :
    p.1.frames.length ≤ s.frames.length + 1 := by
  rcases h with ⟨_, F, hfr, _⟩ | ⟨_, hfr, _⟩
  · rw [hfr]
    simp
  · rw [hfr]
    omega

/-- the entry hooks after a filter check that changed the filter state only and left tracing on (no `finish`, no
    `trace` in the matched trigger): the state is related to every environment the new filter state is related to -/
theorem entry_of_check (cfg : Cfg) (hfast : cfg.fast = false) (hfixd : cfg.f4fixed = true) (k : Kind) (s : St)
    (f t0 d : Nat) (fr : FR) (flt : Filt) (tr : Trigger) (E' : Env) (vis : Bool)
    (hc : entryFilterCheck cfg s f = (fr, { s with warned := false, filt := flt }, tr))
    (hfr : fr ≠ .rstack) (hfin : tr.finish = false) (htrc : tr.trace = false)
    (hen : s.enabled = true) (hov : s.over = 0) (hri : s.recordIdx = d)
    (hin : flt.inCount = E'.inC) (hout : flt.outCount = E'.outC)
    (hbud : E'.outC = 0 → flt.depth + E'.budget = cfg.depthOpt)
    (hmax : flt.maxDepth = noMaxDepth) (htime : flt.time = noTime) (hsize : flt.size = 0)
    (hvis : (fr != .in_ || decide (flt.outCount > 0) || (decide (flt.inCount = 0) && cfg.optIn)) = !vis) :
    (entry cfg k s f t0).1.out = s.out ∧
    RRel cfg (entry cfg k s f t0).1 E' (if vis then d + 1 else d) ∧
    Pushed s (entry cfg k s f t0) vis f t0 d := by
  have hnr : entryNorecord cfg flt (newFrame k (fr == .in_) f t0 s.recordIdx) = !vis := by
    rw [← hvis]
    simp [entryNorecord, newFrame, hsize, bne]
  have hin_ : vis = true → fr = .in_ := by
    intro hv
    subst hv
    cases fr
    · rfl
    · cases hvis
    · exact absurd rfl hfr
  have hidx : (if (!vis) = true then s.recordIdx else s.recordIdx + 1) = if vis then d + 1 else d := by
    cases vis <;> simp [hri]
  have hst : vis = true → (newFrame k (fr == .in_) f t0 s.recordIdx).start = t0 := by
    intro hv
    simp [newFrame, hin_ hv]
  rw [entry_on cfg hfast k s f t0 _ _ _ hc hfr hfin hen, hfixd]
  dsimp only
  rw [hnr]
  by_cases hskip : (k == .pg && (fr != FR.in_ && !(true && tr.changesState))) = true
  · -- a -pg hook that does not take the call
    have hv : vis = false := by
      cases vis
      · rfl
      · rw [hin_ rfl] at hskip
        simp at hskip
    subst hv
    rw [if_pos hskip]
    exact ⟨rfl, ⟨hin, hout, hbud, hmax, htime, hsize, hri, hen, hov⟩, Or.inr ⟨rfl, rfl, rfl⟩⟩
  · rw [if_neg hskip]
    exact ⟨rfl, ⟨hin, hout, hbud, hmax, htime, hsize, hidx, hen, hov⟩,
      Or.inl ⟨rfl, _, rfl, hnr, rfl, rfl, htrc, rfl, hri, hst⟩⟩

/-- mcount_entry_filter_check rejects a call (outside -N regions) in opt-in mode without a -F hit around it, or
    when the depth budget is used up -/
def fndRej (cfg : Cfg) (m : Option Bool) (fl : Filt) : Bool :=
  (m.isNone && cfg.optIn && decide (fl.inCount = 0)) || decide ((matchFilt { filter := m } fl).depth ≥ cfg.depthOpt)

def fndFilt (cfg : Cfg) (m : Option Bool) (fl : Filt) : Filt :=
  if fndRej cfg m fl then matchFilt { filter := m } fl
  else { matchFilt { filter := m } fl with depth := (matchFilt { filter := m } fl).depth + 1 }

/-- the trace_off trigger of `f` is reached by mcount_entry_filter_check in the state `s` -/
def firesR (cfg : Cfg) (s : St) (f : Nat) : Prop :=
  (cfg.trig f).traceOff = true ∧ s.filt.outCount = 0 ∧ earlyOut cfg (cfg.trig f) (saveFilt s.filt) = false

/-- mcount_entry_filter_check outside -N regions for a function whose table entry is at most a -F / -N filter and a
    trace_off trigger that is not reached -/
theorem check_fnd (cfg : Cfg) (hfast : cfg.fast = false) (hloc : cfg.locIn = false) (s : St) (f : Nat) (m : Option Bool)
    (b : Bool) (htr : cfg.trig f = { filter := m, traceOff := b }) (hnf : ¬ firesR cfg s f)
    (hidx : ¬ (s.idx ≥ cfg.maxStack)) (hmax : s.filt.maxDepth = noMaxDepth) (hout : s.filt.outCount = 0) :
    entryFilterCheck cfg s f =
      (if fndRej cfg m (saveFilt s.filt) then .out else .in_,
       { s with warned := false, filt := fndFilt cfg m (saveFilt s.filt) }, cfg.trig f) := by
  have hdl : depthLimit cfg (cfg.trig f) (saveFilt s.filt) = cfg.depthOpt := by
    rw [htr]
    simp [depthLimit, saveFilt, hmax]
  have hso : ¬ (saveFilt s.filt).outCount > 0 := by simp [saveFilt, hout]
  have he : earlyOut cfg (cfg.trig f) (saveFilt s.filt) =
      (m.isNone && cfg.optIn && decide ((saveFilt s.filt).inCount = 0)) := by
    rw [htr]
    simp [earlyOut, hloc]
  have hmf : ∀ g, matchFilt (cfg.trig f) g = matchFilt { filter := m } g := fun g => by rw [htr]; rfl
  have htf : ∀ g, trigFilt (cfg.trig f) g = g := fun g => by rw [htr]; rfl
  unfold entryFilterCheck checkRstack fndFilt fndRej
  simp only [hidx, ↓reduceIte, hfast, Bool.false_eq_true, hso, he, hmf, htf, hdl]
  cases he' : (m.isNone && cfg.optIn && decide ((saveFilt s.filt).inCount = 0))
  · -- past the early returns: the trigger has no trace_off
    have hoff : (cfg.trig f).traceOff = false := by
      cases ho : (cfg.trig f).traceOff with
      | false => rfl
      | true => exact absurd ⟨ho, hout, he.trans he'⟩ hnf
    have hon : (cfg.trig f).traceOn = false := by rw [htr]
    simp only [traceOffFlush_of_traceOff_false _ _ _ hoff, trigEnabled, hoff, hon, Bool.false_eq_true, ↓reduceIte]
    by_cases hd : (matchFilt { filter := m } (saveFilt s.filt)).depth ≥ cfg.depthOpt
    · simp [hd]
    · simp [hd]
  · simp

/-- the filter state and the verdict of that check against the specification's `visit`: a statement about `Filt` and
    `Env` only -/
theorem check_visit (cfg : Cfg) (hloc : cfg.locIn = false) (E : Env) (f : Nat) (fl : Filt) (m : Option Bool) (b : Bool)
    (htr : cfg.trig f = { filter := m, traceOff := b }) (hin : fl.inCount = E.inC) (hE0 : E.outC = 0)
    (hout : fl.outCount = 0)
    (hbud : fl.depth + E.budget = cfg.depthOpt) :
    (fndFilt cfg m fl).inCount = (visit (RCfg.ofRecord cfg) E f).2.inC ∧
    (fndFilt cfg m fl).outCount = (visit (RCfg.ofRecord cfg) E f).2.outC ∧
    ((visit (RCfg.ofRecord cfg) E f).2.outC = 0 →
      (fndFilt cfg m fl).depth + (visit (RCfg.ofRecord cfg) E f).2.budget = cfg.depthOpt) ∧
    ((if fndRej cfg m fl then FR.out else FR.in_) != .in_ || decide ((fndFilt cfg m fl).outCount > 0) ||
      (decide ((fndFilt cfg m fl).inCount = 0) && cfg.optIn)) = !(visit (RCfg.ofRecord cfg) E f).1 := by
  have h1 : ¬ E.outC > 0 := by omega
  unfold visit RCfg.ofRecord fndFilt fndRej
  dsimp only
  rw [htr]
  dsimp only [locReject]
  simp only [hloc, Bool.false_eq_true, ↓reduceIte, Option.getD_none, Bool.or_false, h1]
  rcases m with _ | _ | _
  · by_cases h4 : cfg.optIn = true ∧ E.inC = 0
    · simp [matchFilt, hin, hout, hE0, h4]
      exact hbud
    · by_cases h5 : E.budget = 0
      · have hd : cfg.depthOpt ≤ fl.depth := by omega
        simp [matchFilt, hin, hout, hE0, h4, h5, hd]
        omega
      · have hd : ¬ cfg.depthOpt ≤ fl.depth := by omega
        simp [matchFilt, hin, hout, hE0, h4, h5, hd]
        refine ⟨by omega, fun hi => ?_⟩
        cases ho : cfg.optIn
        · rfl
        · exact absurd ⟨ho, hi⟩ h4
  · by_cases hD : cfg.depthOpt = 0
    · simp [matchFilt, hin, hout, hE0, hD]
    · simp [matchFilt, hin, hout, hE0, hD]
  · by_cases hD : cfg.depthOpt = 0
    · simp [matchFilt, hin, hout, hE0, hD]
    · simp [matchFilt, hin, hout, hE0, hD]
      omega

theorem fndFilt_keeps (cfg : Cfg) (m : Option Bool) (fl : Filt) :
    (fndFilt cfg m fl).maxDepth = fl.maxDepth ∧ (fndFilt cfg m fl).time = fl.time ∧
    (fndFilt cfg m fl).size = fl.size := by
  unfold fndFilt
  split <;> simp

/-- what the entry hooks do, against `visit`, for a function whose table entry is at most a -F / -N filter and a
    trace_off trigger that is not reached -/
theorem entry_fnd (cfg : Cfg) (hfast : cfg.fast = false) (hfixd : cfg.f4fixed = true) (hloc : cfg.locIn = false)
    (k : Kind) (s : St) (E : Env) (d f t0 : Nat)
    (htr : cfg.trig f = { filter := (cfg.trig f).filter, traceOff := (cfg.trig f).traceOff }) (hnf : ¬ firesR cfg s f)
    (hr : RRel cfg s E d) (hlen : s.frames.length < cfg.maxStack) :
    (entry cfg k s f t0).1.out = s.out ∧
    RRel cfg (entry cfg k s f t0).1 (visit (RCfg.ofRecord cfg) E f).2
      (if (visit (RCfg.ofRecord cfg) E f).1 then d + 1 else d) ∧
    Pushed s (entry cfg k s f t0) (visit (RCfg.ofRecord cfg) E f).1 f t0 d := by
  have hidx : ¬ (s.idx ≥ cfg.maxStack) := by simp [St.idx, hr.over]; omega
  obtain ⟨r1, r2, r3, r4, r5, r6, r7, r8, r9⟩ := hr
  by_cases h1 : E.outC > 0
  · -- inside an opt-out region no trigger is looked at
    have hc : entryFilterCheck cfg s f = (.out, { s with warned := false, filt := saveFilt s.filt }, {}) := by
      have h1' : s.filt.outCount > 0 := by omega
      simp [entryFilterCheck, checkRstack, hidx, hfast, h1']
    rw [show visit (RCfg.ofRecord cfg) E f = (false, E) by simp [visit, h1]]
    exact entry_of_check cfg hfast hfixd k s f t0 d _ _ _ E false hc (by decide) rfl rfl r8 r9 r7 r1 r2
      (fun h0 => by omega) r4 r5 r6 rfl
  · have hout0 : s.filt.outCount = 0 := by omega
    obtain ⟨a1, a2, a3, a4⟩ := check_visit cfg hloc E f (saveFilt s.filt) _ _ htr r1 (by omega) hout0 (r3 (by omega))
    obtain ⟨b1, b2, b3⟩ := fndFilt_keeps cfg (cfg.trig f).filter (saveFilt s.filt)
    exact entry_of_check cfg hfast hfixd k s f t0 d _ _ _ _ _ (check_fnd cfg hfast hloc s f _ _ htr hnf hidx r4 hout0)
      (by split <;> decide) (by rw [htr]) (by rw [htr]) r8 r9 r7 a1 a2 a3 (b1.trans r4) (b2.trans r5) (b3.trans r6) a4

/-- what the exit hook writes, tracing on, no time= / trace / caller trigger in play -/
theorem exit_fnd (cfg : Cfg) (hfast : cfg.fast = false) (hcal : cfg.callerMode = false) (s2 : St) (F : Frame)
    (rest : List Frame) (t1 : Nat)
    (hfr : s2.frames = F :: rest) (hov : s2.over = 0) (hen : s2.enabled = true) (htime : s2.filt.time = noTime)
    (hdis : F.disabled = false) (htr : F.trace = false) (ht1 : t1 ≠ 0) :
    (exit cfg s2 t1).out =
      (if F.norecord || !(durOk cfg (t1 - F.start) cfg.threshold || F.written) then s2.out
       else s2.out ++ (if F.written then [] else pend rest ++ [entryRec F]) ++
              [{ time := t1, type := 1, depth := F.depth, addr := F.addr }]) ∧
    (exit cfg s2 t1).frames =
      (if !F.norecord && (durOk cfg (t1 - F.start) cfg.threshold || F.written) && !F.written then mark rest
       else rest) := by
  have hrec : exitRecords cfg s2 { F with endT := t1 } =
      (!F.norecord && (durOk cfg (t1 - F.start) cfg.threshold || F.written)) := by
    simp [exitRecords, hen, htime, hcal, htr]
  rw [exit_cons cfg hfast s2 hov F rest hfr, hrec]
  dsimp only
  cases hn : F.norecord
  · rw [recordTrace_exit _ rest ht1 (by simp [Frame.skip, hdis])]
    cases hw : F.written <;> cases hd : durOk cfg (t1 - F.start) cfg.threshold <;>
      simp [pend, mark, exitRec, entryRec]
  · simp

/-! ### the recorded stream of a forest -/

/-- the record-time duration test is the specification's, strict before the repair of S4 -/
theorem keepDur_durOk (cfg : Cfg) (dur thr : Nat) : keepDur (!cfg.s4fixed) dur thr = durOk cfg dur thr := by
  unfold keepDur durOk
  cases cfg.s4fixed <;> simp

theorem durOk_mono (cfg : Cfg) (m n thr : Nat) (hmn : m ≤ n) (h : durOk cfg n thr = false) : durOk cfg m thr = false := by
  cases hs : cfg.s4fixed
  · simp only [durOk, hs, Bool.false_eq_true, ↓reduceIte, decide_eq_false_iff_not] at h ⊢; omega
  · simp only [durOk, hs, ↓reduceIte, decide_eq_false_iff_not] at h ⊢; omega

def Call.dur : Call → Nat
  | .node _ t0 t1 _ => t1 - t0

mutual
  /-- clock readings are ordered, the exit time is not the "not yet returned" sentinel 0, and no call
      runs longer than its caller -/
  def Call.nestOK : Call → Prop
    | .node _ t0 t1 kids => t0 ≤ t1 ∧ t1 ≠ 0 ∧ Calls.allDurLe (t1 - t0) kids
  def Calls.allDurLe (n : Nat) : Calls → Prop
    | .nil => True
    | .cons x rest => Call.dur x ≤ n ∧ Call.nestOK x ∧ Calls.allDurLe n rest
end

theorem allDurLe_mono (n m : Nat) (hnm : n ≤ m) : ∀ (xs : Calls), Calls.allDurLe n xs → Calls.allDurLe m xs
  | .nil, _ => trivial
  | .cons x rest, h => by
    simp only [Calls.allDurLe] at h ⊢
    exact ⟨by omega, h.2.1, allDurLe_mono n m hnm rest h.2.2⟩

theorem pruneCall_fnd (cfg : Cfg) (h : FND cfg) (thr f t0 t1 : Nat) (kids : Calls) :
    pruneCall (RCfg.ofRecord cfg) (!cfg.s4fixed) thr (.node f t0 t1 kids) =
      (if durOk cfg (t1 - t0) thr || !Calls.isNil (pruneCalls (RCfg.ofRecord cfg) (!cfg.s4fixed) thr kids)
       then some (.node f t0 t1 (pruneCalls (RCfg.ofRecord cfg) (!cfg.s4fixed) thr kids)) else none) := by
  have htr : cfg.trig f = { filter := (cfg.trig f).filter } := h.trig f
  unfold pruneCall RCfg.ofRecord
  dsimp only
  rw [htr]
  simp [keepDur_durOk, h.caller]

mutual
theorem prune_short_call (cfg : Cfg) (h : FND cfg) (thr : Nat) : ∀ (x : Call), durOk cfg (Call.dur x) thr = false → Call.nestOK x →
    pruneCall (RCfg.ofRecord cfg) (!cfg.s4fixed) thr x = none
  | .node f t0 t1 kids, hd, hn => by
    simp only [Call.dur] at hd
    simp only [Call.nestOK] at hn
    have hk := prune_short_calls cfg h thr kids (t1 - t0) hd hn.2.2
    rw [pruneCall_fnd cfg h, hk]
    simp [hd, Calls.isNil]
theorem prune_short_calls (cfg : Cfg) (h : FND cfg) (thr : Nat) : ∀ (xs : Calls) (n : Nat),
    durOk cfg n thr = false → Calls.allDurLe n xs → pruneCalls (RCfg.ofRecord cfg) (!cfg.s4fixed) thr xs = .nil
  | .nil, _, _, _ => rfl
  | .cons x rest, n, hs, hn => by
    simp only [Calls.allDurLe] at hn
    simp only [pruneCalls, prune_short_call cfg h thr x (durOk_mono cfg _ _ thr hn.1 hs) hn.2.1,
      prune_short_calls cfg h thr rest n hs hn.2.2]
end

theorem rrel_init (cfg : Cfg) (hm : cfg.minSize = 0) (hen : cfg.enabled0 = true) :
    RRel cfg (St.init cfg) (Env.init (RCfg.ofRecord cfg)) 0 := by
  constructor <;> simp [St.init, Env.init, RCfg.ofRecord, hm, hen]

theorem rrel_of_core (cfg : Cfg) (s s' : St) (E : Env) (d : Nat) (hc : core s' = core s) (hen : s'.enabled = true)
    (hr : RRel cfg s E d) : RRel cfg s' E d := by
  have hf : eraseSv s'.filt = eraseSv s.filt := congrArg Core.filt hc
  exact ⟨(congrArg Filt.inCount hf).trans hr.inC, (congrArg Filt.outCount hf).trans hr.outC,
    fun h0 => (congrArg Filt.depth hf).symm ▸ hr.bud h0, (congrArg Filt.maxDepth hf).trans hr.maxD,
    (congrArg Filt.time hf).trans hr.time, (congrArg Filt.size hf).trans hr.size,
    (congrArg Core.recordIdx hc).trans hr.ridx, hen, (congrArg Core.over hc).trans hr.over⟩

/-- a stretch of calls from `s` to `s'` that leaves tracing on wrote `recs`, and in front of them the ENTRY records
    owed for the frames open in `s` if it wrote anything -/
def OnPost (cfg : Cfg) (s s' : St) (E : Env) (d : Nat) (recs : List Rec) : Prop :=
  s'.out = s.out ++ (if recs = [] then [] else pend s.frames) ++ recs ∧
  s'.frames = (if recs = [] then s.frames else mark s.frames) ∧ RRel cfg s' E d

/-- one call that leaves tracing on, from what its entry hook did (`Pushed`) and what its callees wrote -/
theorem node_on (cfg : Cfg) (hfast : cfg.fast = false) (hcal : cfg.callerMode = false) (hfixd : cfg.f4fixed = true)
    (hfin : ∀ g, (cfg.trig g).finish = false) (k : Kind) (f t0 t1 : Nat)
    (kids : Calls) (s : St) (E Ek : Env) (d : Nat) (vis : Bool) (recsK : List Rec) (hr : RRel cfg s E d) (ht1 : t1 ≠ 0)
    (eo : (entry cfg k s f t0).1.out = s.out) (hp : Pushed s (entry cfg k s f t0) vis f t0 d)
    (hk : OnPost cfg (entry cfg k s f t0).1 (runCalls cfg k (entry cfg k s f t0).1 kids) Ek (if vis then d + 1 else d)
      recsK)
    (hshort : durOk cfg (t1 - t0) cfg.threshold = false → recsK = []) :
    OnPost cfg s (runCall cfg k s (.node f t0 t1 kids)) E d
      (if vis then
         (if durOk cfg (t1 - t0) cfg.threshold then
            [{ time := t0, type := 0, depth := d, addr := f }] ++ recsK ++ [{ time := t1, type := 1, depth := d, addr := f }]
          else [])
       else recsK) := by
  obtain ⟨ko, kf, krel⟩ := hk
  -- the filter state is restored (C05), so the relation to `E` holds again
  have hcore : core (runCall cfg k s (.node f t0 t1 kids)) = core s := by
    cases k with
    | pg => exact Uft.C05.restored_call_pg cfg hfast hfixd hfin _ s (Or.inl hr.over)
    | cyg => exact Uft.C05.restored_call cfg hfast hfin _ s (Or.inl hr.over)
  have hrel : (runCall cfg k s (.node f t0 t1 kids)).enabled = true →
      RRel cfg (runCall cfg k s (.node f t0 t1 kids)) E d := fun hen => rrel_of_core cfg s _ E d hcore hen hr
  unfold Pushed at hp
  simp only [runCall] at hrel ⊢
  generalize (entry cfg k s f t0).1 = s1 at eo hp ko kf krel hrel ⊢
  generalize (entry cfg k s f t0).2 = took at hp hrel ⊢
  generalize runCalls cfg k s1 kids = s2 at ko kf krel hrel ⊢
  rcases hp with ⟨htk, F, hfr, hnr, hw, hdis, htrc, haddr, hdep, hstart⟩ | ⟨htk, hfr, hvis⟩
  · -- a frame was pushed
    subst htk
    simp only [↓reduceIte] at hrel ⊢
    have hrel := hrel (by rw [exit_enabled]; exact krel.en)
    have hexit := fun (F' : Frame) (rest : List Frame) (hfr' : s2.frames = F' :: rest) (hd' : F'.disabled = false)
        (ht' : F'.trace = false) =>
      exit_fnd cfg hfast hcal s2 F' rest t1 hfr' krel.over krel.en krel.time hd' ht' ht1
    cases vis with
    | false =>
      -- not shown: a NORECORD frame, transparent for the lazy writer
      simp only [Bool.not_false] at hnr
      obtain ⟨p1, p2⟩ := pend_cons_skip F s.frames hw hnr
      simp only [Bool.false_eq_true, ↓reduceIte] at ko kf ⊢
      have hx := hexit F (if recsK = [] then s.frames else mark s.frames) (by rw [kf, hfr, p2]; split <;> rfl) hdis htrc
      simp only [hnr, Bool.true_or, ↓reduceIte, Bool.not_true, Bool.false_and, Bool.false_eq_true] at hx
      exact ⟨by rw [hx.1, ko, eo, hfr, p1], hx.2, hrel⟩
    | true =>
      -- shown: the frame's ENTRY is owed until something below it, or the call itself, is written
      simp only [Bool.not_true] at hnr
      obtain ⟨p1, p2⟩ := pend_cons_vis F s.frames hw hnr hdis
      have hst : F.start = t0 := hstart rfl
      have hER : entryRec F = { time := t0, type := 0, depth := d, addr := f } := by
        simp [entryRec, hst, hdep, haddr]
      simp only [↓reduceIte] at ko kf ⊢
      by_cases hek : recsK = []
      · subst hek
        simp only [↓reduceIte, List.append_nil] at ko kf ⊢
        have hx := hexit F s.frames (by rw [kf, hfr]) hdis htrc
        simp only [hnr, hw, Bool.false_or, Bool.or_false, Bool.not_false, Bool.true_and, Bool.and_true,
          Bool.false_eq_true, ↓reduceIte, hst] at hx
        cases hdur : durOk cfg (t1 - t0) cfg.threshold with
        | true =>
          simp only [hdur, Bool.not_true, Bool.false_eq_true, ↓reduceIte] at hx ⊢
          refine ⟨?_, ?_, hrel⟩
          · rw [hx.1, ko, eo, hER, hdep, haddr]; simp [List.append_assoc]
          · rw [hx.2]; simp
        | false =>
          simp only [hdur, Bool.not_false, ↓reduceIte, Bool.false_eq_true] at hx ⊢
          exact ⟨by rw [hx.1, ko, eo]; simp, hx.2, hrel⟩
      · have hdur : durOk cfg (t1 - t0) cfg.threshold = true := by
          cases hd : durOk cfg (t1 - t0) cfg.threshold with
          | true => rfl
          | false => exact absurd (hshort hd) hek
        simp only [hek, hdur, ↓reduceIte] at ko kf ⊢
        have hx := hexit { F with written := true } (mark s.frames) (by rw [kf, hfr, p2]) hdis htrc
        simp only [hnr, Bool.or_true, Bool.not_true, Bool.or_false, Bool.false_eq_true, ↓reduceIte,
          Bool.and_false] at hx
        refine ⟨?_, ?_, hrel⟩
        · rw [hx.1, ko, eo, hfr, p1, hER, hdep, haddr]; simp [List.append_assoc]
        · rw [hx.2]; simp
  · -- -pg hook that did not take the call: no frame, nothing to undo
    subst htk
    subst hvis
    simp only [Bool.false_eq_true, ↓reduceIte] at ko kf hrel ⊢
    exact ⟨by rw [ko, eo, hfr], by rw [kf, hfr], hrel krel.en⟩

def evsOf (R : RCfg) (E : Env) (d : Nat) : Option Call → List Rec
  | some x' => specCall R E d x'
  | none => []

theorem specCalls_nil (R : RCfg) (E : Env) (d : Nat) : specCalls R E d .nil = [] := rfl

theorem specCalls_pruneCalls_cons (R : RCfg) (st : Bool) (thr : Nat) (E : Env) (d : Nat) (x : Call) (rest : Calls) :
    specCalls R E d (pruneCalls R st thr (.cons x rest)) =
      evsOf R E d (pruneCall R st thr x) ++ specCalls R E d (pruneCalls R st thr rest) := by
  simp only [pruneCalls]
  cases pruneCall R st thr x with
  | none => simp [evsOf]
  | some x' => simp [evsOf, specCalls]

/-- two stretches of calls that leave tracing on, one after the other -/
theorem OnPost.append {cfg : Cfg} {s s' s'' : St} {E : Env} {d : Nat} {ex er : List Rec}
    (hx : OnPost cfg s s' E d ex) (hr : OnPost cfg s' s'' E d er) : OnPost cfg s s'' E d (ex ++ er) := by
  obtain ⟨xo, xf, _⟩ := hx
  obtain ⟨ro, rf, rr⟩ := hr
  refine ⟨?_, ?_, rr⟩
  · rw [ro, xo, xf]
    by_cases hx : ex = []
    · subst hx; simp
    · by_cases hre : er = []
      · subst hre; simp [hx]
      · simp [hx, hre, pend_mark, List.append_assoc]
  · rw [rf, xf]
    by_cases hx : ex = []
    · subst hx; simp
    · by_cases hre : er = []
      · subst hre; simp [hx]
      · simp [hx, hre, mark_mark]

theorem OnPost.length {cfg : Cfg} {s s' : St} {E : Env} {d : Nat} {recs : List Rec} (h : OnPost cfg s s' E d recs) :
    s'.frames.length = s.frames.length := by
  rw [h.2.1]
  split
  · rfl
  · exact mark_length s.frames

mutual
theorem rec_call (cfg : Cfg) (h : FND cfg) (k : Kind) : ∀ (x : Call) (s : St) (E : Env) (d : Nat),
    RRel cfg s E d → s.frames.length + x.height ≤ cfg.maxStack → Call.nestOK x →
    (runCall cfg k s x).out = s.out ++
        (if evsOf (RCfg.ofRecord cfg) E d (pruneCall (RCfg.ofRecord cfg) (!cfg.s4fixed) cfg.threshold x) = [] then []
         else pend s.frames) ++
        evsOf (RCfg.ofRecord cfg) E d (pruneCall (RCfg.ofRecord cfg) (!cfg.s4fixed) cfg.threshold x) ∧
    (runCall cfg k s x).frames =
        (if evsOf (RCfg.ofRecord cfg) E d (pruneCall (RCfg.ofRecord cfg) (!cfg.s4fixed) cfg.threshold x) = [] then s.frames
         else mark s.frames) ∧
    RRel cfg (runCall cfg k s x) E d
  | .node f t0 t1 kids, s, E, d, hr, hh, hn => by
    simp only [Call.height] at hh
    simp only [Call.nestOK] at hn
    obtain ⟨eo, erel, hp⟩ := entry_fnd cfg h.fast h.fixd h.locIn k s E d f t0 (by rw [h.trig f])
      (fun hf => by have := hf.1; rw [h.trig f] at this; cases this) hr (by omega)
    have hl := hp.length
    have hk := rec_calls cfg h k kids _ _ _ (t1 - t0) erel (by omega) hn.2.2
    have hshort := fun hd => prune_short_calls cfg h cfg.threshold kids (t1 - t0) hd hn.2.2
    have hnode := node_on cfg h.fast h.caller h.fixd (fun g => by rw [h.trig g]) k f t0 t1 kids s E _ d _ _ hr
      hn.2.1 eo hp hk
      (fun hd => by rw [hshort hd]; rfl)
    -- what `node_on` speaks of is `evsOf … (pruneCall …)`: the call is kept by the time filter iff it ran long enough,
    -- a shorter one has nothing kept below it
    refine Eq.subst (motive := fun recs => OnPost cfg s (runCall cfg k s (.node f t0 t1 kids)) E d recs) ?_ hnode
    rw [pruneCall_fnd cfg h]
    cases hd : durOk cfg (t1 - t0) cfg.threshold with
    | true =>
      simp only [Bool.true_or, ↓reduceIte, evsOf, specCall]
      cases (visit (RCfg.ofRecord cfg) E f).1 <;> rfl
    | false =>
      rw [hshort hd]
      simp only [Calls.isNil, Bool.not_true, Bool.or_self, Bool.false_eq_true, ↓reduceIte, evsOf, specCalls_nil]
      cases (visit (RCfg.ofRecord cfg) E f).1 <;> rfl
theorem rec_calls (cfg : Cfg) (h : FND cfg) (k : Kind) : ∀ (xs : Calls) (s : St) (E : Env) (d n : Nat),
    RRel cfg s E d → s.frames.length + xs.height ≤ cfg.maxStack → Calls.allDurLe n xs →
    OnPost cfg s (runCalls cfg k s xs) E d
      (specCalls (RCfg.ofRecord cfg) E d (pruneCalls (RCfg.ofRecord cfg) (!cfg.s4fixed) cfg.threshold xs))
  | .nil, s, E, d, n, hr, _, _ => by
    simp [OnPost, runCalls, pruneCalls, specCalls, hr]
  | .cons x rest, s, E, d, n, hr, hh, hn => by
    simp only [Calls.height] at hh
    simp only [Calls.allDurLe] at hn
    have hx : OnPost cfg s (runCall cfg k s x) E d _ := rec_call cfg h k x s E d hr (by omega) hn.2.1
    have hrest := rec_calls cfg h k rest (runCall cfg k s x) E d n hx.2.2 (by rw [hx.length]; omega) hn.2.2
    simp only [runCalls]
    rw [specCalls_pruneCalls_cons]
    exact hx.append hrest
end

/-- C07, record side: what the hooks write for a forest under -F / -N / -D / -t is the
    documented selection (with the record-time comparison `>` for -t) -/
theorem record_out (cfg : Cfg) (h : FND cfg) (k : Kind) (cs : Calls) (n : Nat)
    (hh : cs.height ≤ cfg.maxStack) (hn : Calls.allDurLe n cs) :
    (runCalls cfg k (St.init cfg) cs).out = spec (RCfg.ofRecord cfg) (!cfg.s4fixed) cs := by
  obtain ⟨o, _, _⟩ := rec_calls cfg h k cs (St.init cfg) (Env.init (RCfg.ofRecord cfg)) 0 n
    (rrel_init cfg h.minSize h.en)
    (by simp [St.init]; exact hh) hn
  rw [o]
  simp [St.init, pend, flushBelow, spec, RCfg.ofRecord]

/-! ### the lazy writer's invariant

`pend fs` is what record_trace_data owes for the stack `fs` (innermost first): the ENTRY records of the
unwritten recordable frames, outermost first, down to the first written frame.  `WDown` is the lazy
writer's invariant (below a written frame every recordable frame is written; holds in every reachable
state, `inv_runCalls`), under which `pend` is all unwritten recordable frames (`owed`).  Finding
F-C07-TRACEOFF-FLUSH (FstackOff, C07) is stated in these terms. -/
namespace Flush
open Uft.Mcount

/-- every recordable (not NORECORD, not DISABLED) frame has its ENTRY record written -/
def AllWritten (fs : List Frame) : Prop := ∀ F ∈ fs, F.skip = false → F.written = true

/-- below a written frame every recordable frame is written -/
def WDown : List Frame → Prop
  | [] => True
  | F :: r => (F.written = true → AllWritten r) ∧ WDown r

/-- the ENTRY records of all unwritten recordable frames, outermost first -/
def owed : List Frame → List Rec
  | [] => []
  | F :: r => owed r ++ (if !F.written && !F.skip then [entryRec F] else [])

/-- the calls still open: `end_time` is 0 until the exit hook sets it -/
def Open (fs : List Frame) : Prop := ∀ F ∈ fs, F.endT = 0

theorem owed_allWritten : ∀ (fs : List Frame), AllWritten fs → owed fs = []
  | [], _ => rfl
  | F :: r, h => by
    have hr : AllWritten r := fun G hG => h G (by simp [hG])
    simp only [owed, owed_allWritten r hr, List.nil_append]
    cases hs : F.skip with
    | true => simp
    | false => simp [h F (by simp) hs]

theorem flushBelow_wdown : ∀ (fs : List Frame), WDown fs →
    WDown (flushBelow fs).1 ∧ AllWritten (flushBelow fs).1 ∧ (flushBelow fs).2 = owed fs
  | [], _ => ⟨trivial, fun _ h => by simp [flushBelow] at h, rfl⟩
  | F :: r, h => by
    obtain ⟨ih1, ih2, ih3⟩ := flushBelow_wdown r h.2
    simp only [flushBelow]
    by_cases hw : F.written = true
    · simp only [hw, ↓reduceIte]
      refine ⟨h, ?_, ?_⟩
      · intro G hG hs
        simp only [List.mem_cons] at hG
        rcases hG with rfl | hG
        · exact hw
        · exact h.1 hw G hG hs
      · simp [owed, hw, owed_allWritten r (h.1 hw)]
    · have hw' : F.written = false := by simpa using hw
      simp only [hw', Bool.false_eq_true, ↓reduceIte]
      by_cases hs : F.skip = true
      · simp only [hs, ↓reduceIte]
        refine ⟨⟨fun hx => by simp [hw'] at hx, ih1⟩, ?_, ?_⟩
        · intro G hG hsG
          simp only [List.mem_cons] at hG
          rcases hG with rfl | hG
          · simp [hs] at hsG
          · exact ih2 G hG hsG
        · simp [owed, hw', hs, ih3]
      · have hs' : F.skip = false := by simpa using hs
        simp only [hs', Bool.false_eq_true, ↓reduceIte]
        refine ⟨⟨fun _ => ih2, ih1⟩, ?_, ?_⟩
        · intro G hG hsG
          simp only [List.mem_cons] at hG
          rcases hG with rfl | hG
          · rfl
          · exact ih2 G hG hsG
        · simp [owed, hw', hs', ih3]

/-- under the invariant, what record_trace_data owes is every unwritten recordable frame -/
theorem pend_eq_owed (fs : List Frame) (h : WDown fs) : pend fs = owed fs := (flushBelow_wdown fs h).2.2

theorem mark_allWritten (fs : List Frame) (h : WDown fs) : AllWritten (mark fs) := (flushBelow_wdown fs h).2.1

theorem mark_wdown (fs : List Frame) (h : WDown fs) : WDown (mark fs) := (flushBelow_wdown fs h).1

theorem mark_addr (fs : List Frame) : (mark fs).map Frame.addr = fs.map Frame.addr :=
  map_of_eraseW Frame.addr (fun _ => rfl) (flushBelow_eraseW fs)

theorem wdown_of_allWritten : ∀ (fs : List Frame), AllWritten fs → WDown fs
  | [], _ => trivial
  | F :: r, h => ⟨fun _ G hG => h G (by simp [hG]), wdown_of_allWritten r (fun G hG => h G (by simp [hG]))⟩

theorem recordTrace_endT (fs : List Frame) : (recordTrace fs).1.map (·.endT) = fs.map (·.endT) :=
  map_of_eraseW (·.endT) (fun _ => rfl) (recordTrace_eraseW fs)

theorem wdown_tail : ∀ (fs : List Frame), WDown fs → WDown fs.tail
  | [], h => h
  | _ :: _, h => h.2

theorem recordTrace_wdown (fs : List Frame) (h : WDown fs) : WDown (recordTrace fs).1 := by
  cases fs with
  | nil => exact h
  | cons top rest =>
    obtain ⟨f1, f2, _⟩ := flushBelow_wdown rest h.2
    simp only [recordTrace]
    by_cases hw : top.written = true
    · simp only [hw, ↓reduceIte, Bool.not_true, Bool.false_and, Bool.false_eq_true]
      split
      · exact ⟨fun _ => h.1 hw, h.2⟩
      · exact ⟨fun _ => h.1 hw, h.2⟩
    · simp only [hw, Bool.false_eq_true, ↓reduceIte]
      split <;> split <;> exact ⟨fun _ => f2, f1⟩

/-! the hooks keep the invariant and the open calls -/

/-- the invariant of the shadow stack between hooks -/
def FInv (fs : List Frame) : Prop := WDown fs ∧ Open fs

def Inv (s : St) : Prop := FInv s.frames

theorem finv_recordTrace (fs : List Frame) (h : FInv fs) : FInv (recordTrace fs).1 :=
  ⟨recordTrace_wdown _ h.1, forall_of_map (·.endT) (· = 0) (recordTrace_endT _) h.2⟩

theorem finv_push (F : Frame) (fs : List Frame) (h : FInv fs) (hw : F.written = false) (he : F.endT = 0) :
    FInv (F :: fs) :=
  ⟨⟨fun hx => by simp [hw] at hx, h.1⟩, fun G hG => by
    simp only [List.mem_cons] at hG
    rcases hG with rfl | hG
    · exact he
    · exact h.2 G hG⟩

theorem finv_tail : ∀ (fs : List Frame), FInv fs → FInv fs.tail
  | [], h => h
  | F :: r, h => ⟨h.1.2, fun G hG => h.2 G (by simp only [List.tail_cons] at hG; simp [hG])⟩

theorem inv_entry (cfg : Cfg) (k : Kind) (s : St) (f t0 : Nat) (h : Inv s) : Inv (entry cfg k s f t0).1 := by
  have hc : FInv (entryFilterCheck cfg s f).2.1.frames := by
    rcases (entryFilterCheck_keeps cfg s f).2 with e | e
    · rw [e]
      exact h
    · rw [e]
      exact finv_recordTrace _ h
  unfold Inv
  rcases entry_frames cfg k s f t0 with ⟨e, _⟩ | ⟨_, G, e | e, hw, he⟩
  · rw [e]
    exact hc
  · rw [e]
    exact finv_push G _ hc hw he
  · rw [e]
    exact finv_recordTrace _ (finv_push G _ hc hw he)

/-- the frame being popped may carry its exit time: only the frames below it stay -/
theorem inv_exit (cfg : Cfg) (s : St) (t : Nat) (h : Inv s) : Inv (exit cfg s t) := by
  unfold exit
  split
  · exact h
  · cases hfr : s.frames with
    | nil => simpa [Inv, hfr] using h
    | cons F rest =>
      have hF : FInv (F :: rest) := by simpa [Inv, hfr] using h
      have hrest : FInv rest := finv_tail _ hF
      have key : ∀ (G : Frame), G.written = F.written →
          FInv (exitFilterRecord cfg { s with frames := G :: rest }).frames.tail := by
        intro G hw
        have hwd : WDown (G :: rest) := ⟨fun hx => hF.1.1 (hw ▸ hx), hF.1.2⟩
        have hR : FInv (recordTrace (G :: rest)).1.tail := by
          refine ⟨wdown_tail _ (recordTrace_wdown _ hwd), ?_⟩
          have hm := recordTrace_endT (G :: rest)
          cases hr : (recordTrace (G :: rest)).1 with
          | nil => intro X hX; simp at hX
          | cons a b =>
            rw [hr] at hm
            simp only [List.map_cons, List.cons.injEq] at hm
            exact forall_of_map (·.endT) (· = 0) hm.2 hrest.2
        rcases (exitFilterRecord_keeps cfg { s with frames := G :: rest }).2.2 with he | he
        · rw [he]; exact hrest
        · rw [he]; exact hR
      simp only
      split
      · exact key F rfl
      · exact key _ rfl

mutual
theorem inv_runCall (cfg : Cfg) (k : Kind) : ∀ (x : Call) (s : St), Inv s → Inv (runCall cfg k s x)
  | .node f t0 t1 kids, s, h => by
    simp only [runCall]
    have h1 := inv_runCalls cfg k kids _ (inv_entry cfg k s f t0 h)
    split
    · exact inv_exit cfg _ t1 h1
    · exact h1
theorem inv_runCalls (cfg : Cfg) (k : Kind) : ∀ (xs : Calls) (s : St), Inv s → Inv (runCalls cfg k s xs)
  | .nil, s, h => h
  | .cons x rest, s, h => by
    simp only [runCalls]
    exact inv_runCalls cfg k rest _ (inv_runCall cfg k x s h)
end

theorem inv_init (cfg : Cfg) : Inv (St.init cfg) := ⟨trivial, fun _ h => by simp [St.init] at h⟩

end Flush

end Uft.Fstack

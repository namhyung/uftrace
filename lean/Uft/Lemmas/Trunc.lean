import Uft.Model.Trunc
/-
C12 — helper lemmas for the trace-data reader model (Uft/Model/Trunc.lean).
-/
namespace Uft.Trunc

/-! ### little endian, cut lists, fread -/

@[simp] theorem leBytes_length (n v : Nat) : (leBytes n v).length = n := by
  induction n generalizing v with
  | zero => rfl
  | succ n ih => simp [leBytes, ih]

theorem leVal_leBytes (n v : Nat) (h : v < 256 ^ n) : leVal (leBytes n v) = v := by
  induction n generalizing v with
  | zero => simp at h; simp [leBytes, leVal, h]
  | succ n ih =>
    have h2 : v / 256 < 256 ^ n := by
      rw [Nat.pow_succ] at h
      exact Nat.div_lt_of_lt_mul (by rw [Nat.mul_comm]; exact h)
    have hb : (UInt8.ofNat (v % 256)).toNat = v % 256 := by
      simp [UInt8.toNat_ofNat']
    simp only [leBytes, leVal, ih _ h2, hb]
    omega

@[simp] theorem zeros_length (n : Nat) : (zeros n).length = n := by simp [zeros]

theorem fread_some {n : Nat} {s a b : Bytes} (h : fread n s = some (a, b)) :
    s = a ++ b ∧ a.length = n := by
  unfold fread at h
  split at h
  · simp only [Option.some.injEq, Prod.mk.injEq] at h
    obtain ⟨rfl, rfl⟩ := h
    constructor
    · simp
    · simp; omega
  · simp at h

theorem fread_app {n : Nat} {a : Bytes} (b : Bytes) (h : a.length = n) :
    fread n (a ++ b) = some (a, b) := by
  unfold fread
  subst h
  simp

theorem fread_none {n : Nat} {s : Bytes} (h : s.length < n) : fread n s = none := by
  unfold fread
  have : ¬ n ≤ s.length := by omega
  simp [this]

theorem take_app_ge {a b : Bytes} {j : Nat} (h : a.length ≤ j) :
    (a ++ b).take j = a ++ b.take (j - a.length) := by
  rw [List.take_append]
  simp [List.take_of_length_le h]

theorem fread_take_none {n j : Nat} (s : Bytes) (h : j < n) : fread n (s.take j) = none :=
  fread_none (Nat.lt_of_le_of_lt (List.length_take_le j s) h)

theorem fread_zero (s : Bytes) : fread 0 s = some ([], s) := by simp [fread]

/-! ### read_task_arg / read_task_args: the pieces of a payload -/

theorem readArg_spec {sp : Spec} {d s d1 s1 : Bytes} (h : readArg sp d s = (d1, s1, true)) :
    ∃ a, s = a ++ s1 ∧ d1 = d ++ a ∧ (∀ t, readArg sp d (a ++ t) = (d1, t, true)) ∧
      ∀ j, j < a.length → (readArg sp d (a.take j)).2 = ([], false) := by
  unfold readArg at h ⊢
  by_cases h0 : sp.size = 0
  · simp only [if_pos h0, Prod.mk.injEq, and_true] at h ⊢
    obtain ⟨rfl, rfl⟩ := h
    exact ⟨[], rfl, (List.append_nil d).symm, fun t => ⟨rfl, rfl⟩, nofun⟩
  · simp only [if_neg h0] at h ⊢
    by_cases hs : sp.fmt = .str
    · simp only [if_pos hs] at h ⊢
      split at h
      · cases h
      · rename_i l r hf
        obtain ⟨rfl, hl⟩ := fread_some hf
        by_cases hz : pad4 (d.length + 2) (leVal l) = 0
        · simp only [if_pos hz, Prod.mk.injEq, and_true] at h
          obtain ⟨rfl, rfl⟩ := h
          refine ⟨l, rfl, rfl, fun t => ?_, fun j hj => ?_⟩
          · simp only [fread_app t hl, if_pos hz]
          · rw [fread_take_none _ (by omega)]
        · simp only [if_neg hz] at h
          split at h
          · cases h
          · rename_i x r2 hf2
            obtain ⟨rfl, hx⟩ := fread_some hf2
            simp only [Prod.mk.injEq, and_true] at h
            obtain ⟨rfl, rfl⟩ := h
            refine ⟨l ++ x, (List.append_assoc ..).symm, List.append_assoc .., fun t => ?_, fun j hj => ?_⟩
            · simp only [List.append_assoc, fread_app _ hl, if_neg hz, fread_app t hx]
            · rw [List.length_append] at hj
              by_cases hj2 : j < 2
              · rw [fread_take_none _ (by omega)]
              · rw [take_app_ge (by omega), fread_app _ hl]
                simp only [if_neg hz]
                rw [fread_take_none _ (by omega)]
    · simp only [if_neg hs] at h ⊢
      split at h
      · cases h
      · rename_i x r2 hf
        obtain ⟨rfl, hx⟩ := fread_some hf
        simp only [Prod.mk.injEq, and_true] at h
        obtain ⟨rfl, rfl⟩ := h
        refine ⟨x, rfl, rfl, fun t => ?_, fun j hj => ?_⟩
        · simp only [fread_app t hx]
        · rw [fread_take_none _ (by omega)]
theorem readSpecs_spec {isRet : Bool} {l : List Spec} {d s d1 s1 : Bytes}
    (h : readSpecs isRet l d s = (d1, s1, true)) :
    ∃ a, s = a ++ s1 ∧ d1 = d ++ a ∧ (∀ t, readSpecs isRet l d (a ++ t) = (d1, t, true)) ∧
      ∀ j, j < a.length → (readSpecs isRet l d (a.take j)).2.2 = false := by
  induction l generalizing d s with
  | nil =>
    simp only [readSpecs, Prod.mk.injEq, and_true] at h ⊢
    obtain ⟨rfl, rfl⟩ := h
    exact ⟨[], rfl, (List.append_nil d).symm, fun t => ⟨rfl, rfl⟩, nofun⟩
  | cons sp r ih =>
    simp only [readSpecs] at h ⊢
    by_cases hw : (isRet != (sp.idx == 0)) = true
    · simp only [if_pos hw] at h ⊢
      exact ih h
    · simp only [if_neg hw] at h ⊢
      split at h
      · rename_i d2 s2 hra
        obtain ⟨a1, rfl, rfl, e1, c1⟩ := readArg_spec hra
        obtain ⟨a2, rfl, rfl, e2, c2⟩ := ih h
        refine ⟨a1 ++ a2, (List.append_assoc ..).symm, List.append_assoc .., fun t => ?_, fun j hj => ?_⟩
        · rw [List.append_assoc, e1]
          exact e2 t
        · by_cases hlt : j < a1.length
          · rw [List.take_append_of_le_length (Nat.le_of_lt hlt)]
            have hc := c1 j hlt
            rcases hq : readArg sp d (a1.take j) with ⟨x, y, z⟩
            rw [hq] at hc
            cases hc
            rfl
          · rw [take_app_ge (by omega), e1]
            exact c2 _ (by rw [List.length_append] at hj; omega)
      · cases h

theorem readSpecs_exact {isRet : Bool} {l : List Spec} {a d1 : Bytes}
    (h : readSpecs isRet l [] a = (d1, [], true)) : d1 = a := by
  obtain ⟨a', h1, h2, -⟩ := readSpecs_spec h
  rw [h2, h1, List.append_nil, List.nil_append]

/-! ### the 16-byte header -/

@[simp] theorem encHdr_length (r : Rec) : (encHdr r).length = 16 := by simp [encHdr]

theorem hdrWord_lt {r : Rec} (h2 : r.typ < 4) (h3 : r.depth < 1024) (h4 : r.addr < 2 ^ 48) :
    hdrWord r < 256 ^ 8 := by
  unfold hdrWord
  have : (256 : Nat) ^ 8 = 18446744073709551616 := by decide
  have : (2 : Nat) ^ 48 = 281474976710656 := by decide
  split <;> omega

theorem encHdr_take (r : Rec) : (encHdr r).take 8 = leBytes 8 r.time := by
  simp [encHdr]

theorem encHdr_drop (r : Rec) : (encHdr r).drop 8 = leBytes 8 (hdrWord r) := by
  simp [encHdr]

theorem digit {a k : Nat} (x : Nat) (h : a < k) : (a + k * x) % k = a ∧ (a + k * x) / k = x := by
  have hk : 0 < k := Nat.lt_of_le_of_lt (Nat.zero_le a) h
  rw [Nat.add_mul_mod_self_left, Nat.mod_eq_of_lt h, Nat.add_mul_div_left _ _ hk, Nat.div_eq_of_lt h,
    Nat.zero_add]
  exact ⟨rfl, rfl⟩

/-- the bit fields of the second header word (2 + 1 + 3 + 10 + 48 bits), read back digit by digit -/
theorem hdrWord_fields {r : Rec} (h2 : r.typ < 4) (h3 : r.depth < 1024) :
    hdrWord r % 4 = r.typ ∧ hdrWord r / 4 % 2 = (if r.more then 1 else 0) ∧ hdrWord r / 8 % 8 = 5 ∧
    hdrWord r / 64 % 1024 = r.depth ∧ hdrWord r / 65536 = r.addr := by
  have hm : (if r.more then 1 else 0) < 2 := by split <;> omega
  have e : hdrWord r =
      r.typ + 4 * ((if r.more then 1 else 0) + 2 * (5 + 8 * (r.depth + 1024 * r.addr))) := by
    unfold hdrWord
    omega
  obtain ⟨a1, b1⟩ := digit ((if r.more then 1 else 0) + 2 * (5 + 8 * (r.depth + 1024 * r.addr))) h2
  obtain ⟨a2, b2⟩ := digit (5 + 8 * (r.depth + 1024 * r.addr)) hm
  obtain ⟨a3, b3⟩ := digit (r.depth + 1024 * r.addr) (by omega : 5 < 8)
  obtain ⟨a4, b4⟩ := digit r.addr h3
  rw [e, show 8 = 4 * 2 from rfl, show 64 = 4 * 2 * 8 from rfl, show 65536 = 4 * 2 * 8 * 1024 from rfl]
  simp only [← Nat.div_div_eq_div_mul, b1, b2, b3]
  exact ⟨a1, a2, a3, a4, b4⟩

theorem hdrMagic_encHdr {r : Rec} (h2 : r.typ < 4) (h3 : r.depth < 1024) (h4 : r.addr < 2 ^ 48) :
    hdrMagic (encHdr r) = 5 := by
  unfold hdrMagic
  rw [encHdr_drop, leVal_leBytes _ _ (hdrWord_lt h2 h3 h4)]
  exact (hdrWord_fields h2 h3).2.2.1

theorem decodeHdr_encHdr {r : Rec} (h1 : r.time < 2 ^ 64) (h2 : r.typ < 4) (h3 : r.depth < 1024)
    (h4 : r.addr < 2 ^ 48) :
    decodeHdr (encHdr r) = { r with payload := [], partl := false } := by
  obtain ⟨f1, f2, -, f4, f5⟩ := hdrWord_fields h2 h3
  unfold decodeHdr
  rw [encHdr_drop, encHdr_take, leVal_leBytes _ _ (hdrWord_lt h2 h3 h4), leVal_leBytes 8 _ h1]
  simp only [f1, f2, f4, f5]
  cases r.more <;> rfl

/-! ### one well-formed record: whole with anything behind it, and cut -/

theorem eventSize_vals {id n : Nat} (h : eventSize id = some n) : n = 24 ∨ n = 16 ∨ n = 4 := by
  unfold eventSize at h
  split at h
  · simp at h; omega
  · split at h
    · simp at h; omega
    · split at h
      · simp at h; omega
      · simp at h

theorem eventSize_watch : eventSize watchVarId = none := by decide

theorem readEvent_wf {id : Nat} {p : Bytes} (hlen : p.length < 65536)
    (hev : eventSize id = some p.length ∨ (id = watchVarId ∧ 8 ≤ p.length ∧ p.length ≤ 16))
    (st : RState) :
    (∀ u, readEvent true id st (leBytes 2 p.length ++ (p ++ u)) =
      .ok .event p (u.drop (pad8 (p.length + 2)))) ∧
    ∀ j, j < 2 + p.length →
      readEvent true id st ((leBytes 2 p.length ++ p).take j) = .eofFail st.args st.data := by
  have hle : leVal (leBytes 2 p.length) = p.length := leVal_leBytes _ _ hlen
  have hl2 := leBytes_length 2 p.length
  unfold readEvent
  rcases hev with hev | ⟨rfl, h8, h16⟩
  · simp only [hev]
    refine ⟨fun u => ?_, fun j hj => ?_⟩
    · simp only [fread_app _ hl2, hle, ne_eq, not_true_eq_false, ↓reduceIte, fread_app u rfl]
    · by_cases h2 : j < 2
      · rw [fread_take_none _ (by omega)]
      · rw [take_app_ge (by omega), fread_app _ hl2]
        simp only [hle, ne_eq, not_true_eq_false, ↓reduceIte]
        rw [fread_take_none _ (by omega)]
  · obtain ⟨a, x, rfl, ha⟩ : ∃ a x, p = a ++ x ∧ a.length = 8 :=
      ⟨p.take 8, p.drop 8, (List.take_append_drop 8 p).symm, by rw [List.length_take]; omega⟩
    have hx : x.length = (a ++ x).length - 8 := by rw [List.length_append]; omega
    have hc1 : (decide ((a ++ x).length < 8) || decide ((a ++ x).length > 16)) = false := by
      simp only [Bool.or_eq_false_iff, decide_eq_false_iff_not]; omega
    have hc2 : (decide ((a ++ x).length < 8) || decide ((a ++ x).length > 24)) = false := by
      simp only [Bool.or_eq_false_iff, decide_eq_false_iff_not]; omega
    simp only [eventSize_watch, ↓reduceIte]
    refine ⟨fun u => ?_, fun j hj => ?_⟩
    · simp only [fread_app _ hl2, hle, hc1, hc2, Bool.and_false, Bool.false_eq_true, ↓reduceIte,
        List.append_assoc, fread_app _ ha, fread_app u hx]
    · by_cases h2 : j < 2
      · rw [fread_take_none _ (by omega)]
      · rw [take_app_ge (by omega), hl2, fread_app _ hl2]
        simp only [hle, hc1, hc2, Bool.and_false, Bool.false_eq_true, ↓reduceIte]
        by_cases h10 : j - 2 < 8
        · rw [fread_take_none _ (by omega)]
        · rw [take_app_ge (by omega), fread_app _ ha]
          simp only
          rw [fread_take_none _ (by omega)]

theorem readPayload_wf {ctx : Ctx} {r : Rec} (hwf : WF ctx r) (hmore : r.more = true) (st : RState) :
    ∃ args, isMissing (r.typ == 1) args r.payload = false ∧
      (∀ u, readPayload true ctx r.typ r.addr st (encBody r ++ u) =
        .ok args r.payload (u.drop (pad8 (encBody r).length))) ∧
      ∀ j, j < (encBody r).length →
        ∃ a d, readPayload true ctx r.typ r.addr st ((encBody r).take j) = .eofFail a d := by
  unfold readPayload encBody
  rcases hwf.2.2.2.2.2.2 hmore with ⟨ht, l, hl, hrd, hne⟩ | ⟨ht, hlen, hev⟩
  · have hnot3 : r.typ ≠ 3 := by omega
    obtain ⟨a, ha, -, ext, cut⟩ := readSpecs_spec hrd
    rw [List.append_nil] at ha
    subst ha
    simp only [hmore, if_neg hnot3, if_pos ht, hl, List.nil_append, ↓reduceIte]
    refine ⟨.specs l, ?_, fun u => by rw [ext u], fun j hj => ?_⟩
    · rcases hne with hne | hne
      · cases hp : r.payload with
        | nil => exact absurd hp hne
        | cons => rfl
      · simp only [isMissing, hne, bne_self_eq_false, Bool.and_false]
    · have hc := cut j hj
      rcases hq : readSpecs (r.typ == 1) l [] (r.payload.take j) with ⟨x, y, z⟩
      rw [hq] at hc
      cases hc
      exact ⟨_, _, rfl⟩
  · obtain ⟨ew, ec⟩ := readEvent_wf hlen hev st
    have h01 : ¬ (r.typ = 0 ∨ r.typ = 1) := by omega
    simp only [hmore, if_pos ht, ↓reduceIte, if_neg h01, List.length_append, leBytes_length]
    refine ⟨.event, ?_, fun u => ?_, fun j hj => ⟨_, _, ec j hj⟩⟩
    · cases hp : r.payload with
      | nil =>
        rcases hev with hev | ⟨_, h8, _⟩
        · have := eventSize_vals hev
          rw [hp] at this
          simp at this
        · rw [hp] at h8
          cases h8
      | cons => rfl
    · rw [List.append_assoc, ew u, Nat.add_comm]

theorem readRec_wf {ctx : Ctx} {r : Rec} (hwf : WF ctx r) (st : RState) :
    (∀ u, ∃ st', readRec true ctx st (encHdr r ++ encBody r ++ u) =
        .got r st' (u.drop (pad8 (encBody r).length)) ∧ st'.ust = encHdr r) ∧
    ∀ u k, k < need r →
      ∃ st', readRec true ctx st ((encHdr r ++ encBody r ++ u).take k) = .done .eof st' ∧
        st'.ust = st.ust := by
  obtain ⟨h1, h2, h3, h4, h5, h6, -⟩ := id hwf
  have hm := hdrMagic_encHdr h2 h3 h4
  have hd := decodeHdr_encHdr h1 h2 h3 h4
  have hl := encHdr_length r
  unfold readRec need
  cases r with
  | mk time typ more depth addr payload partl =>
  simp only at h5 h6 hd
  subst h5
  cases more with
  | false =>
    obtain rfl := h6 rfl
    have hb : encBody ⟨time, typ, false, depth, addr, [], false⟩ = [] := rfl
    rw [hb]
    refine ⟨fun u => ⟨{ st with ust := encHdr _ }, ?_, rfl⟩, fun u k hk => ⟨st, ?_, rfl⟩⟩
    · rw [List.append_assoc, fread_app _ hl]
      simp only [hm, ne_eq, not_true_eq_false, ↓reduceIte, hd, Bool.not_false]
      rfl
    · rw [fread_take_none _ (by simp only [List.length_nil] at hk; omega)]
      rfl
  | true =>
    obtain ⟨args, hmiss, pw, pc⟩ := readPayload_wf hwf rfl st
    refine ⟨fun u => ⟨{ args := args, data := payload, ust := encHdr _ }, ?_, rfl⟩, fun u k hk => ?_⟩
    · rw [List.append_assoc, fread_app _ hl]
      simp only [hm, ne_eq, not_true_eq_false, ↓reduceIte, hd, Bool.not_true,
        Bool.false_eq_true, pw u, deliver, hmiss]
    · by_cases hk16 : k < 16
      · rw [fread_take_none _ (by omega)]
        exact ⟨st, rfl, rfl⟩
      · rw [List.append_assoc, take_app_ge (by omega), hl, List.take_append_of_le_length (by omega),
          fread_app _ hl]
        obtain ⟨a, d, hp⟩ := pc (k - 16) (by omega)
        simp only [hm, ne_eq, not_true_eq_false, ↓reduceIte, hd, Bool.not_true,
          Bool.false_eq_true, hp]
        exact ⟨_, rfl, rfl⟩

/-! ### the whole file, cut anywhere -/

theorem encode_length (r : Rec) :
    (encode r).length = need r + pad8 (encBody r).length := by
  simp [encode, need]; omega

theorem readAllF_cut (ctx : Ctx) (rs : List Rec) (hwf : ∀ r ∈ rs, WF ctx r) (k fuel : Nat)
    (st : RState) (hf : wholeRecordsBefore rs k < fuel) :
    readAllF true ctx fuel st ((encodeAll rs).take k) =
      (rs.take (wholeRecordsBefore rs k), .eof,
       lastHdrOr st.ust (rs.take (wholeRecordsBefore rs k))) := by
  induction rs generalizing k fuel st with
  | nil =>
    cases fuel with
    | zero => omega
    | succ n =>
      rw [encodeAll, List.take_nil, readAllF, readRec, fread_none (by decide)]
      rfl
  | cons r rs ih =>
    have hr : WF ctx r := hwf r List.mem_cons_self
    have hrs : ∀ x ∈ rs, WF ctx x := fun x hx => hwf x (List.mem_cons_of_mem _ hx)
    cases fuel with
    | zero => omega
    | succ n =>
      have henc : encodeAll (r :: rs) =
          encHdr r ++ encBody r ++ (zeros (pad8 (encBody r).length) ++ encodeAll rs) := by
        rw [encodeAll, encode, List.append_assoc (encHdr r ++ encBody r)]
      rw [wholeRecordsBefore] at hf
      rw [wholeRecordsBefore, henc, readAllF]
      by_cases hn : need r ≤ k
      · -- the record is completely present
        rw [if_pos hn] at hf ⊢
        have hlen : (encHdr r ++ encBody r).length = need r := by
          rw [List.length_append, encHdr_length, need]
        rw [take_app_ge (by rw [hlen]; exact hn), hlen]
        obtain ⟨st', hgot, hust⟩ := (readRec_wf hr st).1
          (List.take (k - need r) (zeros (pad8 (encBody r).length) ++ encodeAll rs))
        have hrest : List.drop (pad8 (encBody r).length)
            (List.take (k - need r) (zeros (pad8 (encBody r).length) ++ encodeAll rs)) =
            (encodeAll rs).take (k - (encode r).length) := by
          rw [List.drop_take, encode_length, List.drop_left' (zeros_length _), Nat.sub_sub]
        rw [hgot, hrest]
        simp only
        rw [ih hrs _ n st' (by omega), hust, Nat.add_comm 1, List.take_succ_cons]
        rfl
      · -- cut inside this record
        rw [if_neg hn]
        obtain ⟨st', hdone, hust⟩ := (readRec_wf hr st).2
          (zeros (pad8 (encBody r).length) ++ encodeAll rs) k (by omega)
        rw [hdone]
        simp only
        rw [hust]
        rfl

/-- each whole record needs at least its 16 header bytes -/
theorem whole_le (rs : List Rec) (k : Nat) :
    16 * wholeRecordsBefore rs k ≤ k ∧ 16 * wholeRecordsBefore rs k ≤ (encodeAll rs).length := by
  induction rs generalizing k with
  | nil => simp [wholeRecordsBefore]
  | cons r rs ih =>
    simp only [wholeRecordsBefore]
    split
    · rename_i hn
      have := ih (k - (encode r).length)
      have hl := encode_length r
      simp only [encodeAll, List.length_append]
      unfold need at hn hl
      omega
    · omega

theorem whole_full (rs : List Rec) : wholeRecordsBefore rs (encodeAll rs).length = rs.length := by
  induction rs with
  | nil => rfl
  | cons r rs ih =>
    have hl := encode_length r
    have : need r ≤ (encodeAll (r :: rs)).length := by
      simp only [encodeAll, List.length_append]; omega
    simp only [wholeRecordsBefore, this, ↓reduceIte]
    simp only [encodeAll, List.length_append, Nat.add_sub_cancel_left, ih, List.length_cons]
    omega

theorem whole_le_length (rs : List Rec) (k : Nat) : wholeRecordsBefore rs k ≤ rs.length := by
  induction rs generalizing k with
  | nil => simp [wholeRecordsBefore]
  | cons r rs ih =>
    simp only [wholeRecordsBefore]
    split
    · have := ih (k - (encode r).length); simp only [List.length_cons]; omega
    · omega

/-! ### the consumers stay inside what the reader delivered -/

theorem pad4_align {len size : Nat} (h : len % 4 = 0) : pad4 len size = align4 size := by
  unfold pad4 align4
  rw [Nat.add_mod, h, Nat.zero_add, Nat.mod_mod]
  split <;> omega

theorem pad4_add2 (len v : Nat) : pad4 (len + 2) v + 2 = pad4 len (v + 2) := by
  unfold pad4
  rw [Nat.add_right_comm len 2 v, Nat.add_assoc len v 2]
  split <;> omega

theorem le_pad4 (len size : Nat) : size ≤ pad4 len size := by
  unfold pad4
  split <;> omega

theorem align4_mod (n : Nat) : align4 n % 4 = 0 := Nat.mul_mod_left _ _

theorem align4_ge (n : Nat) : n ≤ align4 n := by
  unfold align4; omega

theorem consumeOne_scalar (raw : Bool) {sp : Spec} (hok : SpecOK sp) (hs : sp.fmt ≠ .str) {off : Nat}
    {d : Bytes} (h : off + sp.size ≤ d.length) : consumeOne true raw sp off d = (true, sp.size) := by
  obtain ⟨_, hchr, hoth⟩ := hok
  unfold consumeOne
  cases hf : sp.fmt with
  | str => exact absurd hf hs
  | chr =>
    have h1 := hchr hf
    rw [h1] at h ⊢
    cases raw
    · simp only [Bool.false_eq_true, ↓reduceIte, decide_eq_true h]
    · simp only [↓reduceIte, decide_eq_true (And.intro h (by omega : 1 ≤ 8))]
  | strct =>
    cases raw
    · rfl
    · simp only [↓reduceIte, decide_eq_true h]
  | other =>
    have h8 := hoth hf
    cases raw
    · simp only [Bool.false_eq_true, ↓reduceIte, decide_eq_true (And.intro h (by omega : sp.size ≤ 16))]
    · simp only [↓reduceIte, decide_eq_true (And.intro h h8)]

theorem consumeOne_str (raw : Bool) {sp : Spec} (hs : sp.fmt = .str) {off : Nat} {d : Bytes}
    (h : off + 2 + leVal ((d.drop off).take 2) ≤ d.length) :
    consumeOne true raw sp off d = (true, leVal ((d.drop off).take 2) + 2) := by
  unfold consumeOne
  have h2 : off + 2 ≤ d.length := by omega
  simp only [hs, h2, ↓reduceIte, decide_eq_true h, Bool.or_true, Bool.true_or, Bool.and_self]

/-- the consumer's step over one argument ends where the reader's did, on a 4-byte boundary -/
theorem readArg_consume {sp : Spec} {d s d1 s1 : Bytes} (raw : Bool)
    (h : readArg sp d s = (d1, s1, true)) (hok : SpecOK sp) (h4 : d.length % 4 = 0) (e : Bytes) :
    (consumeOne true raw sp d.length (d1 ++ e)).1 = true ∧
    d.length + align4 (consumeOne true raw sp d.length (d1 ++ e)).2 = d1.length ∧
    d1.length % 4 = 0 := by
  unfold readArg at h
  by_cases h0 : sp.size = 0
  · rw [if_pos h0] at h
    obtain ⟨rfl, -⟩ := Prod.mk.inj h
    rw [consumeOne_scalar raw hok (fun hf => hok.1 hf h0) (by rw [h0, List.length_append]; omega), h0]
    exact ⟨rfl, rfl, h4⟩
  · rw [if_neg h0] at h
    by_cases hs : sp.fmt = .str
    · simp only [if_pos hs] at h
      split at h
      · cases h
      · rename_i l r hf
        obtain ⟨rfl, hl⟩ := fread_some hf
        -- behind the 2-byte prefix the offset is 2 mod 4: prefix and padded string make a multiple of 4
        have hpa : pad4 (d.length + 2) (leVal l) + 2 = align4 (leVal l + 2) := by
          rw [pad4_add2, pad4_align h4]
        have hal := align4_mod (leVal l + 2)
        rw [if_neg (by omega)] at h
        split at h
        · cases h
        · rename_i x r2 hf2
          obtain ⟨rfl, hx⟩ := fread_some hf2
          obtain ⟨rfl, -⟩ := Prod.mk.inj h
          have hsl : ((d ++ l ++ x ++ e).drop d.length).take 2 = l := by
            rw [List.append_assoc, List.append_assoc, List.drop_left, List.take_left' hl]
          have hlen : (d ++ l ++ x ++ e).length = d.length + 2 + x.length + e.length := by
            simp only [List.length_append, hl]
          have hlen1 : (d ++ l ++ x).length = d.length + 2 + x.length := by
            simp only [List.length_append, hl]
          have hge := le_pad4 (d.length + 2) (leVal l)
          rw [consumeOne_str raw hs (by rw [hsl, hlen]; omega), hsl, hlen1, ← hpa, hx]
          exact ⟨rfl, by omega, by omega⟩
    · simp only [if_neg hs] at h
      split at h
      · cases h
      · rename_i x r2 hf
        obtain ⟨rfl, hx⟩ := fread_some hf
        obtain ⟨rfl, -⟩ := Prod.mk.inj h
        rw [pad4_align h4] at hx
        have hal := align4_mod sp.size
        have hag := align4_ge sp.size
        rw [consumeOne_scalar raw hok hs (by simp only [List.length_append]; omega), List.length_append, hx]
        exact ⟨rfl, rfl, by omega⟩

theorem readSpecs_consume (raw isRet : Bool) {l : List Spec} {d s d' s1 : Bytes}
    (h : readSpecs isRet l d s = (d', s1, true)) (hok : ∀ sp ∈ l, SpecOK sp)
    (h4 : d.length % 4 = 0) (e : Bytes) :
    consumeSpecs true raw isRet l d.length (d' ++ e) = true := by
  induction l generalizing d s with
  | nil => simp [consumeSpecs]
  | cons sp r ih =>
    have hr : ∀ x ∈ r, SpecOK x := fun x hx => hok x (by simp [hx])
    simp only [readSpecs] at h
    simp only [consumeSpecs]
    by_cases hw : (isRet != (sp.idx == 0)) = true
    · simp only [hw, ↓reduceIte] at h ⊢
      exact ih h hr h4
    · simp only [hw, Bool.false_eq_true, ↓reduceIte] at h ⊢
      split at h
      · rename_i d2 s2 hra
        obtain ⟨a2, -, rfl, -⟩ := readSpecs_spec h
        obtain ⟨c1, c2, c3⟩ := readArg_consume raw hra (hok sp (by simp)) h4 (a2 ++ e)
        rw [List.append_assoc, c1, c2]
        simp only [Bool.true_and]
        split
        · rfl
        · have := ih h hr c3
          rw [List.append_assoc] at this
          exact this
      · cases h

/-! ### what the reader can return, on any byte string -/

/-- what a payload reader may return on the stream `s`: on success a payload for which `good` holds
    and a rest not longer than `s`; never `fuel`; the repaired reader never `oob` -/
def PayPost (fixed : Bool) (s : Bytes) (good : ArgsPtr → Bytes → Prop) : PayRes → Prop
  | .ok a d rest => rest.length ≤ s.length ∧ good a d
  | .eofFail _ _ => True
  | .stop x => x ≠ .fuel ∧ (fixed = true → x ≠ .oob)

theorem PayPost.imp {fixed : Bool} {s : Bytes} {g g' : ArgsPtr → Bytes → Prop} {x : PayRes}
    (h : PayPost fixed s g x) (hg : ∀ a d, g a d → g' a d) : PayPost fixed s g' x := by
  cases x with
  | ok a d rest => exact ⟨h.1, hg _ _ h.2⟩
  | eofFail => trivial
  | stop => exact h

theorem readEvent_post (fixed : Bool) (id : Nat) (st : RState) (s : Bytes) :
    PayPost fixed s (fun _ d => consumeEvent id d = true) (readEvent fixed id st s) := by
  unfold readEvent consumeEvent
  cases eventSize id with
  | some n =>
    simp only
    split
    · trivial
    · rename_i l s1 hf
      obtain ⟨rfl, hl⟩ := fread_some hf
      split
      · exact ⟨nofun, nofun⟩
      · split
        · trivial
        · rename_i x s2 hf2
          obtain ⟨rfl, hx⟩ := fread_some hf2
          simp only [PayPost, List.length_append, List.length_drop, decide_eq_true_eq]
          omega
  | none =>
    simp only
    split
    · split
      · trivial
      · rename_i l s1 hf
        obtain ⟨rfl, hl⟩ := fread_some hf
        split
        · exact ⟨nofun, nofun⟩
        · rename_i hc1
          split
          · trivial
          · rename_i a s2 hf2
            obtain ⟨rfl, ha⟩ := fread_some hf2
            split
            · -- `len - 8` wraps around only where the length check of the repaired reader has stopped
              rename_i hc2
              refine ⟨nofun, fun hfx => ?_⟩
              subst hfx
              simp at hc1 hc2
              omega
            · rename_i hc
              split
              · trivial
              · rename_i x s3 hf3
                obtain ⟨rfl, hx⟩ := fread_some hf3
                simp at hc
                simp only [PayPost, List.length_append, List.length_drop, decide_eq_true_eq]
                omega
    · exact ⟨nofun, nofun⟩
/-- a NULL `args.args` (no spec for the address) never gets past `deliver`, so `good` may assume it away -/
theorem readPayload_post {ctx : Ctx} (raw fixed : Bool) (r0 : Rec) (hm : r0.more = true) (st : RState)
    (s : Bytes) :
    PayPost fixed s
      (fun a d => SpecsOK ctx → a ≠ .null → consumeOk true raw ctx { r0 with payload := d } = true)
      (readPayload fixed ctx r0.typ r0.addr st s) := by
  unfold readPayload
  simp only [consumeOk, hm, Bool.not_true, Bool.false_eq_true, ↓reduceIte]
  split
  · cases hsp : ctx.specs r0.addr with
    | none => exact ⟨Nat.le_refl _, fun _ h => absurd rfl h⟩
    | some l =>
      simp only
      split
      · rename_i d s1 hq
        obtain ⟨a, rfl, -⟩ := readSpecs_spec hq
        refine ⟨by simp only [List.length_drop, List.length_append]; omega, fun hok _ => ?_⟩
        have := readSpecs_consume raw _ hq (hok _ _ hsp) rfl []
        rwa [List.append_nil] at this
      · trivial
  · split
    · exact (readEvent_post fixed r0.addr st s).imp fun _ _ h _ _ => h
    · exact ⟨Nat.le_refl _, fun _ _ => rfl⟩

/-- what `read_task_ustack` may return on the stream `s`: a delivered record has consumed at least
    its 16 header bytes, and `good` holds of it when the reader is the repaired one; never `fuel`; the
    repaired reader never `oob` -/
def StepPost (fixed : Bool) (s : Bytes) (good : Rec → Prop) : StepRes → Prop
  | .got r _ rest => rest.length + 16 ≤ s.length ∧ (fixed = true → good r)
  | .done x _ => x ≠ .fuel ∧ (fixed = true → x ≠ .oob)

theorem readRec_post {ctx : Ctx} (raw fixed : Bool) (st : RState) (s : Bytes) :
    StepPost fixed s (fun r => r.partl = false ∧ (SpecsOK ctx → consumeOk true raw ctx r = true))
      (readRec fixed ctx st s) := by
  unfold readRec
  cases hf : fread 16 s with
  | none => exact ⟨nofun, nofun⟩
  | some p =>
    obtain ⟨hd, s1⟩ := p
    obtain ⟨rfl, hl⟩ := fread_some hf
    simp only
    split
    · exact ⟨nofun, nofun⟩
    · cases hmore : (decodeHdr hd).more with
      | false =>
        refine ⟨by simp only [List.length_append]; omega, fun _ => ⟨rfl, fun _ => ?_⟩⟩
        simp only [consumeOk, hmore, Bool.not_false, ↓reduceIte]
      | true =>
        simp only [Bool.not_true, Bool.false_eq_true, ↓reduceIte]
        have hp := readPayload_post (ctx := ctx) raw fixed (decodeHdr hd) hmore st s1
        cases hq : readPayload fixed ctx (decodeHdr hd).typ (decodeHdr hd).addr st s1 with
        | stop x =>
          rw [hq] at hp
          exact hp
        | eofFail a d =>
          simp only
          cases fixed with
          | true => exact ⟨nofun, nofun⟩
          | false =>
            simp only [Bool.false_eq_true, ↓reduceIte, deliver]
            split
            · exact ⟨nofun, nofun⟩
            · exact ⟨by simp only [List.length_nil, List.length_append]; omega, nofun⟩
        | ok a d rest =>
          rw [hq] at hp
          simp only [deliver]
          split
          · exact ⟨nofun, nofun⟩
          · rename_i hmiss
            have hle := hp.1
            refine ⟨by simp only [List.length_append]; omega, fun _ => ⟨rfl, fun hok => ?_⟩⟩
            refine hp.2 hok ?_
            rintro rfl
            exact hmiss rfl

theorem readAllF_safe {ctx : Ctx} (hok : SpecsOK ctx) (raw : Bool) (fuel : Nat) (st : RState)
    (s : Bytes) :
    (readAllF true ctx fuel st s).2.1 ≠ .oob ∧
    ∀ r ∈ (readAllF true ctx fuel st s).1, r.partl = false ∧ consumeOk true raw ctx r = true := by
  induction fuel generalizing st s with
  | zero => exact ⟨nofun, nofun⟩
  | succ n ih =>
    simp only [readAllF]
    have hp := readRec_post (ctx := ctx) raw true st s
    cases hr : readRec true ctx st s with
    | done status st' =>
      rw [hr] at hp
      exact ⟨hp.2 rfl, nofun⟩
    | got r st' rest =>
      rw [hr] at hp
      obtain ⟨i1, i2⟩ := ih st' rest
      refine ⟨i1, fun x hx => ?_⟩
      rcases List.mem_cons.1 hx with rfl | hx
      · exact ⟨(hp.2 rfl).1, (hp.2 rfl).2 hok⟩
      · exact i2 x hx

/-- every delivered record consumed at least its header, so the fuel `len / 16 + 1` is enough -/
theorem readAllF_fuel (fixed : Bool) (ctx : Ctx) (fuel : Nat) (st : RState) (s : Bytes)
    (h : s.length / 16 < fuel) : (readAllF fixed ctx fuel st s).2.1 ≠ .fuel := by
  induction fuel generalizing st s with
  | zero => omega
  | succ n ih =>
    simp only [readAllF]
    have hp := readRec_post (ctx := ctx) false fixed st s
    cases hr : readRec fixed ctx st s with
    | done status st' =>
      rw [hr] at hp
      exact hp.1
    | got r st' rest =>
      rw [hr] at hp
      have := hp.1
      exact ih st' rest (by omega)

/-! ### perf-cpuN.dat -/

@[simp] theorem PRec.hdr_length (r : PRec) : r.hdr.length = 8 := by simp [PRec.hdr]

@[simp] theorem PRec.enc_length (r : PRec) : r.enc.length = 8 + r.body.length := by simp [PRec.enc]

theorem PRec.hdr_fields {r : PRec} (h1 : r.typ < 2 ^ 32) (h2 : r.misc < 2 ^ 16)
    (h3 : 8 + r.body.length < 2 ^ 16) :
    sub r.hdr 0 4 = r.typ ∧ sub r.hdr 4 2 = r.misc ∧ sub r.hdr 6 2 = 8 + r.body.length := by
  refine ⟨?_, ?_, ?_⟩
  · simp [sub, PRec.hdr]
    exact leVal_leBytes 4 _ (by simpa using h1)
  · simp [sub, PRec.hdr]
    exact leVal_leBytes 2 _ (by simpa using h2)
  · simp [sub, PRec.hdr, List.drop_append]
    exact leVal_leBytes 2 _ (by simpa using h3)

theorem readPerfEv_nil (fixed : Bool) : readPerfEv fixed [] = .done .eof := by
  simp [readPerfEv, fread]

theorem readPerfAllF_nil (fixed : Bool) (n : Nat) : readPerfAllF fixed (n + 1) [] = ([], .eof) := by
  simp [readPerfAllF, readPerfEv_nil]

theorem sub_take {b : Bytes} {off n k : Nat} (h : off + n ≤ k) : sub (b.take k) off n = sub b off n := by
  unfold sub
  rw [List.drop_take, List.take_take, Nat.min_eq_left (by omega)]

/-- behind the header of a well-formed record the reader as coded reads exactly the body (in one
    piece or, for a comm record, in two), whatever its type: the length it takes from the file fits
    the union -/
theorem readPerfEv_hdr {r : PRec} (hwf : PWF r) (s1 : Bytes) :
    readPerfEv false (r.hdr ++ s1) =
      match fread r.body.length s1 with
      | none => .again []
      | some (b, rest) =>
        match pEvOf ⟨r.typ, r.misc, b⟩ with
        | some e => .got e rest
        | none => .again rest := by
  obtain ⟨h1, h2, h3, h14, h47, hc⟩ := hwf
  obtain ⟨f1, f2, f3⟩ := PRec.hdr_fields h1 h2 h3
  unfold readPerfEv perfUnion pEvOf
  rw [fread_app s1 r.hdr_length]
  simp only [f1, f2, f3, Nat.add_sub_cancel_left, Bool.false_and, Bool.false_eq_true, ↓reduceIte]
  clear h1 h2 h3 f1 f2 f3
  rw [if_neg (Nat.not_lt.2 (Nat.le_add_right 8 _))]
  by_cases hk : r.typ = 14 ∨ r.typ = 4 ∨ r.typ = 7
  · have hl : r.body.length = 16 ∨ r.body.length = 40 := by
      rcases hk with a | b | b
      · exact .inl (h14 a)
      · exact .inr (h47 (.inl b))
      · exact .inr (h47 (.inr b))
    clear h14 h47 hc
    rw [if_pos hk, if_neg (by omega), if_neg (by omega)]
    cases fread r.body.length s1 with
    | none => rfl
    | some p =>
      by_cases a : r.typ = 14
      · simp only [a, ↓reduceIte]
      · simp only [a, hk.resolve_left a, ↓reduceIte]
  · have a : ¬ r.typ = 14 := fun h => hk (.inl h)
    have b : ¬ (r.typ = 4 ∨ r.typ = 7) := fun h => hk (.inr h)
    simp only [if_neg hk, if_neg a, if_neg b]
    unfold fread
    by_cases c : r.typ = 3
    · have hl := hc c
      clear h14 h47 hc
      have hcl : (r.body.length - 16 + 7) / 8 * 8 = r.body.length - 16 := by omega
      simp only [if_pos c, hcl]
      rw [if_neg (by omega), if_neg (by omega), if_neg (by omega)]
      by_cases hlen : r.body.length ≤ s1.length
      · -- the two pieces of a comm record are the body split 16 bytes before its end
        have e : r.body.length - 16 + 16 = r.body.length := by omega
        simp only [if_pos hlen, if_pos (show r.body.length - 16 ≤ s1.length by omega),
          List.length_drop, if_pos (show 16 ≤ s1.length - (r.body.length - 16) by omega),
          List.length_take, Nat.min_eq_left hlen, List.drop_drop, e, List.drop_take,
          show r.body.length - (r.body.length - 16) = 16 by omega]
        rw [sub_take (by omega), sub_take (by omega), sub_take (by omega), sub_take (by omega),
          sub_take (by omega)]
      · rw [if_neg hlen]
        by_cases hcl' : r.body.length - 16 ≤ s1.length
        · simp only [if_pos hcl', List.length_drop,
            if_neg (show ¬ 16 ≤ s1.length - (r.body.length - 16) by omega)]
        · rw [if_neg hcl']
    · simp only [if_neg c]
      by_cases hlen : r.body.length ≤ s1.length
      · rw [if_pos hlen]
      · rw [if_neg hlen, List.drop_of_length_le (by omega)]

theorem readPerfEv_whole {r : PRec} (hwf : PWF r) (t : Bytes) :
    readPerfEv false (r.enc ++ t) =
      (match pEvOf r with | some e => .got e t | none => .again t) := by
  rw [PRec.enc, List.append_assoc, readPerfEv_hdr hwf, fread_app t rfl]

theorem readPerfAllF_cut_one {r : PRec} (hwf : PWF r) {k : Nat} (hk : k < r.enc.length) (n : Nat) :
    readPerfAllF false (n + 2) (r.enc.take k) = ([], .eof) := by
  rw [PRec.enc_length] at hk
  rw [readPerfAllF]
  by_cases h8 : k < 8
  · rw [readPerfEv, fread_take_none _ h8]
  · rw [PRec.enc, take_app_ge (by rw [PRec.hdr_length]; omega), PRec.hdr_length, readPerfEv_hdr hwf,
      fread_take_none _ (by omega)]
    exact readPerfAllF_nil false n

theorem pEncodeAll_cons (r : PRec) (rs : List PRec) : pEncodeAll (r :: rs) = r.enc ++ pEncodeAll rs := rfl

theorem readPerfAllF_cut (rs : List PRec) (hwf : ∀ r ∈ rs, PWF r) (k fuel : Nat)
    (hf : pWholeBefore rs k + 2 ≤ fuel) :
    readPerfAllF false fuel ((pEncodeAll rs).take k) =
      ((rs.take (pWholeBefore rs k)).filterMap pEvOf, .eof) := by
  induction rs generalizing k fuel with
  | nil =>
    obtain ⟨n, rfl⟩ : ∃ n, fuel = n + 1 := ⟨fuel - 1, by omega⟩
    simp [pEncodeAll, readPerfAllF_nil, pWholeBefore]
  | cons r rs ih =>
    have hr : PWF r := hwf r (by simp)
    have hrs : ∀ x ∈ rs, PWF x := fun x hx => hwf x (by simp [hx])
    by_cases hn : r.enc.length ≤ k
    · have hw : pWholeBefore (r :: rs) k = 1 + pWholeBefore rs (k - r.enc.length) := by
        simp only [pWholeBefore, if_pos hn]
      rw [hw] at hf ⊢
      obtain ⟨n, rfl⟩ : ∃ n, fuel = n + 1 := ⟨fuel - 1, by omega⟩
      rw [pEncodeAll_cons, take_app_ge hn, readPerfAllF, readPerfEv_whole hr]
      have hih := ih hrs (k - r.enc.length) n (by omega)
      rw [Nat.add_comm 1, List.take_succ_cons, List.filterMap_cons]
      cases pEvOf r with
      | none => simp only [hih]
      | some e => simp only [hih]
    · have hw : pWholeBefore (r :: rs) k = 0 := by simp only [pWholeBefore, if_neg hn]
      rw [hw] at hf ⊢
      obtain ⟨n, rfl⟩ : ∃ n, fuel = n + 2 := ⟨fuel - 2, by omega⟩
      rw [pEncodeAll_cons, List.take_append_of_le_length (by omega), readPerfAllF_cut_one hr (by omega)]
      simp

theorem pWhole_le (rs : List PRec) (k : Nat) :
    8 * pWholeBefore rs k ≤ ((pEncodeAll rs).take k).length := by
  induction rs generalizing k with
  | nil => simp [pWholeBefore]
  | cons r rs ih =>
    simp only [pWholeBefore]
    split
    · rename_i hn
      have := ih (k - r.enc.length)
      rw [pEncodeAll_cons, take_app_ge hn]
      simp only [List.length_append, PRec.enc_length] at this ⊢
      omega
    · omega

theorem pWhole_full (rs : List PRec) : pWholeBefore rs (pEncodeAll rs).length = rs.length := by
  induction rs with
  | nil => rfl
  | cons r rs ih =>
    simp only [pWholeBefore, pEncodeAll_cons, List.length_append, Nat.le_add_right, ↓reduceIte,
      Nat.add_sub_cancel_left, ih, List.length_cons]
    omega

/-- with the size checks the only way the reader ends, on any byte string, is a clean end of file -/
theorem readPerfEv_fixed_done {s : Bytes} {st : PStatus} (h : readPerfEv true s = .done st) :
    st = .eof := by
  unfold readPerfEv perfUnion at h
  split at h
  · exact (PStep.done.inj h).symm
  · rename_i hd s1 _
    simp only [Bool.true_and, Bool.or_eq_true, decide_eq_true_eq] at h
    generalize sub hd 0 4 = typ at h
    generalize sub hd 6 2 = size at h
    by_cases h8 : size < 8
    · rw [if_pos h8] at h
      exact (PStep.done.inj h).symm
    rw [if_neg h8] at h
    by_cases hk : typ = 14 ∨ typ = 4 ∨ typ = 7
    · rw [if_pos hk] at h
      by_cases hlen : (size - 8 < if typ = 14 then 16 else 24) ∨ 40 < size - 8
      · rw [if_pos hlen] at h
        exact (PStep.done.inj h).symm
      · -- the size check has bounded `len` by the 40 bytes of the union
        rw [if_neg hlen, if_neg (by omega)] at h
        split at h
        · cases h
        · split at h
          · cases h
          · split at h <;> cases h
    · rw [if_neg hk] at h
      by_cases h3 : typ = 3
      · rw [if_pos h3] at h
        by_cases hlen : size - 8 < 24 ∨ 40 < size - 8
        · rw [if_pos hlen] at h
          exact (PStep.done.inj h).symm
        · -- 24 ≤ len ≤ 40, so `comm_len` is 8, 16 or 24
          rw [if_neg hlen, if_neg (by omega), if_neg (by omega)] at h
          split at h
          · cases h
          · split at h
            · cases h
            · split at h <;> cases h
      · rw [if_neg h3] at h
        cases h

theorem readPerfAllF_fixed_safe (fuel : Nat) (s : Bytes) :
    (readPerfAllF true fuel s).2 ≠ .oob ∧ (readPerfAllF true fuel s).2 ≠ .badSize := by
  induction fuel generalizing s with
  | zero => exact ⟨nofun, nofun⟩
  | succ n ih =>
    rw [readPerfAllF]
    cases h : readPerfEv true s with
    | done st =>
      rw [readPerfEv_fixed_done h]
      exact ⟨nofun, nofun⟩
    | again rest => exact ih rest
    | got e rest => exact ih rest

end Uft.Trunc

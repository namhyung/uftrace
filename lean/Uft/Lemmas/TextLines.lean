import Uft.Lemmas.TextFiles
/-
C12 — lemmas about lines: with the C12-F18 fixes (`nlGate true`) every line reader sees exactly
the newline-terminated lines of a file, so reading a file and reading its longest whole-line
prefix (`wholeLines`) are the same thing.  For the handlers of `info` this is shown together with
their memory safety (`InfoFile.SafeWhole`).
-/
namespace Uft.TextScan

/-! ### `wholeLines` -/

theorem wholeLines_cons (c : UInt8) (r : Bytes) :
    wholeLines (c :: r) = if (c :: r).contains NL then c :: wholeLines r else [] := rfl

theorem wholeLines_length_le (s : Bytes) : (wholeLines s).length ≤ s.length := by
  induction s with
  | nil => exact Nat.le_refl _
  | cons c r ih =>
    rw [wholeLines_cons]
    split
    · exact Nat.succ_le_succ ih
    · exact Nat.zero_le _

theorem wholeLines_eq_nil_iff (s : Bytes) : wholeLines s = [] ↔ s.contains NL = false := by
  cases s with
  | nil => simp [wholeLines]
  | cons c r =>
    rw [wholeLines_cons]
    cases h : (c :: r).contains NL <;> simp

theorem wholeLines_nl_append (l t : Bytes) :
    wholeLines (l ++ NL :: t) = l ++ NL :: wholeLines t := by
  induction l with
  | nil =>
    rw [List.nil_append, wholeLines_cons]
    have : (NL :: t).contains NL = true := by simp
    rw [this]; rfl
  | cons c r ih =>
    rw [List.cons_append, wholeLines_cons, ih]
    have : (c :: (r ++ NL :: t)).contains NL = true := by simp
    rw [this]; rfl

/-- a string that ends with a newline is its own whole-line prefix -/
theorem wholeLines_append_nl (s : Bytes) : wholeLines (s ++ [NL]) = s ++ [NL] :=
  wholeLines_nl_append s []

/-- `wholeLines s` is the prefix of `s` that ends at its last newline: what is behind it holds no
    newline … -/
theorem wholeLines_prefix (s : Bytes) : ∃ t, s = wholeLines s ++ t ∧ t.contains NL = false := by
  induction s with
  | nil => exact ⟨[], rfl, rfl⟩
  | cons c r ih =>
    rw [wholeLines_cons]
    cases h : (c :: r).contains NL with
    | false => exact ⟨c :: r, rfl, h⟩
    | true =>
      obtain ⟨t, ht, hn⟩ := ih
      refine ⟨t, ?_, hn⟩
      simp only [↓reduceIte, List.cons_append]
      rw [← ht]

/-- … and it is empty or ends with a newline -/
theorem wholeLines_last (s : Bytes) : wholeLines s = [] ∨ (wholeLines s).getLast? = some NL := by
  induction s with
  | nil => exact .inl rfl
  | cons c r ih =>
    rw [wholeLines_cons]
    cases h : (c :: r).contains NL with
    | false => exact .inl rfl
    | true =>
      right
      simp only [↓reduceIte]
      rcases ih with ih | ih
      · rw [ih]
        have hr := (wholeLines_eq_nil_iff r).1 ih
        simp only [List.contains_cons, hr, Bool.or_false, beq_iff_eq] at h
        simp [h]
      · rw [List.getLast?_cons]
        simp [ih]

theorem wholeLines_idem (s : Bytes) : wholeLines (wholeLines s) = wholeLines s := by
  rcases wholeLines_last s with h | h
  · rw [h]
    rfl
  · obtain ⟨l, hl⟩ := List.getLast?_eq_some_iff.1 h
    rw [hl, wholeLines_append_nl]

/-! ### `fgets` / `getline` against `wholeLines` -/

theorem fgetsAux_append (n : Nat) (s : Bytes) : (fgetsAux n s).1 ++ (fgetsAux n s).2 = s := by
  induction n generalizing s with
  | zero => simp [fgetsAux]
  | succ n ih =>
    cases s with
    | nil => simp [fgetsAux]
    | cons c r =>
      simp only [fgetsAux]
      split
      · simp
      · simp [ih r]

theorem contains_of_fgetsAux {n : Nat} {s : Bytes} (h : (fgetsAux n s).1.contains NL = true) :
    s.contains NL = true := by
  have := fgetsAux_append n s
  rw [← this]
  simp only [List.contains_eq_mem, List.mem_append, decide_eq_true_eq] at h ⊢
  exact Or.inl h

/-- a chunk that holds its newline is read the same from the whole-line prefix, and what is left
    is the whole-line prefix of the rest -/
theorem fgetsAux_whole (n : Nat) (s : Bytes) (h : (fgetsAux n s).1.contains NL = true) :
    fgetsAux n (wholeLines s) = ((fgetsAux n s).1, wholeLines (fgetsAux n s).2) := by
  induction n generalizing s with
  | zero => simp [fgetsAux] at h
  | succ n ih =>
    cases s with
    | nil => simp [fgetsAux] at h
    | cons c r =>
      have hs := contains_of_fgetsAux h
      rw [wholeLines_cons, hs]
      simp only [↓reduceIte, fgetsAux] at h ⊢
      split
      · rfl
      · rename_i hc
        rw [if_neg hc] at h
        have h' : (fgetsAux n r).1.contains NL = true := by
          simp only [List.contains_cons, Bool.or_eq_true] at h
          rcases h with h | h
          · exact absurd (by rw [beq_iff_eq] at h ⊢; exact h.symm) hc
          · exact h
        rw [ih r h']

/-- a chunk without newline: the chunk read from the whole-line prefix has none either -/
theorem fgetsAux_whole_none (n : Nat) (s : Bytes) (h : (fgetsAux n s).1.contains NL = false) :
    (fgetsAux n (wholeLines s)).1.contains NL = false := by
  induction n generalizing s with
  | zero => simp [fgetsAux]
  | succ n ih =>
    cases s with
    | nil => simp [fgetsAux, wholeLines]
    | cons c r =>
      rw [wholeLines_cons]
      split
      · simp only [fgetsAux] at h ⊢
        split
        · rename_i hc; rw [if_pos hc] at h
          have hc' : c = NL := by simpa using hc
          subst hc'
          simp at h
        · rename_i hc; rw [if_neg hc] at h
          simp only [List.contains_cons, Bool.or_eq_false_iff] at h ⊢
          exact ⟨h.1, ih r h.2⟩
      · simp [fgetsAux]

theorem fgetsAux_cap (n m : Nat) (s : Bytes) (hn : s.length ≤ n) (hm : s.length ≤ m) :
    fgetsAux n s = fgetsAux m s := by
  induction s generalizing n m with
  | nil => cases n <;> cases m <;> simp [fgetsAux]
  | cons c r ih =>
    cases n with
    | zero => simp at hn
    | succ n =>
      cases m with
      | zero => simp at hm
      | succ m =>
        simp only [fgetsAux]
        simp only [List.length_cons] at hn hm
        rw [ih n m (by omega) (by omega)]

theorem terminated_contains {l : Bytes} (h : terminated l = true) : l.contains NL = true := by
  unfold terminated cstr at h
  simp only [List.contains_eq_mem, decide_eq_true_eq] at h ⊢
  exact (List.takeWhile_sublist _).subset h

theorem nlGate_of_not_contains {p : Bytes × Bytes} (h : p.1.contains NL = false) :
    nlGate true (some p) = none := by
  have ht : terminated p.1 = false := by
    cases ht : terminated p.1 with
    | false => rfl
    | true => rw [terminated_contains ht] at h; cases h
  simp only [nlGate, ht, Bool.not_false, Bool.and_self, ↓reduceIte]

theorem fgets_of_ne_nil {cap : Nat} {s : Bytes} (h : s ≠ []) : fgets cap s = some (fgetsAux (cap - 1) s) := by
  unfold fgets
  cases s with
  | nil => exact absurd rfl h
  | cons c r => rfl

/-- how a gated line source behaves on the whole-line prefix of the stream: the same line, and the
    whole-line prefix of the rest -/
def WholeGet (get : Bytes → Option (Bytes × Bytes)) : Prop :=
  ∀ s, get (wholeLines s) = (get s).map fun p => (p.1, wholeLines p.2)

/-- `fgets` behind the newline gate, with buffers (`cap` for the stream, `cap'` for its whole-line
    prefix) that make no difference on the prefix -/
theorem nlGate_fgets_whole (cap cap' : Nat) (s : Bytes)
    (hm : fgetsAux (cap' - 1) (wholeLines s) = fgetsAux (cap - 1) (wholeLines s)) :
    nlGate true (fgets cap' (wholeLines s)) =
      (nlGate true (fgets cap s)).map fun p => (p.1, wholeLines p.2) := by
  cases s with
  | nil => rfl
  | cons c q =>
    rw [fgets_of_ne_nil (List.cons_ne_nil c q)]
    by_cases hc : (fgetsAux (cap - 1) (c :: q)).1.contains NL = true
    · have hw : wholeLines (c :: q) ≠ [] := by
        rw [Ne, wholeLines_eq_nil_iff, contains_of_fgetsAux hc]
        exact Bool.noConfusion
      rw [fgets_of_ne_nil hw, hm, fgetsAux_whole _ _ hc]
      simp only [nlGate]
      split <;> rfl
    · have hc : (fgetsAux (cap - 1) (c :: q)).1.contains NL = false := by simpa using hc
      rw [nlGate_of_not_contains hc]
      by_cases hw : wholeLines (c :: q) = []
      · rw [hw]
        rfl
      · rw [fgets_of_ne_nil hw, hm, nlGate_of_not_contains (fgetsAux_whole_none _ _ hc)]
        rfl

theorem fgets_whole (cap : Nat) (s : Bytes) :
    nlGate true (fgets cap (wholeLines s)) =
      (nlGate true (fgets cap s)).map fun p => (p.1, wholeLines p.2) :=
  nlGate_fgets_whole cap cap s rfl

theorem getline_whole (s : Bytes) :
    nlGate true (getline (wholeLines s)) =
      (nlGate true (getline s)).map fun p => (p.1, wholeLines p.2) :=
  nlGate_fgets_whole _ _ s
    (fgetsAux_cap _ _ _ (by omega) (by have := wholeLines_length_le s; omega))

/-! ### the line loop -/

/-- a line source that consumes at least one byte per line -/
def Shrinks (get : Bytes → Option (Bytes × Bytes)) : Prop :=
  ∀ s l r, get s = some (l, r) → r.length < s.length

theorem fgetsAux_shrinks {n : Nat} {c : UInt8} {r : Bytes} :
    (fgetsAux (n + 1) (c :: r)).2.length < (c :: r).length := by
  have := fgetsAux_append (n + 1) (c :: r)
  have h1 : (fgetsAux (n + 1) (c :: r)).1.length ≥ 1 := by
    simp only [fgetsAux]
    split <;> simp
  have h2 := congrArg List.length this
  simp only [List.length_append] at h2
  omega

theorem shrinks_fgets {nl : Bool} {cap : Nat} (hc : 2 ≤ cap) {s l r : Bytes}
    (h : nlGate nl (fgets cap s) = some (l, r)) : r.length < s.length := by
  have h := nlGate_some h
  cases s with
  | nil => simp [fgets] at h
  | cons c q =>
    rw [fgets_of_ne_nil (by simp)] at h
    simp only [Option.some.injEq] at h
    obtain ⟨k, hk⟩ : ∃ k, cap - 1 = k + 1 := ⟨cap - 2, by omega⟩
    rw [hk] at h
    have := @fgetsAux_shrinks k c q
    rw [h] at this
    exact this

/-- the loop reads the same from the stream and from its whole-line prefix, with any fuels above
    their lengths -/
theorem lineLoop_whole {σ : Type} {get : Bytes → Option (Bytes × Bytes)} (hw : WholeGet get)
    (hs : Shrinks get) (step : σ → Bytes → PR (σ × Bool)) (n m : Nat) (s : Bytes) (st : σ)
    (hn : s.length < n) (hm : (wholeLines s).length < m) :
    lineLoop get step m (wholeLines s) st = lineLoop get step n s st := by
  induction n generalizing m s st with
  | zero => omega
  | succ n ih =>
    cases m with
    | zero => omega
    | succ m =>
      unfold lineLoop
      rw [hw s]
      cases h : get s with
      | none => rfl
      | some p =>
        obtain ⟨l, r⟩ := p
        have := hs s l r h
        have := hs (wholeLines s) l (wholeLines r) (by rw [hw s, h]; rfl)
        simp only [Option.map]
        cases step st l with
        | ok q =>
          obtain ⟨st1, c⟩ := q
          cases c with
          | true => exact ih m r st1 (by omega) (by omega)
          | false => rfl
        | err e => rfl
        | oob t => rfl

theorem lineLoop_whole_fuel {σ : Type} {get : Bytes → Option (Bytes × Bytes)} (hw : WholeGet get)
    (hs : Shrinks get) (step : σ → Bytes → PR (σ × Bool)) (s : Bytes) (st : σ) :
    lineLoop get step ((wholeLines s).length + 1) (wholeLines s) st =
      lineLoop get step (s.length + 1) s st :=
  lineLoop_whole hw hs step _ _ s st (Nat.lt_succ_self _) (Nat.lt_succ_self _)

/-! ### lines as records -/

theorem wholeLines_joinLines (ls : List Bytes) : wholeLines (joinLines ls) = joinLines ls := by
  induction ls with
  | nil => rfl
  | cons l ls ih => rw [joinLines, wholeLines_nl_append, ih]

/-- the whole-line prefix of a cut file is the file made of the lines that are completely present -/
theorem wholeLines_take_joinLines (ls : List Bytes) (hl : ∀ l ∈ ls, l.contains NL = false) (k : Nat) :
    wholeLines ((joinLines ls).take k) = joinLines (ls.take (wholeLinesBefore ls k)) := by
  induction ls generalizing k with
  | nil => rw [joinLines, List.take_nil]; rfl
  | cons l ls ih =>
    have hl0 := hl l List.mem_cons_self
    have hls : ∀ x ∈ ls, x.contains NL = false := fun x hx => hl x (List.mem_cons_of_mem _ hx)
    rw [wholeLinesBefore, joinLines]
    split
    · -- the first line is whole
      obtain ⟨j, rfl⟩ : ∃ j, k = l.length + (j + 1) := ⟨k - (l.length + 1), by omega⟩
      have e : l.length + (j + 1) - (l.length + 1) = j := by omega
      rw [List.take_length_add_append, List.take_succ_cons, wholeLines_nl_append, e, ih hls,
        Nat.add_comm 1, List.take_succ_cons, joinLines]
    · -- the cut is inside the first line: no newline at all
      rw [List.take_zero, List.take_append_of_le_length (by omega), joinLines, wholeLines_eq_nil_iff]
      rw [Bool.eq_false_iff] at hl0 ⊢
      exact fun h => hl0 (List.contains_iff_mem.2 (List.mem_of_mem_take (List.contains_iff_mem.1 h)))

/-! ### a file of whole lines is read line by line -/

/-- what the loop does with a list of line buffers -/
def foldLines {σ : Type} (step : σ → Bytes → PR (σ × Bool)) : List Bytes → σ → PR σ
  | [], st => .ok st
  | l :: ls, st =>
    match step st l with
    | .ok (st1, true) => foldLines step ls st1
    | .ok (st1, false) => .ok st1
    | .err e => .err e
    | .oob t => .oob t

theorem fgetsAux_line (n : Nat) (l t : Bytes) (hl : l.contains NL = false) (hn : l.length < n) :
    fgetsAux n (l ++ NL :: t) = (l ++ [NL], t) := by
  induction l generalizing n with
  | nil =>
    cases n with
    | zero => omega
    | succ n => simp [fgetsAux]
  | cons c r ih =>
    cases n with
    | zero => omega
    | succ n =>
      simp only [List.contains_cons, Bool.or_eq_false_iff] at hl
      simp only [List.cons_append, fgetsAux]
      have hc : (c == NL) = false := by
        cases h : c == NL with
        | false => rfl
        | true =>
          have : c = NL := by simpa using h
          subst this
          simp at hl
      rw [hc]
      simp only [Bool.false_eq_true, ↓reduceIte]
      rw [ih n hl.2 (by simp only [List.length_cons] at hn; omega)]

/-- a line without NUL bytes that ends with its newline passes the gate -/
theorem terminated_line (l : Bytes) (h0 : l.contains 0 = false) : terminated (l ++ [NL]) = true := by
  have hne : ∀ a ∈ l, (a != 0) = true := by
    intro a ha
    rw [bne_iff_ne]
    rintro rfl
    rw [List.contains_iff_mem.2 ha] at h0
    cases h0
  unfold terminated cstr
  rw [List.takeWhile_append_of_pos hne]
  simp [NL]

theorem getline_line (nl : Bool) (l t : Bytes) (hl : l.contains NL = false) (h0 : l.contains 0 = false) :
    nlGate nl (getline (l ++ NL :: t)) = some (l ++ [NL], t) := by
  unfold getline
  rw [fgets_of_ne_nil (by simp)]
  rw [fgetsAux_line _ l t hl (by simp; omega)]
  simp [nlGate, terminated_line l h0]

/-- on a file made of whole lines the `getline` loops (with or without the newline fix) handle
    exactly those lines, in order -/
theorem lineLoop_joinLines {σ : Type} (nl : Bool) (step : σ → Bytes → PR (σ × Bool)) (ls : List Bytes)
    (hl : ∀ l ∈ ls, CleanLine l) (n : Nat) (hn : (joinLines ls).length < n) (st : σ) :
    lineLoop (fun s => nlGate nl (getline s)) step n (joinLines ls) st =
      foldLines step (ls.map (· ++ [NL])) st := by
  induction ls generalizing n st with
  | nil =>
    cases n with
    | zero => simp [joinLines] at hn
    | succ n => simp [lineLoop, joinLines, getline, fgets, nlGate, foldLines]
  | cons l ls ih =>
    cases n with
    | zero => omega
    | succ n =>
      have hc := hl l (by simp)
      simp only [joinLines, lineLoop, List.map_cons, foldLines]
      rw [getline_line nl l _ hc.1 hc.2]
      simp only
      cases step st (l ++ [NL]) with
      | ok q =>
        obtain ⟨st1, c⟩ := q
        cases c with
        | true =>
          simp only
          apply ih (fun x hx => hl x (by simp [hx]))
          simp only [joinLines, List.length_append, List.length_cons] at hn
          omega
        | false => rfl
      | err e => rfl
      | oob t => rfl

end Uft.TextScan

namespace Uft.TaskTxt
open Uft.TextScan

theorem wholeGet_getLineG : WholeGet (getLineG true) := getline_whole
theorem shrinks_getLineG (nl : Bool) : Shrinks (getLineG nl) := fun _ _ _ h => shrinks_fgets (by omega) h
theorem wholeGet_getMapLineG : WholeGet (getMapLineG true) := fgets_whole 4096
theorem shrinks_getMapLineG (nl : Bool) : Shrinks (getMapLineG nl) := fun _ _ _ h => shrinks_fgets (by omega) h

theorem parseTaskTxt_whole (fixed : Bool) (s : Bytes) :
    parseTaskTxt fixed true (wholeLines s) = parseTaskTxt fixed true s := by
  unfold parseTaskTxt parseLines
  rw [lineLoop_whole_fuel wholeGet_getLineG (shrinks_getLineG true)]

theorem parseMap_whole (fixed : Bool) (s : Bytes) :
    parseMap fixed true (wholeLines s) = parseMap fixed true s := by
  unfold parseMap mapLines
  rw [lineLoop_whole_fuel wholeGet_getMapLineG (shrinks_getMapLineG true)]

theorem parseSym_whole (fixed : Bool) (modname s : Bytes) :
    parseSym fixed true modname (wholeLines s) = parseSym fixed true modname s := by
  unfold parseSym checkSymFile checkLoop symLines
  rw [lineLoop_whole_fuel wholeGet_getLineG (shrinks_getLineG true),
    lineLoop_whole_fuel wholeGet_getLineG (shrinks_getLineG true)]

end Uft.TaskTxt

namespace Uft.InfoFile
open Uft.TextScan

/-- apply `f` to the rest of the stream a reader hands back -/
def mapRest {α : Type} (f : Bytes → Bytes) : PR (α × Bytes) → PR (α × Bytes)
  | .ok (a, r) => .ok (a, f r)
  | .err e => .err e
  | .oob t => .oob t

theorem pure_whole {α : Type} (a : α) (r : Bytes) :
    (pure (a, wholeLines r) : PR (α × Bytes)) = mapRest wholeLines (pure (a, r)) := rfl

/-- What the two sets of fixes give for a reader of the `info` handlers, `x` being its result on a
    stream and `w` its result on the whole-line prefix of that stream: with the memory-safety fixes `x` is
    not `oob`; with the newline gate `w` is `x` with the rest cut to its whole lines.  The two facts hang on
    different flags but follow the same structure of a handler, so each handler is walked once for both. -/
def SafeWhole (fixed nl : Bool) {α : Type} (x w : PR (α × Bytes)) : Prop :=
  (fixed = true → x.isOob = false) ∧ (nl = true → w = mapRest wholeLines x)

theorem SafeWhole.leaf {fixed nl : Bool} {α : Type} {x : PR (α × Bytes)} (h : x.isOob = false) :
    SafeWhole fixed nl x (mapRest wholeLines x) :=
  ⟨fun _ => h, fun _ => rfl⟩

theorem SafeWhole.bind {fixed nl : Bool} {α β : Type} {x w : PR (α × Bytes)} {f : α × Bytes → PR (β × Bytes)}
    (hx : SafeWhole fixed nl x w) (hf : ∀ a r, SafeWhole fixed nl (f (a, r)) (f (a, wholeLines r))) :
    SafeWhole fixed nl (x >>= f) (w >>= f) := by
  refine ⟨fun h => isOob_bind (hx.1 h) fun p => (hf p.1 p.2).1 h, fun h => ?_⟩
  rw [hx.2 h]
  cases x with
  | ok p => exact (hf p.1 p.2).2 h
  | err e => rfl
  | oob t => rfl

/-- a step that does not read the stream (`copy_info_str`, `sscanf`, the `tids=` loop) -/
theorem SafeWhole.bind' {fixed nl : Bool} {α β : Type} {y : PR α} {f g : α → PR (β × Bytes)}
    (hy : fixed = true → y.isOob = false) (h : ∀ a, SafeWhole fixed nl (f a) (g a)) :
    SafeWhole fixed nl (y >>= f) (y >>= g) := by
  refine ⟨fun hfx => isOob_bind (hy hfx) fun a => (h a).1 hfx, fun hn => ?_⟩
  cases y with
  | ok a => exact (h a).2 hn
  | err e => rfl
  | oob t => rfl

theorem SafeWhole.ite {fixed nl : Bool} {α : Type} {c : Prop} [Decidable c] {x w x' w' : PR (α × Bytes)}
    (h : SafeWhole fixed nl x w) (h' : SafeWhole fixed nl x' w') :
    SafeWhole fixed nl (if c then x else x') (if c then w else w') := by
  split
  · exact h
  · exact h'

theorem bufLine_safeWhole (fixed nl : Bool) (s : Bytes) :
    SafeWhole fixed nl (bufLine nl s) (bufLine nl (wholeLines s)) := by
  unfold bufLine
  refine ⟨fun _ => ?_, fun h => ?_⟩
  · cases nlGate nl (fgets PATH_MAX s) <;> rfl
  · subst h
    rw [fgets_whole]
    cases nlGate true (fgets PATH_MAX s) <;> rfl

theorem gLine_safeWhole (fixed nl : Bool) (s : Bytes) :
    SafeWhole fixed nl (gLine nl s) (gLine nl (wholeLines s)) := by
  unfold gLine
  refine ⟨fun _ => ?_, fun h => ?_⟩
  · cases nlGate nl (getline s) <;> rfl
  · subst h
    rw [getline_whole]
    cases nlGate true (getline s) <;> rfl

theorem readKV_safeWhole (fixed nl : Bool) (key : String) (i : Info) (s : Bytes) :
    SafeWhole fixed nl (readKV fixed nl key i s) (readKV fixed nl key i (wholeLines s)) := by
  unfold readKV
  exact (bufLine_safeWhole fixed nl s).bind fun l r =>
    .ite (.leaf rfl) (.bind' (copyInfoStr_safe · _) fun _ => .leaf rfl)

theorem sectionLoop_safeWhole (fixed nl : Bool) (pre : String) (keys : List String) (n : Nat) (i : Info) (s : Bytes) :
    SafeWhole fixed nl (sectionLoop fixed nl pre keys n i s) (sectionLoop fixed nl pre keys n i (wholeLines s)) := by
  induction n generalizing i s with
  | zero => exact .leaf rfl
  | succ n ih =>
    unfold sectionLoop
    refine (bufLine_safeWhole fixed nl s).bind fun l r => .ite (.leaf rfl) ?_
    simp only
    split
    · exact .bind' (copyInfoStr_safe · _) fun v => ih _ _
    · exact ih _ _

theorem readSection_safeWhole (fixed nl : Bool) (pre : String) (max : Nat) (keys : List String) (i : Info) (s : Bytes) :
    SafeWhole fixed nl (readSection fixed nl pre max keys i s) (readSection fixed nl pre max keys i (wholeLines s)) := by
  unfold readSection
  exact (bufLine_safeWhole fixed nl s).bind fun l r =>
    .ite (.leaf rfl) (.bind' (fun _ => scanLines_safe _ _) fun n => sectionLoop_safeWhole _ _ _ _ _ _ _)

theorem taskLoop_safeWhole (fixed nl : Bool) (n : Nat) (i : Info) (s : Bytes) :
    SafeWhole fixed nl (taskLoop fixed nl n i s) (taskLoop fixed nl n i (wholeLines s)) := by
  induction n generalizing i s with
  | zero => exact .leaf rfl
  | succ n ih =>
    unfold taskLoop
    exact (gLine_safeWhole fixed nl s).bind fun l r =>
      .ite (.leaf rfl) (.ite (ih _ _) (.ite (.ite (.leaf rfl)
        (.bind' (tidsLoop_safe · _ _ _ _ _) fun tids => .ite (.leaf rfl) (ih _ _))) (.leaf rfl)))

theorem readTaskinfo_safeWhole (fixed nl : Bool) (i : Info) (s : Bytes) :
    SafeWhole fixed nl (readTaskinfo fixed nl i s) (readTaskinfo fixed nl i (wholeLines s)) := by
  unfold readTaskinfo
  exact (gLine_safeWhole fixed nl s).bind fun l r =>
    .ite (.leaf rfl) (.bind' (fun _ => scanLines_safe _ _) fun n => taskLoop_safeWhole _ _ _ _ _)

theorem argLoop_safeWhole (fixed nl : Bool) (n : Nat) (i : Info) (s : Bytes) :
    SafeWhole fixed nl (argLoop fixed nl n i s) (argLoop fixed nl n i (wholeLines s)) := by
  induction n generalizing i s with
  | zero => exact .leaf rfl
  | succ n ih =>
    unfold argLoop
    refine (gLine_safeWhole fixed nl s).bind fun l r => ?_
    simp only
    split
    · exact .bind' (copyInfoStr_safe · _) fun v => ih _ _
    · exact .ite (ih _ _) (.leaf rfl)

theorem readArgSpec_safeWhole (fixed nl : Bool) (i : Info) (s : Bytes) :
    SafeWhole fixed nl (readArgSpec fixed nl i s) (readArgSpec fixed nl i (wholeLines s)) := by
  unfold readArgSpec
  exact (gLine_safeWhole fixed nl s).bind fun l r =>
    .ite (.leaf rfl) (.ite (.bind' (copyInfoStr_safe · _) fun _ => .leaf rfl)
      (.bind' (fun _ => scanLines_safe _ _) fun n => argLoop_safeWhole _ _ _ _ _))

theorem readPrefixOnly_safeWhole (fixed nl : Bool) (key : String) (i : Info) (s : Bytes) :
    SafeWhole fixed nl (readPrefixOnly nl key i s) (readPrefixOnly nl key i (wholeLines s)) := by
  unfold readPrefixOnly
  exact (bufLine_safeWhole fixed nl s).bind fun l r => .ite (.leaf rfl) (.leaf rfl)

theorem readExitStatus_safeWhole (fixed nl : Bool) (i : Info) (s : Bytes) :
    SafeWhole fixed nl (readExitStatus nl i s) (readExitStatus nl i (wholeLines s)) := by
  unfold readExitStatus
  refine (bufLine_safeWhole fixed nl s).bind fun l r => .ite (.leaf rfl) ?_
  split <;> exact .leaf rfl

theorem readRecordDate_safeWhole (fixed nl : Bool) (i : Info) (s : Bytes) :
    SafeWhole fixed nl (readRecordDate fixed nl i s) (readRecordDate fixed nl i (wholeLines s)) := by
  unfold readRecordDate
  exact (readKV_safeWhole _ _ _ _ _).bind fun i1 r1 => readKV_safeWhole _ _ _ _ _

theorem readPatternType_safeWhole (fixed nl : Bool) (i : Info) (s : Bytes) :
    SafeWhole fixed nl (readPatternType nl i s) (readPatternType nl i (wholeLines s)) := by
  unfold readPatternType
  exact (bufLine_safeWhole fixed nl s).bind fun l r => .ite (.leaf rfl) (.leaf rfl)

theorem handler_safeWhole (fixed nl : Bool) (bit : Nat) (i : Info) (s : Bytes) :
    SafeWhole fixed nl (handler fixed nl bit i s) (handler fixed nl bit i (wholeLines s)) := by
  unfold handler
  split
  · exact readKV_safeWhole _ _ _ _ _
  · exact .leaf rfl
  · exact readExitStatus_safeWhole _ _ _ _
  · exact readKV_safeWhole _ _ _ _ _
  · exact readSection_safeWhole _ _ _ _ _ _ _
  · exact readKV_safeWhole _ _ _ _ _
  · exact readSection_safeWhole _ _ _ _ _ _ _
  · exact readTaskinfo_safeWhole _ _ _ _
  · exact readSection_safeWhole _ _ _ _ _ _ _
  · exact readPrefixOnly_safeWhole _ _ _ _ _
  · exact readArgSpec_safeWhole _ _ _ _
  · exact readRecordDate_safeWhole _ _ _ _
  · exact readPatternType_safeWhole _ _ _ _
  · exact readKV_safeWhole _ _ _ _ _
  · exact readKV_safeWhole _ _ _ _ _
  · exact .leaf rfl

theorem readHandlers_safe (nl : Bool) (mask : Nat) (bits : List Nat) (i : Info) (s : Bytes) :
    (readHandlers true nl mask bits i s).isOob = false := by
  induction bits generalizing i s with
  | nil => rfl
  | cons bit rest ih =>
    unfold readHandlers
    refine isOob_ite (ih _ _) ?_
    have := (handler_safeWhole true nl bit i s).1 rfl
    split
    · exact ih _ _
    · rfl
    · rename_i hh
      exact oob_absurd this hh

theorem readHandlers_whole (fixed : Bool) (mask : Nat) (bits : List Nat) (i : Info) (s : Bytes) :
    readHandlers fixed true mask bits i (wholeLines s) = readHandlers fixed true mask bits i s := by
  induction bits generalizing i s with
  | nil => rfl
  | cons bit rest ih =>
    unfold readHandlers
    split
    · exact ih _ _
    · rw [(handler_safeWhole fixed true bit i s).2 rfl]
      cases handler fixed true bit i s with
      | ok p => obtain ⟨i1, s1⟩ := p; exact ih _ _
      | err e => rfl
      | oob t => rfl

/-- `open_info_file` looks at the 40 header bytes only and hands the rest on -/
theorem parseHdr_append {h : Bytes} (hh : h.length = 40) (t : Bytes) :
    parseHdr (h ++ t) =
      match parseHdr h with
      | .ok (hd, _) => .ok (hd, t)
      | .err e => .err e
      | .oob x => .oob x := by
  have e1 : (h ++ t).take 40 = h := by rw [← hh, List.take_left]
  have e2 : (h ++ t).drop 40 = t := by rw [← hh, List.drop_left]
  have e3 : h.take 40 = h := by rw [← hh, List.take_length]
  have e4 : ¬ (h ++ t).length < 40 := by rw [List.length_append]; omega
  have e5 : ¬ h.length < 40 := by omega
  unfold parseHdr
  simp only [e1, e2, e3, if_neg e4, if_neg e5]
  generalize (h.take 8 != magic) = c1
  generalize ((h.drop 14).head? != some 1) = c2
  generalize (decide (leNat ((h.drop 8).take 4) < 3) || decide (leNat ((h.drop 8).take 4) > 4)) = c3
  cases c1 <;> cases c2 <;> cases c3 <;> rfl

theorem infoWhole_append {h : Bytes} (hh : h.length = 40) (t : Bytes) :
    infoWhole (h ++ t) = h ++ wholeLines t := by
  unfold infoWhole
  rw [if_neg (by rw [List.length_append]; omega), ← hh, List.take_left, List.drop_left]

theorem parseInfo_safe (nl : Bool) (s : Bytes) : (parseInfo true nl s).isOob = false := by
  unfold parseInfo
  have hh := parseHdr_safe s
  split
  · rename_i h r _
    have := readHandlers_safe nl h.infoMask (List.range 15) {} r
    split
    · rfl
    · rfl
    · rename_i hr
      exact oob_absurd this hr
  · rfl
  · rename_i hp
    exact oob_absurd hh hp

theorem parseInfo_whole (fixed : Bool) (s : Bytes) :
    parseInfo fixed true (infoWhole s) = parseInfo fixed true s := by
  by_cases h : s.length < 40
  · unfold infoWhole
    rw [if_pos h]
  · have hlen : (s.take 40).length = 40 := by rw [List.length_take]; omega
    rw [← List.take_append_drop 40 s, infoWhole_append hlen]
    unfold parseInfo
    rw [parseHdr_append hlen, parseHdr_append hlen]
    cases parseHdr (s.take 40) with
    | ok p =>
      simp only
      rw [readHandlers_whole]
    | err e => rfl
    | oob t => rfl

end Uft.InfoFile

import Uft.Lemmas.McountRestore
/- C05 × C11: frames that hold filter state and are left by something other than their return
   (`unwindOne`/`unwindExc`, `pltEntry`, `padEntryPg`, `jmpSave`/`jmpRestore` of Model/Mcount.lean).
   Dropping frames by exception unwinding is the sequence of their exit hooks (`unwind_eq_returns`), and the
   filter state comes back across unwinding (`restored_unwind`) and across longjmp (`restored_longjmp`). -/
namespace Uft.Mcount

/-- dropping a frame by exception unwinding is, for the thread state (filter state, record index,
    shadow stack, records written), exactly the exit hook of that frame run at the same clock reading -/
theorem unwindOne_eq_exit (cfg : Cfg) (hf : cfg.fast = false) (s : St) (ho : s.over = 0) (t : Nat) :
    unwindOne cfg s t = exit cfg s t := by
  unfold unwindOne exit
  simp only [ho, Nat.lt_irrefl, ↓reduceIte]
  cases hfr : s.frames with
  | nil => rfl
  | cons f rest =>
    simp only
    by_cases hn : f.norecord = true
    · by_cases hc : f.cyg = true
      · simp [hn, hc]
      · simp only [Bool.not_eq_true] at hc
        simp [hn, hc, exitFilterRecord, hf]
    · simp only [Bool.not_eq_true] at hn
      simp [hn]

theorem exit_over_zero (cfg : Cfg) (s : St) (ho : s.over = 0) (t : Nat) : (exit cfg s t).over = 0 := by
  unfold exit
  simp only [ho, Nat.lt_irrefl, ↓reduceIte]
  cases s.frames with
  | nil => simpa using ho
  | cons f rest =>
    simp only
    rw [(exitFilterRecord_keeps cfg _).1]

/-- … and so is unwinding any number of frames: the sequence of their returns, innermost first -/
theorem unwindExc_eq_exits (cfg : Cfg) (hf : cfg.fast = false) :
    ∀ (ts : List Nat) (s : St), s.over = 0 → unwindExc cfg s ts = ts.foldl (exit cfg) s
  | [], _, _ => rfl
  | t :: ts, s, ho => by
    simp only [unwindExc, List.foldl_cons]
    rw [unwindOne_eq_exit cfg hf s ho]
    exact unwindExc_eq_exits cfg hf ts _ (exit_over_zero cfg s ho t)

theorem unwindExc_append (cfg : Cfg) : ∀ (a b : List Nat) (s : St),
    unwindExc cfg s (a ++ b) = unwindExc cfg (unwindExc cfg s a) b
  | [], _, _ => rfl
  | t :: a, b, s => by simp only [List.cons_append, unwindExc]; exact unwindExc_append cfg a b _

theorem core_over (s : St) : (core s).over = s.over := rfl

theorem core_frames_len (s : St) : (core s).frames.length = s.frames.length := by simp [core]

theorem shape_of_core {a b : St} (h : core a = core b) : a.over = b.over ∧ a.frames.length = b.frames.length :=
  ⟨congrArg Core.over h, by simpa [core] using congrArg (fun c => c.frames.length) h⟩

/-- a call that is still open: entered at `t0`, after which the completed calls `kids` ran below it -/
structure OpenCall where
  f : Nat
  t0 : Nat
  kids : Calls

/-- enter the calls of `p` one inside the other (outermost first), each followed by its completed
    callees.  Returns the state and the number of them that have a frame (the hook took the call). -/
def runOpen (cfg : Cfg) (k : Kind) : St → List OpenCall → St × Nat
  | s, [] => (s, 0)
  | s, o :: rest =>
    let e := entry cfg k s o.f o.t0
    let r := runOpen cfg k (runCalls cfg k e.1 o.kids) rest
    (r.1, r.2 + (if e.2 then 1 else 0))

theorem core_openCall (cfg : Cfg) (hf : cfg.fast = false) (hfix : cfg.f4fixed = true)
    (hfin : ∀ f, (cfg.trig f).finish = false) (s : St) (ho : s.over = 0) (o : OpenCall) :
    core (runCalls cfg .pg (entry cfg .pg s o.f o.t0).1 o.kids) = core (entry cfg .pg s o.f o.t0).1 ∧
    (runCalls cfg .pg (entry cfg .pg s o.f o.t0).1 o.kids).over = 0 := by
  have he0 : (entry cfg .pg s o.f o.t0).1.over = 0 := by rw [entry_pg_over]; exact ho
  have hk := C05.restored_calls_pg cfg hf hfix hfin o.kids (entry cfg .pg s o.f o.t0).1 (Or.inl he0)
  exact ⟨hk, (congrArg Core.over hk).trans he0⟩

def exitCoreN : Nat → Core → Core
  | 0, c => c
  | n + 1, c => exitCoreN n (exitCore c)

theorem core_exits (cfg : Cfg) (hf : cfg.fast = false) : ∀ (ts : List Nat) (s : St),
    core (ts.foldl (exit cfg) s) = exitCoreN ts.length (core s)
  | [], _ => rfl
  | t :: ts, s => by
    rw [List.foldl_cons, core_exits cfg hf ts, core_exit cfg hf]
    rfl

theorem exitCoreN_succ_outer (n : Nat) (c : Core) : exitCoreN (n + 1) c = exitCore (exitCoreN n c) := by
  induction n generalizing c with
  | zero => rfl
  | succ k ih => simp only [exitCoreN] at ih ⊢; rw [ih]

/-- a -pg entry that takes the call adds exactly one frame -/
theorem entry_pg_frames (cfg : Cfg) (s : St) (f t0 : Nat) :
    (entry cfg .pg s f t0).1.frames.length = s.frames.length + (if (entry cfg .pg s f t0).2 then 1 else 0) := by
  have hc : (entryFilterCheck cfg s f).2.1.frames.length = s.frames.length := by
    rcases (entryFilterCheck_keeps cfg s f).2 with h | h
    · rw [h]
    · rw [h, recordTrace_length]
  rcases entry_frames cfg .pg s f t0 with ⟨h, hno⟩ | ⟨ht, G, hG | hG, _, _⟩
  · rw [h, hno rfl, hc]
    rfl
  · rw [hG, ht, List.length_cons, hc]
    rfl
  · rw [hG, ht, recordTrace_length, List.length_cons, hc]
    rfl

/-- the exit hooks of the open calls that have a frame lead back to the filter state before the outermost -/
theorem core_runOpen (cfg : Cfg) (hf : cfg.fast = false) (hfix : cfg.f4fixed = true)
    (hfin : ∀ f, (cfg.trig f).finish = false) :
    ∀ (p : List OpenCall) (s : St), s.over = 0 →
      exitCoreN (runOpen cfg .pg s p).2 (core (runOpen cfg .pg s p).1) = core s ∧ (runOpen cfg .pg s p).1.over = 0 ∧
      (runOpen cfg .pg s p).1.frames.length = s.frames.length + (runOpen cfg .pg s p).2
  | [], _, ho => ⟨rfl, ho, rfl⟩
  | o :: rest, s, ho => by
    obtain ⟨hk, hs1⟩ := core_openCall cfg hf hfix hfin s ho o
    obtain ⟨ih, iho, ihl⟩ := core_runOpen cfg hf hfix hfin rest _ hs1
    simp only [runOpen]
    refine ⟨?_, iho, ?_⟩
    · by_cases hp : (entry cfg .pg s o.f o.t0).2 = true
      · simp only [hp, ↓reduceIte]
        rw [exitCoreN_succ_outer, ih, hk, core_entry_pg_push cfg hf s o.f o.t0 (hfin o.f) hp]
        exact exitCore_entryCore cfg o.f _ (Or.inl ho)
      · have hp' : (entry cfg .pg s o.f o.t0).2 = false := by simpa using hp
        simp only [hp', Bool.false_eq_true, ↓reduceIte, Nat.add_zero]
        rw [ih, hk]
        exact core_entry_pg_nopush cfg hf hfix s o.f o.t0 hp'
    · rw [ihl, (shape_of_core hk).2, entry_pg_frames cfg s o.f o.t0]
      omega

/-- **State restoration across non-local exits.**  From any thread state, enter any chain of nested calls
    (each after any forest of completed calls), then drop the frames of the chain the way
    mcount_rstack_rehook_exception does: the filter state is the one before the outermost of them was
    entered. -/
theorem restored_unwind (cfg : Cfg) (hf : cfg.fast = false) (hfix : cfg.f4fixed = true)
    (hfin : ∀ f, (cfg.trig f).finish = false) (p : List OpenCall) (s : St) (ts : List Nat) (ho : s.over = 0)
    (hl : ts.length = (runOpen cfg .pg s p).2) :
    core (unwindExc cfg (runOpen cfg .pg s p).1 ts) = core s ∧ (unwindExc cfg (runOpen cfg .pg s p).1 ts).over = 0 := by
  obtain ⟨h, ho', _⟩ := core_runOpen cfg hf hfix hfin p s ho
  have hc : core (unwindExc cfg (runOpen cfg .pg s p).1 ts) = core s := by
    rw [unwindExc_eq_exits cfg hf ts _ ho', core_exits cfg hf, hl, h]
  exact ⟨hc, (congrArg Core.over hc).trans ho⟩

def Calls.append : Calls → Calls → Calls
  | .nil, ys => ys
  | .cons c rest, ys => .cons c (Calls.append rest ys)

theorem runCalls_append (cfg : Cfg) (k : Kind) : ∀ (xs ys : Calls) (s : St),
    runCalls cfg k s (Calls.append xs ys) = runCalls cfg k (runCalls cfg k s xs) ys
  | .nil, _, _ => rfl
  | .cons c rest, ys, s => by
    simp only [Calls.append, runCalls]
    exact runCalls_append cfg k rest ys _

/-- the chain of open calls `p` (outermost first) closed at the clock readings `ts` (one per call,
    outermost first): the call tree of the history in which every one of them returned -/
def closePath : List OpenCall → List Nat → Calls
  | o :: rest, t :: ts => .cons (.node o.f o.t0 t (Calls.append o.kids (closePath rest ts))) .nil
  | _, _ => .nil

/-- the clock readings of the calls of `p` that have a frame, innermost first: what
    mcount_rstack_rehook_exception reads when it drops them -/
def openTimes (cfg : Cfg) (k : Kind) : St → List OpenCall → List Nat → List Nat
  | s, o :: rest, t :: ts =>
    let e := entry cfg k s o.f o.t0
    openTimes cfg k (runCalls cfg k e.1 o.kids) rest ts ++ (if e.2 then [t] else [])
  | _, _, _ => []

theorem openTimes_length (cfg : Cfg) (k : Kind) : ∀ (p : List OpenCall) (ts : List Nat) (s : St),
    ts.length = p.length → (openTimes cfg k s p ts).length = (runOpen cfg k s p).2
  | [], ts, s, _ => by cases ts <;> rfl
  | o :: rest, [], s, h => by simp at h
  | o :: rest, t :: ts, s, h => by
    simp only [openTimes, runOpen, List.length_append]
    rw [openTimes_length cfg k rest ts _ (by simpa using h)]
    split <;> rfl

/-- **An exception that unwinds a chain of calls leaves the thread — filter state, shadow stack and
    the records written — exactly as if each of these calls had returned** at the moment its frame was
    dropped. -/
theorem unwind_eq_returns (cfg : Cfg) (hf : cfg.fast = false) (hfix : cfg.f4fixed = true)
    (hfin : ∀ f, (cfg.trig f).finish = false) :
    ∀ (p : List OpenCall) (ts : List Nat) (s : St), s.over = 0 → ts.length = p.length →
      unwindExc cfg (runOpen cfg .pg s p).1 (openTimes cfg .pg s p ts) = runCalls cfg .pg s (closePath p ts)
  | [], ts, s, _, _ => by cases ts <;> rfl
  | o :: rest, [], s, _, h => by simp at h
  | o :: rest, t :: ts, s, ho, h => by
    have hl : ts.length = rest.length := by simpa using h
    obtain ⟨_, hs1⟩ := core_openCall cfg hf hfix hfin s ho o
    have ih := unwind_eq_returns cfg hf hfix hfin rest ts _ hs1 hl
    have hov := (restored_unwind cfg hf hfix hfin rest _ (openTimes cfg .pg _ rest ts) hs1
      (openTimes_length cfg .pg rest ts _ hl)).2
    simp only [runOpen, openTimes, closePath, runCalls, runCall, runCalls_append, unwindExc_append]
    rw [ih] at hov ⊢
    split
    · simp only [unwindExc]
      exact unwindOne_eq_exit cfg hf _ hov t
    · rfl

theorem flushTop_core (s : St) : core (flushTop s) = core s := by
  simp [flushTop, core, recordTrace_core]

/-- a hooked library call changes the filter state exactly as the cygprof hook does (it pushes a frame
    for a rejected call too) -/
theorem core_pltEntry (cfg : Cfg) (hf : cfg.fast = false) (s : St) (a t : Nat) (fl : Bool)
    (hfin : (cfg.trig a).finish = false) (htook : (pltEntry cfg s a t fl).2 = true) :
    core (pltEntry cfg s a t fl).1 = entryCore cfg a (core s) := by
  rw [← core_entry_cyg cfg hf s a t hfin]
  unfold pltEntry entry at *
  generalize entryFilterCheck cfg s a = c at htook ⊢
  obtain ⟨fr, s1, tr⟩ := c
  simp only at htook ⊢
  by_cases hr : (fr == FR.rstack) = true
  · simp [hr] at htook
  · simp only [hr, Bool.false_eq_true, ↓reduceIte]
    unfold pltPush
    simp only
    split
    · rw [flushTop_core]
      exact core_entryFilterRecord_congr cfg hf s1 tr _ _ rfl rfl
    · exact core_entryFilterRecord_congr cfg hf s1 tr _ _ rfl rfl

/- longjmp: the exit hooks of the abandoned frames never run, so `jmpRestore` has to give back the in/out counts
   they hold (`undoCount` over the dead frames); the other filter values come back with the second exit of
   the setjmp entry.  `cnt`/`undoCountC` follow the counts alone through n exit hooks. -/

def cnt (fl : Filt) : Nat × Nat := (fl.inCount, fl.outCount)

/-- the counts part of the exit hook, on the abstraction of a frame -/
def undoCountC (p : Nat × Nat) (f : CoreF) : Nat × Nat :=
  (if f.filtered then p.1 - 1 else p.1, if !f.filtered && f.notrace then p.2 - 1 else p.2)

theorem cnt_foldl_undoCount : ∀ (fs : List Frame) (fl : Filt),
    cnt (fs.foldl undoCount fl) = (fs.map coreF).foldl undoCountC (cnt fl)
  | [], _ => rfl
  | f :: fs, fl => cnt_foldl_undoCount fs (undoCount fl f)

theorem undoCount_other (fl : Filt) (f : Frame) :
    (undoCount fl f).depth = fl.depth ∧ (undoCount fl f).maxDepth = fl.maxDepth ∧ (undoCount fl f).time = fl.time ∧
    (undoCount fl f).size = fl.size := ⟨rfl, rfl, rfl, rfl⟩

theorem exitCore_top (c : Core) (ho : c.over = 0) :
    cnt (exitCore c).filt = (c.frames.take 1).foldl undoCountC (cnt c.filt) ∧
    (exitCore c).frames = c.frames.tail ∧ (exitCore c).over = 0 := by
  obtain ⟨fl, ri, ov, frames⟩ := c
  dsimp only at ho
  subst ho
  cases frames with
  | nil => exact ⟨rfl, rfl, rfl⟩
  | cons f r => exact ⟨rfl, rfl, rfl⟩

/-- the counts after n exit hooks: the top n frames give theirs back -/
theorem exitCoreN_cnt : ∀ (n : Nat) (c : Core), c.over = 0 →
    cnt (exitCoreN n c).filt = (c.frames.take n).foldl undoCountC (cnt c.filt) ∧
    (exitCoreN n c).frames = c.frames.drop n ∧ (exitCoreN n c).over = 0
  | 0, c, ho => by simp [exitCoreN, ho]
  | n + 1, c, ho => by
    obtain ⟨h1, h2, h3⟩ := exitCore_top c ho
    have ih := exitCoreN_cnt n (exitCore c) h3
    simp only [exitCoreN]
    rw [ih.1, ih.2.1, h1, h2]
    refine ⟨?_, ?_, ih.2.2⟩
    · cases c.frames <;> simp
    · cases c.frames <;> simp

theorem pltEntry_shape (cfg : Cfg) (hf : cfg.fast = false) (s : St) (ho : s.over = 0) (a t : Nat) (fl : Bool)
    (hfin : (cfg.trig a).finish = false) (htook : (pltEntry cfg s a t fl).2 = true) :
    exitCore (core (pltEntry cfg s a t fl).1) = core s ∧
    (pltEntry cfg s a t fl).1.over = 0 ∧ (pltEntry cfg s a t fl).1.frames.length = s.frames.length + 1 := by
  have hC := core_pltEntry cfg hf s a t fl hfin htook
  have hx : exitCore (core (pltEntry cfg s a t fl).1) = core s := by
    rw [hC]
    exact exitCore_entryCore cfg a _ (Or.inl ho)
  have hnf : ¬ ((core s).frames.length + (core s).over ≥ cfg.maxStack) := by
    intro hfull
    have := checkRstack_fst cfg s
    unfold pltEntry entryFilterCheck at htook
    simp only [core_frames_len, core_over] at hfull
    simp [this, hfull] at htook
  have h1 := congrArg Core.over hC
  have h2 := congrArg (fun c => c.frames.length) hC
  simp only [core_over, core_frames_len] at h1 h2
  unfold entryCore at h1 h2
  simp only [hnf, ↓reduceIte] at h1 h2
  refine ⟨hx, ?_, ?_⟩
  · rw [h1]; split <;> exact ho
  · rw [h2]; split <;> simp [core_frames_len]

/-- **State restoration across longjmp (repaired restore_jmpbuf_rstack).**  From any thread state `s0`:
    setjmp (a library call) is hooked and returns; then any chain of nested calls is entered (each after
    any forest of completed calls); the innermost calls longjmp (a library call, force-flushed or not).
    After restore_jmpbuf_rstack and the second return of setjmp the filter state is the one `s0` had. -/
theorem restored_longjmp (cfg : Cfg) (hf : cfg.fast = false) (hfix : cfg.f4fixed = true)
    (hfin : ∀ f, (cfg.trig f).finish = false) (s0 : St) (ho : s0.over = 0) (sj t0 t1 : Nat)
    (hsj : (pltEntry cfg s0 sj t0 false).2 = true) (p : List OpenCall) (lj t2 t3 : Nat) (fl : Bool) (fx : NLFix)
    (hfx : fx.ljCounts = true)
    (hlj : (pltEntry cfg (runOpen cfg .pg (exit cfg (pltEntry cfg s0 sj t0 false).1 t1) p).1 lj t2 fl).2 = true) :
    core (exit cfg (jmpRestore fx (pltEntry cfg (runOpen cfg .pg (exit cfg (pltEntry cfg s0 sj t0 false).1 t1) p).1 lj t2 fl).1
      (jmpSave (pltEntry cfg s0 sj t0 false).1)) t3) = core s0 := by
  -- the setjmp entry
  obtain ⟨hx1, heo, hel⟩ := pltEntry_shape cfg hf s0 ho sj t0 false (hfin sj) hsj
  generalize (pltEntry cfg s0 sj t0 false).1 = e at hx1 heo hel hlj ⊢
  have hs1 := (core_exit cfg hf e t1).trans hx1
  generalize exit cfg e t1 = s1 at hs1 hlj ⊢
  obtain ⟨hs1o, hs1l⟩ := shape_of_core hs1
  -- the open chain and the longjmp entry
  obtain ⟨hPc, hPo, hPl⟩ := core_runOpen cfg hf hfix hfin p s1 (hs1o.trans ho)
  generalize (runOpen cfg .pg s1 p).2 = n at hPc hPl
  generalize (runOpen cfg .pg s1 p).1 = sP at hPc hPo hPl hlj ⊢
  obtain ⟨hxL, hLo, hLl⟩ := pltEntry_shape cfg hf sP hPo lj t2 fl (hfin lj) hlj
  generalize (pltEntry cfg sP lj t2 fl).1 = sL at hxL hLo hLl ⊢
  -- n + 1 exit hooks from the longjmp entry lead back to s0
  have hback : exitCoreN (n + 1) (core sL) = core s0 := by
    simp only [exitCoreN]
    rw [hxL, hPc, hs1]
  have hcnt := exitCoreN_cnt (n + 1) (core sL) hLo
  rw [hback] at hcnt
  -- the restore
  obtain ⟨ef, er, hef⟩ : ∃ ef er, e.frames = ef :: er := by
    cases hfr : e.frames with
    | nil => simp [hfr] at hel
    | cons a b => exact ⟨a, b, rfl⟩
  have hdead : sL.frames.length + 1 - (jmpSave e).frames.length = n + 1 := by
    simp only [jmpSave, hel]; omega
  have hJ : core (jmpRestore fx sL (jmpSave e)) =
      { filt := eraseSv ((sL.frames.take (n + 1)).foldl undoCount sL.filt), recordIdx := e.recordIdx, over := 0,
        frames := coreF (clearTag ef) :: er.map coreF } := by
    unfold jmpRestore
    simp only [hfx, ↓reduceIte, hdead]
    simp only [jmpSave, hef, List.map_cons, core, hLo]
    simp [coreF, clearTag]
  rw [core_exit cfg hf, hJ]
  -- compare with exitCore (core e) = core s0
  have hce : core e = { filt := eraseSv e.filt, recordIdx := e.recordIdx, over := 0, frames := coreF ef :: er.map coreF } := by
    simp [core, hef, heo]
  rw [hce] at hx1
  have hc2 : cnt ((sL.frames.take (n + 1)).foldl undoCount sL.filt) = cnt (core s0).filt := by
    rw [cnt_foldl_undoCount, hcnt.1]
    simp [core, List.map_take, cnt, eraseSv]
  rw [← hx1]
  simp only [exitCore, Nat.lt_irrefl, ↓reduceIte]
  have hx1f := congrArg Core.filt hx1
  simp only [exitCore, Nat.lt_irrefl, ↓reduceIte] at hx1f
  congr 1
  · apply filt_ext
    · have := congrArg Prod.fst hc2
      have h5 := congrArg Filt.inCount hx1f
      simp only [cnt] at this
      simp only [coreF, clearTag, Bool.false_eq_true, ↓reduceIte, eraseSv_fields] at h5 ⊢
      rw [this, ← h5]
    · have := congrArg Prod.snd hc2
      have h5 := congrArg Filt.outCount hx1f
      simp only [cnt] at this
      simp only [coreF, clearTag, Bool.false_eq_true, ↓reduceIte, Bool.not_false, Bool.and_false, eraseSv_fields] at h5 ⊢
      rw [this, ← h5]
    all_goals simp [coreF, clearTag, eraseSv]

end Uft.Mcount

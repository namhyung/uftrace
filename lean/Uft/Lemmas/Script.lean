import Uft.Model.Script
import Uft.Model.Fstack
/- Lemmas for C18 (Props/C18.lean): the two main loops step by step, the per-task projection of the
   callback stream and the pairing invariant; the record-time hooks on the shadow stack; the interpreter
   lock of a binding; the argument buffer; the simulation between this model's script loop and the C07 one. -/
namespace Uft.Script

/-! ### the main loops under a change of the step function -/

theorem runWith_hom {α β : Type} (sa : Nat → TaskSt → Rec → TaskSt × List α)
    (sb : Nat → TaskSt → Rec → TaskSt × List β) (F : List β → List α) (hnil : F [] = [])
    (happ : ∀ a b, F (a ++ b) = F a ++ F b) (h1 : ∀ i st r, (sa i st r).1 = (sb i st r).1) :
    ∀ (s : List (Nat × Rec)) (g : G), (∀ p ∈ s, ∀ st, (sa p.1 st p.2).2 = F (sb p.1 st p.2).2) →
      (runWith sa g s).1 = (runWith sb g s).1 ∧ (runWith sa g s).2 = F (runWith sb g s).2
  | [], g, _ => ⟨rfl, hnil.symm⟩
  | (i, r) :: rest, g, h2 => by
    have ih := runWith_hom sa sb F hnil happ h1 rest (upd g i (sb i (g i) r).1)
      (fun p hp => h2 p (List.mem_cons_of_mem _ hp))
    simp only [runWith, h1, happ, h2 (i, r) List.mem_cons_self (g i)]
    exact ⟨ih.1, by rw [ih.2]⟩

theorem runX_hom {α β : Type} (sa : Nat → XSt → Rec → XSt × List α)
    (sb : Nat → XSt → Rec → XSt × List β) (F : List β → List α) (hnil : F [] = [])
    (happ : ∀ a b, F (a ++ b) = F a ++ F b) (h1 : ∀ i x r, (sa i x r).1 = (sb i x r).1)
    (h2 : ∀ i x r, (sa i x r).2 = F (sb i x r).2) :
    ∀ (s : List (Nat × Rec)) (x : XSt),
      (runX sa x s).1 = (runX sb x s).1 ∧ (runX sa x s).2 = F (runX sb x s).2
  | [], x => ⟨rfl, hnil.symm⟩
  | (i, r) :: rest, x => by
    have ih := runX_hom sa sb F hnil happ h1 h2 rest (sb i x r).1
    simp only [runX, h1, h2, happ]
    exact ⟨ih.1, by rw [ih.2]⟩

/-! ### script step against replay step -/

theorem matchFuncs_nil (cfg : Cfg) (h : cfg.funcs = []) (a : Nat) : matchFuncs cfg a = true := by
  simp [matchFuncs, h]

/-- the ENTRY test of cmds/script.c after the repair of F-C18-ARGS is replay's test -/
theorem entryHasArgs_fixed (cfg : Cfg) (ha : cfg.argsFixed = true) (r : Rec) :
    entryHasArgs cfg r = (r.more && cfg.showArgs) := by
  simp only [entryHasArgs, ha, ↓reduceIte, Bool.and_comm]

theorem scriptExitCb_eq_replay (cfg : Cfg) (hf : cfg.funcs = []) (hx : cfg.exitAddrFixed = true) (i : Nat) (s : TaskSt)
    (r : Rec) : scriptExitCb cfg i s r = (replayExitLine cfg i s r).map Shown.toCb := by
  unfold scriptExitCb replayExitLine
  rw [matchFuncs_nil cfg hf, Bool.and_true, hx]
  split
  · rfl
  · rfl

theorem scriptEntryCb_eq_replay (cfg : Cfg) (hf : cfg.funcs = []) (i : Nat) (s : TaskSt) (r : Rec)
    (ha : entryHasArgs cfg r = (r.more && cfg.showArgs)) :
    scriptEntryCb cfg i s r = (replayEntryLine cfg i s r).map Shown.toCb := by
  unfold scriptEntryCb replayEntryLine
  rw [matchFuncs_nil cfg hf, Bool.and_true, ha]
  split
  · rfl
  · rfl

theorem scriptTask_fst_eq_replay (cfg : Cfg) (i : Nat) (st : TaskSt) (r : Rec) :
    (scriptTask cfg i st r).1 = (replayTask cfg i st r).1 := by
  unfold scriptTask replayTask
  split <;> rfl

theorem scriptTask_snd_eq_replay (cfg : Cfg) (hf : cfg.funcs = []) (hx : cfg.exitAddrFixed = true) (i : Nat)
    (st : TaskSt) (r : Rec) (ha : r.exit = false → entryHasArgs cfg r = (r.more && cfg.showArgs)) :
    (scriptTask cfg i st r).2 = (replayTask cfg i st r).2.map Shown.toCb := by
  unfold scriptTask replayTask
  split
  · exact scriptExitCb_eq_replay cfg hf hx i _ r
  · rename_i h
    exact scriptEntryCb_eq_replay cfg hf i _ r (ha (by simpa using h))

/-- on a stream whose ENTRY records pass the script's test for arguments exactly when they pass replay's,
    a script without a function list gets one callback per line replay shows, between uftrace_begin and
    uftrace_end, and both commands leave the tasks in the same state -/
theorem scriptRun_eq_replay (cfg : Cfg) (hf : cfg.funcs = []) (hx : cfg.exitAddrFixed = true) (s : List (Nat × Rec))
    (ha : ∀ p ∈ s, p.2.exit = false → entryHasArgs cfg p.2 = (p.2.more && cfg.showArgs)) :
    (scriptRun cfg s).2 = .begin :: (replayShown cfg s).2.map Shown.toCb ++ [.end_] ∧
    (scriptRun cfg s).1 = (replayShown cfg s).1 := by
  have h := runWith_hom (scriptTask cfg) (replayTask cfg) (List.map Shown.toCb) rfl (fun _ _ => List.map_append)
    (scriptTask_fst_eq_replay cfg) s (g0 cfg) (fun p hp st => scriptTask_snd_eq_replay cfg hf hx p.1 st p.2 (ha p hp))
  simp only [scriptRun, replayShown, h.1, h.2, and_self]

/-! ### the loops with fix-up records (exec, setjmp / longjmp, fork) -/

/-- the two loops change the state — the tasks, the fork display depths and the setjmp statics — in the
    same way, record by record: the fix-ups are applied by the same statements of fstack_entry /
    fstack_update in both -/
theorem scriptTaskX_fst_eq_replay (cfg : Cfg) (i : Nat) (x : XSt) (r : Rec) :
    (scriptTaskX cfg i x r).1 = (replayTaskX cfg i x r).1 := by
  unfold scriptTaskX replayTaskX
  split <;> rfl

/-- … and every callback is the line replay prints for the record: in particular the depth of an entry
    callback is the display depth *before* fstack_update resets it for a longjmp / exec call -/
theorem scriptTaskX_snd_eq_replay (cfg : Cfg) (hf : cfg.funcs = []) (ha : cfg.argsFixed = true)
    (hx : cfg.exitAddrFixed = true) (i : Nat) (x : XSt) (r : Rec) :
    (scriptTaskX cfg i x r).2 = (replayTaskX cfg i x r).2.map Shown.toCb := by
  unfold scriptTaskX replayTaskX
  split
  · exact scriptExitCb_eq_replay cfg hf hx i _ r
  · exact scriptEntryCb_eq_replay cfg hf i _ r (entryHasArgs_fixed cfg ha r)

/-- no fix-up symbol in the data and no forked task -/
def NoFix (cfg : Cfg) : Prop := (∀ a, cfg.fix a = .none) ∧ (∀ i, cfg.parent i = none)

theorem inheritFork_nofix (cfg : Cfg) (h : NoFix cfg) (x : XSt) (i : Nat) (s : TaskSt) (r : Rec) :
    inheritFork cfg x i s r = s := by
  unfold inheritFork
  split
  · rfl
  · simp [h.2 i]

theorem fixKind_nofix (cfg : Cfg) (h : NoFix cfg) (s : TaskSt) (r : Rec) : fixKind cfg s r = .none := by
  unfold fixKind
  split
  · rfl
  · exact h.1 _

theorem scriptTaskX_nofix (cfg : Cfg) (h : NoFix cfg) (i : Nat) (x : XSt) (r : Rec) :
    scriptTaskX cfg i x r = (putTask x i (scriptTask cfg i (x.g i) r).1, (scriptTask cfg i (x.g i) r).2) := by
  unfold scriptTaskX scriptTask
  simp only [consumeX, inheritFork_nofix cfg h, fixGlobals, entryStX, fixKind_nofix cfg h, updateEntryX, scriptEntrySt,
    updateEntry]
  split <;> rfl

theorem replayTaskX_nofix (cfg : Cfg) (h : NoFix cfg) (i : Nat) (x : XSt) (r : Rec) :
    replayTaskX cfg i x r = (putTask x i (replayTask cfg i (x.g i) r).1, (replayTask cfg i (x.g i) r).2) := by
  unfold replayTaskX replayTask
  simp only [consumeX, inheritFork_nofix cfg h, fixGlobals, entryStX, fixKind_nofix cfg h, updateEntryX, replayEntrySt,
    updateEntry]
  split <;> rfl

/-- without fix-up records the loops with the fix-up logic are the plain loops -/
theorem runX_nofix {α : Type} (sx : Nat → XSt → Rec → XSt × List α) (sp : Nat → TaskSt → Rec → TaskSt × List α)
    (h : ∀ i x r, sx i x r = (putTask x i (sp i (x.g i) r).1, (sp i (x.g i) r).2)) :
    ∀ (s : List (Nat × Rec)) (x : XSt),
      (runX sx x s).2 = (runWith sp x.g s).2 ∧ (runX sx x s).1.g = (runWith sp x.g s).1
  | [], x => by simp [runX, runWith]
  | (i, r) :: rest, x => by
    have ih := runX_nofix sx sp h rest (putTask x i (sp i (x.g i) r).1)
    simp only [runX, runWith, h]
    exact ⟨by rw [ih.1]; rfl, by rw [ih.2]; rfl⟩

/-! ### the script's function list only filters the output -/

/-- what a UFTRACE_FUNCS list `L` lets through -/
def keepFuncs (L : List Nat) (cb : Cb) : Bool :=
  match cb.addr? with
  | some a => L.contains a
  | none => true

theorem consume_funcs (cfg : Cfg) (L : List Nat) (st : TaskSt) (r : Rec) :
    consume { cfg with funcs := L } st r = consume cfg st r := rfl
theorem accepted_funcs (cfg : Cfg) (L : List Nat) (st : TaskSt) (r : Rec) :
    accepted { cfg with funcs := L } st r = accepted cfg st r := rfl
theorem fstackEntry_funcs (cfg : Cfg) (L : List Nat) (st : TaskSt) (r : Rec) :
    fstackEntry { cfg with funcs := L } st r = fstackEntry cfg st r := rfl
theorem entryHasArgs_funcs (cfg : Cfg) (L : List Nat) (r : Rec) :
    entryHasArgs { cfg with funcs := L } r = entryHasArgs cfg r := rfl
theorem matchFuncs_funcs (cfg : Cfg) (L : List Nat) (a : Nat) :
    matchFuncs { cfg with funcs := L } a = (L.isEmpty || L.contains a) := rfl

theorem scriptTask_funcs_fst (cfg : Cfg) (L : List Nat) (i : Nat) (st : TaskSt) (r : Rec) :
    (scriptTask { cfg with funcs := L } i st r).1 = (scriptTask { cfg with funcs := [] } i st r).1 := by
  unfold scriptTask
  split <;> rfl

theorem filter_ite_singleton {α : Type} (p : α → Bool) (c : Bool) (x : α) :
    (if c then [x] else []).filter p = if c && p x then [x] else [] := by
  cases c
  · rfl
  · cases h : p x <;> simp [h]

theorem scriptTask_funcs_snd (cfg : Cfg) (L : List Nat) (hL : L ≠ []) (i : Nat) (st : TaskSt) (r : Rec) :
    (scriptTask { cfg with funcs := L } i st r).2 =
      (scriptTask { cfg with funcs := [] } i st r).2.filter (keepFuncs L) := by
  have hLe : L.isEmpty = false := by cases L <;> simp_all
  have hm : ∀ a, matchFuncs { cfg with funcs := L } a = L.contains a := fun a => by
    rw [matchFuncs_funcs, hLe, Bool.false_or]
  unfold scriptTask
  split
  · unfold scriptExitCb
    rw [filter_ite_singleton, hm, matchFuncs_funcs, List.isEmpty_nil, Bool.true_or, Bool.and_true]
    rfl
  · unfold scriptEntryCb
    rw [filter_ite_singleton, hm, matchFuncs_funcs, List.isEmpty_nil, Bool.true_or, Bool.and_true]
    rfl

/-! ### one task at a time -/

/-- the script loop restricted to the records of one task -/
def taskRun (cfg : Cfg) (i : Nat) : TaskSt → List Rec → TaskSt × List Cb
  | st, [] => (st, [])
  | st, r :: rs =>
    let out := taskRun cfg i (scriptTask cfg i st r).1 rs
    (out.1, (scriptTask cfg i st r).2 ++ out.2)

theorem ofTask_scriptTask (cfg : Cfg) (i j : Nat) (st : TaskSt) (r : Rec) :
    ofTask i (scriptTask cfg j st r).2 = if j = i then (scriptTask cfg j st r).2 else [] := by
  have hb : (some j == some i) = decide (j = i) := by
    by_cases h : j = i <;> simp [h]
  unfold scriptTask ofTask
  split
  · unfold scriptExitCb
    rw [filter_ite_singleton, show Cb.tid? (.exit _) = some j from rfl, hb]
    by_cases h : j = i <;> simp [h]
  · unfold scriptEntryCb
    rw [filter_ite_singleton, show Cb.tid? (.entry _) = some j from rfl, hb]
    by_cases h : j = i <;> simp [h]

/-- the callbacks of task `i` in the full run are the callbacks of the run over its own
    records: tasks do not influence each other -/
theorem runWith_project (cfg : Cfg) (i : Nat) :
    ∀ (s : List (Nat × Rec)) (g : G),
      ofTask i (runWith (scriptTask cfg) g s).2 = (taskRun cfg i (g i) (recsOf i s)).2 ∧
      (runWith (scriptTask cfg) g s).1 i = (taskRun cfg i (g i) (recsOf i s)).1
  | [], g => by simp [runWith, recsOf, taskRun, ofTask]
  | (j, r) :: rest, g => by
    have ih := runWith_project cfg i rest (upd g j (scriptTask cfg j (g j) r).1)
    simp only [runWith, show ∀ a b, ofTask i (a ++ b) = ofTask i a ++ ofTask i b from fun _ _ => List.filter_append _ _,
      ofTask_scriptTask]
    by_cases h : j = i
    · subst h
      have hr : recsOf j ((j, r) :: rest) = r :: recsOf j rest := by simp [recsOf]
      rw [show upd g j (scriptTask cfg j (g j) r).1 j = (scriptTask cfg j (g j) r).1 from if_pos rfl] at ih
      rw [if_pos rfl, hr, ih.1, ih.2]
      exact ⟨rfl, rfl⟩
    · have hr : recsOf i ((j, r) :: rest) = recsOf i rest := by simp [recsOf, h]
      rw [show upd g j (scriptTask cfg j (g j) r).1 i = g i from if_neg (Ne.symm h)] at ih
      rw [if_neg h, hr]
      exact ih

/-! ### one record of one task: the task after read_rstack and after run_script_for_rstack -/

theorem setSlot_ne (s : Nat → Frame) (i : Nat) (f : Frame) {k : Nat} (h : k ≠ i) : setSlot s i f k = s k := if_neg h

theorem setSlot_eq (s : Nat → Frame) (i : Nat) (f : Frame) : setSlot s i f i = f := if_pos rfl

theorem setSlot_setSlot (s : Nat → Frame) (i : Nat) (f g : Frame) : setSlot (setSlot s i f) i g = setSlot s i g := by
  funext j
  simp only [setSlot]
  split <;> rfl

/-- `lookupL` is there for the compiled model only -/
theorem consume_slots (cfg : Cfg) (st : TaskSt) (r : Rec) :
    (consume cfg st r).slots = accountSlots (startCount st r) (startSlots st r) r :=
  lookupL_range _ _

theorem startCount_started {st : TaskSt} (r : Rec) (h : st.started = true) : startCount st r = st.stackCount :=
  if_pos h

theorem startSlots_started {st : TaskSt} (r : Rec) (h : st.started = true) : startSlots st r = st.slots := by
  funext k
  exact if_pos h

theorem startCount_entry {st : TaskSt} {r : Rec} {n : Nat} (hx : r.exit = false) (hd : r.depth = n)
    (hc : st.started = true → st.stackCount = n) : startCount st r = n := by
  cases hs : st.started
  · simp only [startCount, firstCount, hs, hx, Bool.false_eq_true, ↓reduceIte]
    exact hd
  · rw [startCount_started r hs, hc hs]

theorem consume_count_entry (cfg : Cfg) (st : TaskSt) {r : Rec} (hx : r.exit = false) :
    (consume cfg st r).stackCount = startCount st r + 1 := by
  show newCount (startCount st r) r = _
  simp only [newCount, hx, Bool.false_eq_true, ↓reduceIte]

/-- the display depth at which an ENTRY is shown -/
theorem entry_disp (cfg : Cfg) {st s1 : TaskSt} {r : Rec} (hx : r.exit = false) (h1 : consume cfg st r = s1) :
    (fstackEntry cfg s1 r).disp = if accepted cfg s1 r && !st.dispSet then startCount st r else st.disp := by
  subst h1
  show (if _ then (consume cfg st r).stackCount - 1 else _) = _
  rw [consume_count_entry cfg st hx, Nat.add_sub_cancel]
  rfl

/-- the task after an ENTRY record, `s1` being the task as read_rstack leaves it: fstack_account_time and
    fstack_entry write the slot at the old stack count, fstack_update only moves the display depth -/
theorem scriptTask_entry (cfg : Cfg) (i : Nat) {st s1 : TaskSt} {r : Rec} (hx : r.exit = false) (h1 : consume cfg st r = s1) :
    scriptTask cfg i st r =
      ({ started := true
         stackCount := startCount st r + 1
         disp := if accepted cfg s1 r then (fstackEntry cfg s1 r).disp + 1 else (fstackEntry cfg s1 r).disp
         dispSet := st.dispSet || accepted cfg s1 r
         inCount := if eIn cfg s1 r then st.inCount + 1 else st.inCount
         outCount := if eNotrace cfg s1 r then st.outCount + 1 else st.outCount
         fdepth := if accepted cfg s1 r then fdepth1 cfg s1 r - 1 else fdepth1 cfg s1 r
         args := s1.args
         slots := setSlot (startSlots st r) (startCount st r)
           { startSlots st r (startCount st r) with
             addr := r.addr, total := r.time, valid := true, origDepth := s1.fdepth
             norecord := !accepted cfg s1 r, filtered := eIn cfg s1 r, notrace := eNotrace cfg s1 r } },
       scriptEntryCb cfg i s1 r) := by
  have hs : (consume cfg st r).slots = setSlot (startSlots st r) (startCount st r)
      { startSlots st r (startCount st r) with addr := r.addr, total := r.time, valid := true } := by
    rw [consume_slots]
    simp only [accountSlots, hx, Bool.false_eq_true, ↓reduceIte]
  subst h1
  simp only [scriptTask, hx, Bool.false_eq_true, ↓reduceIte, scriptEntrySt, updateEntry, fstackEntry,
    consume_count_entry cfg st hx, hs, Nat.add_sub_cancel, setSlot_eq, setSlot_setSlot]
  cases accepted cfg (consume cfg st r) r
  · rfl
  · rfl

/-- the task and the callback after the EXIT record of the innermost of `n + 1` open calls, `F` its frame:
    fstack_account_time closes the frame's time, fstack_exit takes back what the call did to the filter state,
    and fstack_update, unless the frame is NORECORD, goes back to the depth at which the call was shown -/
theorem scriptTask_exit (cfg : Cfg) (i : Nat) {st : TaskSt} {r : Rec} (hx : r.exit = true) (hs : st.started = true) {n : Nat}
    (hc : st.stackCount = n + 1) {F : Frame} (hF : st.slots n = F) :
    scriptTask cfg i st r =
      ({ started := true, stackCount := n
         disp := if F.norecord then st.disp else (if st.dispSet then st.disp else n + 1) - 1
         dispSet := st.dispSet || !F.norecord
         inCount := if F.filtered then st.inCount - 1 else st.inCount
         outCount := if !F.filtered && F.notrace then st.outCount - 1 else st.outCount
         fdepth := F.origDepth
         args := (consume cfg st r).args
         slots := setSlot st.slots n
           { F with total := if F.valid then sub64 r.time F.total else 0, valid := false, norecord := false,
                    filtered := false, notrace := false } },
       if !F.norecord && matchFuncs cfg r.addr then
         [.exit { tid := i, depth := (if st.dispSet then st.disp else n + 1) - 1, time := r.time,
                  dur := if F.valid then sub64 r.time F.total else 0, addr := r.addr,
                  args := if r.more && cfg.showArgs then (consume cfg st r).args else 0 }]
       else []) := by
  have hsc : startCount st r = n + 1 := by rw [startCount_started r hs, hc]
  have h1c : (consume cfg st r).stackCount = n := by
    show newCount (startCount st r) r = n
    simp only [newCount, hx, hsc, ↓reduceIte, Nat.add_sub_cancel]
  have h1s : (consume cfg st r).slots =
      setSlot st.slots n { F with total := if F.valid then sub64 r.time F.total else 0, valid := false } := by
    rw [consume_slots, hsc, startSlots_started r hs]
    simp only [accountSlots, hx, ↓reduceIte, Nat.add_sub_cancel, Nat.succ_ne_zero, hF]
  simp only [scriptTask, hx, ↓reduceIte, scriptExitSt, scriptExitCb, fstackExit, updateExit, exitDisp, h1c, h1s,
    setSlot_eq, setSlot_setSlot]
  cases F.norecord
  · rw [Bool.not_false, Bool.or_true]
    rfl
  · rw [Bool.not_true, Bool.or_false]
    rfl

/-! ### the pairing invariant -/

/-- ghost view of one open call of a task -/
structure AF where
  addr : Nat
  time : Nat
  /-- fstack_entry accepted the call (the frame is not NORECORD) -/
  acc : Bool
  /-- `display_depth` at which it was shown -/
  d : Nat
  /-- the `args` the entry callback carried -/
  args : Nat

def keys (A : List AF) : List (Nat × Nat) := A.map fun af => (af.addr, af.time)

/-- the frames of the open calls: `A` is innermost first, the innermost frame is `slots (len - 1)` -/
def SlotsOK (slots : Nat → Frame) : List AF → Prop
  | [] => True
  | af :: rest =>
    (slots rest.length).total = af.time ∧ (slots rest.length).valid = true ∧
    (slots rest.length).norecord = !af.acc ∧ SlotsOK slots rest

/-- the accepted open calls sit at consecutive display depths below `disp` -/
def DepthOK : Nat → List AF → Prop
  | _, [] => True
  | disp, af :: rest => if af.acc then af.d + 1 = disp ∧ DepthOK af.d rest else DepthOK disp rest

def anyAcc (A : List AF) : Bool := A.any (·.acc)

structure Inv (st : TaskSt) (A : List AF) : Prop where
  count : st.stackCount = A.length
  slots : SlotsOK st.slots A
  depth : DepthOK st.disp A
  dset : anyAcc A = true → st.dispSet = true
  started : st.started = false → A = []

def ctxOf (tid : Nat) (af : AF) : Ctx :=
  { tid := tid, depth := af.d, time := af.time, dur := 0, addr := af.addr, args := af.args }

/-- the entry callbacks that are still waiting for their exit callback -/
def opensOf (cfg : Cfg) (tid : Nat) : List AF → List Ctx
  | [] => []
  | af :: rest =>
    if af.acc && matchFuncs cfg af.addr then ctxOf tid af :: opensOf cfg tid rest else opensOf cfg tid rest

theorem SlotsOK_congr (s1 s2 : Nat → Frame) :
    ∀ (A : List AF), (∀ k, k < A.length → s1 k = s2 k) → SlotsOK s1 A → SlotsOK s2 A
  | [], _, _ => trivial
  | af :: rest, h, ok => by
    have hk := h rest.length (by simp)
    simp only [SlotsOK] at ok ⊢
    rw [← hk]
    exact ⟨ok.1, ok.2.1, ok.2.2.1, SlotsOK_congr s1 s2 rest (fun k hk' => h k (by simp; omega)) ok.2.2.2⟩

theorem DepthOK_noacc : ∀ (A : List AF) (x y : Nat), anyAcc A = false → DepthOK x A → DepthOK y A
  | [], _, _, _, _ => trivial
  | af :: rest, x, y, h, ok => by
    simp only [anyAcc, List.any_cons, Bool.or_eq_false_iff] at h
    simp only [DepthOK, h.1, Bool.false_eq_true, ↓reduceIte] at ok ⊢
    exact DepthOK_noacc rest x y h.2 ok

theorem opensOf_length_le (cfg : Cfg) (tid : Nat) : ∀ A : List AF, (opensOf cfg tid A).length ≤ A.length
  | [] => by simp [opensOf]
  | af :: rest => by
    have ih := opensOf_length_le cfg tid rest
    simp only [opensOf]
    split <;> simp <;> omega

theorem Inv_fresh (cfg : Cfg) : Inv (TaskSt.fresh cfg) [] :=
  { count := rfl, slots := trivial, depth := trivial, dset := by simp [anyAcc], started := fun _ => rfl }

/-- ENTRY step: a new ghost frame is pushed; an entry callback is made iff the call is
    accepted and passes the script's function list -/
theorem entry_step (cfg : Cfg) (i : Nat) (st : TaskSt) (A : List AF) (r : Rec)
    (inv : Inv st A) (hx : r.exit = false) (hd : r.depth = A.length) :
    ∃ af : AF, keys (af :: A) = (r.addr, r.time) :: keys A ∧ Inv (scriptTask cfg i st r).1 (af :: A) ∧
      ∀ tl, pairRun (opensOf cfg i A) ((scriptTask cfg i st r).2 ++ tl) = pairRun (opensOf cfg i (af :: A)) tl := by
  have hsc : startCount st r = A.length := startCount_entry hx hd (fun _ => inv.count)
  have hlo : ∀ k, k < A.length → st.slots k = startSlots st r k := by
    intro k hk
    cases hs : st.started
    · rw [inv.started hs] at hk
      exact absurd hk (Nat.not_lt_zero k)
    · rw [startSlots_started r hs]
  generalize h1 : consume cfg st r = s1
  -- fstack_entry sets the display depth only when no open call has been shown yet
  have hdepthA : DepthOK (fstackEntry cfg s1 r).disp A := by
    rw [entry_disp cfg hx h1]
    split
    · rename_i hc
      simp only [Bool.and_eq_true, Bool.not_eq_true'] at hc
      have hna : anyAcc A = false :=
        Bool.eq_false_iff.mpr fun h => Bool.noConfusion ((inv.dset h).symm.trans hc.2)
      exact DepthOK_noacc A _ _ hna inv.depth
    · exact inv.depth
  rw [scriptTask_entry cfg i hx h1, hsc]
  refine ⟨{ addr := r.addr, time := r.time, acc := accepted cfg s1 r, d := (fstackEntry cfg s1 r).disp,
            args := if entryHasArgs cfg r then s1.args else 0 }, rfl, ?_, ?_⟩
  · exact {
      count := rfl
      slots := by
        simp only [SlotsOK, setSlot_eq, true_and]
        exact SlotsOK_congr st.slots _ A (fun k hk => (hlo k hk).trans (setSlot_ne _ _ _ (Nat.ne_of_lt hk)).symm)
          inv.slots
      depth := by
        simp only [DepthOK]
        cases accepted cfg s1 r
        · exact hdepthA
        · exact ⟨rfl, hdepthA⟩
      dset := by
        cases accepted cfg s1 r
        · exact fun h => (Bool.or_false _).trans (inv.dset h)
        · exact fun _ => Bool.or_true _
      started := fun h => Bool.noConfusion h }
  · intro tl
    show pairRun _ ((if (accepted cfg s1 r && matchFuncs cfg r.addr) = true then _ else _) ++ tl) =
      pairRun (if (accepted cfg s1 r && matchFuncs cfg r.addr) = true then _ else _) tl
    cases accepted cfg s1 r && matchFuncs cfg r.addr
    · rfl
    · rfl

/-- EXIT step: the innermost ghost frame is popped; an exit callback is made iff an
    entry callback was made for that frame, and it closes it -/
theorem exit_step (cfg : Cfg) (i : Nat) (st : TaskSt) (af : AF) (rest : List AF) (r : Rec)
    (inv : Inv st (af :: rest)) (hx : r.exit = true) (ha : af.addr = r.addr) :
    Inv (scriptTask cfg i st r).1 rest ∧
      ∀ tl, pairRun (opensOf cfg i (af :: rest)) ((scriptTask cfg i st r).2 ++ tl) = pairRun (opensOf cfg i rest) tl := by
  have hstarted : st.started = true := by
    cases h : st.started
    · cases inv.started h
    · rfl
  obtain ⟨htot, hval, hnr, hlo⟩ : _ ∧ _ ∧ _ ∧ SlotsOK st.slots rest := inv.slots
  have hslots : ∀ f, SlotsOK (setSlot st.slots rest.length f) rest := fun f =>
    SlotsOK_congr st.slots _ rest (fun k hk => (setSlot_ne _ _ _ (Nat.ne_of_lt hk)).symm) hlo
  have hdep : DepthOK st.disp (af :: rest) := inv.depth
  rw [scriptTask_exit cfg i hx hstarted inv.count rfl, hnr, hval, htot, Bool.not_not, if_pos rfl]
  cases hacc : af.acc
  · simp only [DepthOK, hacc, Bool.false_eq_true, ↓reduceIte] at hdep
    refine ⟨?_, fun tl => ?_⟩
    · exact {
        count := rfl
        slots := hslots _
        depth := hdep
        dset := fun h =>
          (Bool.or_false _).trans (inv.dset (by simpa only [anyAcc, List.any_cons, hacc, Bool.false_or] using h))
        started := fun h => Bool.noConfusion h }
    · simp only [opensOf, hacc, Bool.false_and]
      rfl
  · simp only [DepthOK, hacc, ↓reduceIte] at hdep
    -- an accepted call was shown at `af.d`, and fstack_update(EXIT) goes back there
    rw [inv.dset (by simp [anyAcc, hacc]), if_pos rfl, ← hdep.1, Nat.add_sub_cancel]
    refine ⟨?_, fun tl => ?_⟩
    · exact {
        count := rfl
        slots := hslots _
        depth := hdep.2
        dset := fun _ => rfl
        started := fun h => Bool.noConfusion h }
    · simp only [opensOf, hacc, Bool.true_and, ← ha]
      cases matchFuncs cfg af.addr
      · rfl
      · simp [pairRun, pairStep, closes, ctxOf]

theorem pairRun_single (o : List Ctx) (cb : Cb) (rest : List Cb) :
    pairRun o (cb :: rest) = (pairStep o cb).bind fun o' => pairRun o' rest := by
  simp only [pairRun]
  cases pairStep o cb <;> rfl

/-- one record of a properly nested stream: the ghost stack follows the data's stack, and the record's callback
    — if there is one — opens or closes the innermost waiting entry callback -/
theorem step_paired (cfg : Cfg) (i : Nat) (st : TaskSt) (A : List AF) (r : Rec) (K : List (Nat × Nat))
    (inv : Inv st A) (hs : wfStep (keys A) r = some K) :
    ∃ A', keys A' = K ∧ Inv (scriptTask cfg i st r).1 A' ∧
      ∀ tl, pairRun (opensOf cfg i A) ((scriptTask cfg i st r).2 ++ tl) = pairRun (opensOf cfg i A') tl := by
  unfold wfStep at hs
  cases hx : r.exit
  · simp only [hx, Bool.not_false, ↓reduceIte] at hs
    split at hs
    · rename_i hd
      obtain ⟨af, hk, inv', hp⟩ := entry_step cfg i st A r inv hx (by simpa [keys] using hd)
      exact ⟨af :: A, hk.trans (Option.some.inj hs), inv', hp⟩
    · cases hs
  · simp only [hx, Bool.not_true, Bool.false_eq_true, ↓reduceIte] at hs
    cases A with
    | nil => cases hs
    | cons af rest =>
      simp only [keys, List.map_cons, List.length_map] at hs
      split at hs
      · rename_i hc
        obtain ⟨inv', hp⟩ := exit_step cfg i st af rest r inv hx hc.1
        exact ⟨rest, Option.some.inj hs, inv', hp⟩
      · cases hs

theorem task_paired (cfg : Cfg) (i : Nat) :
    ∀ (rs : List Rec) (st : TaskSt) (A : List AF) (W : List (Nat × Nat)),
      Inv st A → wfRun (keys A) rs = some W →
      ∃ A', Inv (taskRun cfg i st rs).1 A' ∧ keys A' = W ∧
        pairRun (opensOf cfg i A) (taskRun cfg i st rs).2 = some (opensOf cfg i A')
  | [], st, A, W, inv, hw => ⟨A, inv, Option.some.inj hw, rfl⟩
  | r :: rs, st, A, W, inv, hw => by
    simp only [wfRun] at hw
    cases hstep : wfStep (keys A) r with
    | none => simp [hstep] at hw
    | some K =>
      simp only [hstep] at hw
      obtain ⟨A1, hk, inv1, hp⟩ := step_paired cfg i st A r K inv hstep
      obtain ⟨A', i1, i2, i3⟩ := task_paired cfg i rs _ A1 W inv1 (hk ▸ hw)
      exact ⟨A', i1, i2, (hp _).trans i3⟩

end Uft.Script

/-! ## record-time hooks: the shadow stack keeps the fields the script hooks read -/
namespace Uft.Script.Hook
open Uft.Mcount

/-- what script_save_context reads from a frame, and the NORECORD flag that decides
    whether the hooks run -/
def fk (f : Mcount.Frame) : Nat × Nat × Nat × Bool := (f.addr, f.start, f.depth, f.norecord)

@[simp] theorem fk_written (f : Mcount.Frame) (b : Bool) : fk { f with written := b } = fk f := rfl

/- The hooks are nested `if`s whose branches all leave the same `fk` image: the lemmas below push the
   projection into the branches (`apply_ite`) and find every branch equal (`ite_self`). -/

theorem flushBelow_fk (fs : List Mcount.Frame) : (flushBelow fs).1.map fk = fs.map fk := by
  induction fs with
  | nil => rfl
  | cons f r ih =>
    simp only [flushBelow, apply_ite Prod.fst, apply_ite (List.map fk), List.map_cons, fk_written, ih, ite_self]

theorem recordTrace_fk (fs : List Mcount.Frame) : (recordTrace fs).1.map fk = fs.map fk := by
  cases fs with
  | nil => rfl
  | cons top rest =>
    simp only [recordTrace, List.map_cons, apply_ite fk, fk_written, apply_ite Prod.fst, apply_ite (List.map fk),
      flushBelow_fk, ite_self]

theorem checkRstack_over (cfg : Mcount.Cfg) (s : St) :
    (checkRstack cfg s).1 = decide (s.frames.length + s.over ≥ cfg.maxStack) := by
  simp only [checkRstack, St.idx, apply_ite Prod.fst, ite_self]
  rfl

theorem checkRstack_fk (cfg : Mcount.Cfg) (s : St) :
    (checkRstack cfg s).2.frames.map fk = s.frames.map fk ∧ (checkRstack cfg s).2.over = s.over := by
  simp only [checkRstack, apply_ite Prod.snd, apply_ite St.frames, apply_ite St.over, apply_ite (List.map fk),
    recordTrace_fk, ite_self, and_self]

/-- the flush at the TRACE_OFF update (repair of F-C07-TRACEOFF-FLUSH) only marks frames written -/
@[simp] theorem traceOffFlush_fk (cfg : Mcount.Cfg) (s : St) (tr : Trigger) :
    (traceOffFlush cfg s tr).frames.map fk = s.frames.map fk := by
  rw [traceOffFlush_frames, apply_ite (List.map fk), recordTrace_fk, ite_self]

theorem entryFilterCheck_fk (cfg : Mcount.Cfg) (s : St) (f : Nat) :
    (entryFilterCheck cfg s f).2.1.frames.map fk = s.frames.map fk ∧
    (entryFilterCheck cfg s f).2.1.over = s.over ∧
    ((entryFilterCheck cfg s f).1 = .rstack ↔ s.frames.length + s.over ≥ cfg.maxStack) ∧
    ((entryFilterCheck cfg s f).2.2.finish = true → (cfg.trig f).finish = true) := by
  have h := checkRstack_fk cfg s
  have h1 := checkRstack_over cfg s
  unfold entryFilterCheck
  generalize checkRstack cfg s = cr at h h1 ⊢
  obtain ⟨b, s'⟩ := cr
  simp only at h h1
  cases b
  · have hlt : ¬ (s.frames.length + s.over ≥ cfg.maxStack) := by simpa using h1
    simp only [Bool.false_eq_true, ↓reduceIte, apply_ite Prod.fst, apply_ite Prod.snd, apply_ite St.frames, apply_ite St.over,
      apply_ite (List.map fk), apply_ite Trigger.finish, traceOffFlush_fk, traceOffFlush_over, h, ite_self, hlt, iff_false,
      true_and]
    refine ⟨?_, ?_⟩
    · simp only [apply_ite (fun x => x = FR.rstack), reduceCtorEq, ite_self, not_false_eq_true]
    · simp
  · have hge : s.frames.length + s.over ≥ cfg.maxStack := by simpa using h1
    exact ⟨h.1, h.2, iff_of_true rfl hge, fun hh => by cases hh⟩

/-- mcount_entry_filter_record rewrites the flags of the frame just pushed and leaves the frames below it -/
theorem entryFilterRecord_fk (cfg : Mcount.Cfg) (s : St) (F : Mcount.Frame) (tr : Trigger) :
    (entryFilterRecord cfg { s with frames := F :: s.frames } tr).over = s.over ∧
    ∃ x, (entryFilterRecord cfg { s with frames := F :: s.frames } tr).frames.map fk = x :: s.frames.map fk := by
  unfold entryFilterRecord
  simp only [apply_ite St.over, apply_ite St.frames, apply_ite Prod.fst, apply_ite (List.map fk), recordTrace_fk,
    List.map_cons, ite_self, ← apply_ite (fun x => x :: List.map fk s.frames), true_and]
  exact ⟨_, rfl⟩

/-- `over` counts calls beyond a full shadow stack -/
def HWF (cfg : Mcount.Cfg) (s : St) : Prop := s.over = 0 ∨ s.frames.length ≥ cfg.maxStack

def SameShape (a b : St) : Prop := a.over = b.over ∧ a.frames.map fk = b.frames.map fk

theorem SameShape.length {a b : St} (h : SameShape a b) : a.frames.length = b.frames.length := by
  simpa using congrArg List.length h.2

theorem SameShape.hwf {a b : St} (cfg : Mcount.Cfg) (h : SameShape a b) (hb : HWF cfg b) : HWF cfg a := by
  unfold HWF at *
  rw [h.1, h.length]; exact hb

theorem SameShape.trans {a b c : St} (h1 : SameShape a b) (h2 : SameShape b c) : SameShape a c :=
  ⟨h1.1.trans h2.1, h1.2.trans h2.2⟩

theorem setEnabled_shape (b : Option Bool) (s : St) : SameShape (setEnabled b s) s := by
  cases b <;> exact ⟨rfl, rfl⟩

/-- the entry hook keeps the meaning of `over` and does one of three things to the shadow stack: nothing (the call
    is not taken), count a call beyond the full stack, push a frame -/
theorem entry_fk (cfg : Mcount.Cfg) (k : Kind) (s : St) (f t0 : Nat) (hwf : HWF cfg s) :
    HWF cfg (entry cfg k s f t0).1 ∧
    (((entry cfg k s f t0).2 = false ∧ SameShape (entry cfg k s f t0).1 s) ∨
     ((entry cfg k s f t0).2 = true ∧ (entry cfg k s f t0).1.over = s.over + 1 ∧
       (entry cfg k s f t0).1.frames.map fk = s.frames.map fk) ∨
     ((entry cfg k s f t0).2 = true ∧ (entry cfg k s f t0).1.over = 0 ∧ s.over = 0 ∧
       ∃ x, (entry cfg k s f t0).1.frames.map fk = x :: s.frames.map fk)) := by
  have h := entryFilterCheck_fk cfg s f
  unfold entry
  generalize entryFilterCheck cfg s f = c at h ⊢
  obtain ⟨fr, s1, tr⟩ := c
  simp only at h ⊢
  have hsh : SameShape s1 s := ⟨h.2.1, h.1⟩
  -- a frame is pushed when the filter check did not say FILTER_RSTACK: the stack is not full, so nothing is beyond it
  have push : ∀ F : Mcount.Frame, fr ≠ .rstack →
      (entryFilterRecord cfg { s1 with frames := F :: s1.frames } tr).over = 0 ∧ s.over = 0 ∧
      ∃ x, (entryFilterRecord cfg { s1 with frames := F :: s1.frames } tr).frames.map fk = x :: s.frames.map fk := by
    intro F hnr
    obtain ⟨ho, x, hx⟩ := entryFilterRecord_fk cfg s1 F tr
    have ho0 : s.over = 0 := by
      rcases hwf with h0 | hfull
      · exact h0
      · exact absurd (h.2.2.1.mpr (Nat.le_add_right_of_le hfull)) hnr
    exact ⟨ho.trans (h.2.1.trans ho0), ho0, x, by rw [hx, h.1]⟩
  cases k with
  | pg =>
    simp only
    split
    · exact ⟨hsh.hwf cfg hwf, Or.inl ⟨rfl, hsh⟩⟩
    · rename_i hc
      have hne : fr ≠ .rstack := fun e => hc (by simp [e])
      exact ⟨Or.inl (push _ hne).1, Or.inr (Or.inr ⟨rfl, push _ hne⟩)⟩
  | cyg =>
    simp only
    split
    · rename_i hc
      have hge := h.2.2.1.mp (by simpa using hc)
      refine ⟨Or.inr ?_, Or.inr (Or.inl ⟨rfl, by simp [h.2.1], h.1⟩)⟩
      show s1.frames.length ≥ cfg.maxStack
      rw [hsh.length]
      rcases hwf with h0 | hfull
      · rw [h0] at hge
        exact hge
      · exact hfull
    · rename_i hc
      have hne : fr ≠ .rstack := fun e => hc (by simp [e])
      exact ⟨Or.inl (push _ hne).1, Or.inr (Or.inr ⟨rfl, push _ hne⟩)⟩

theorem exitFilterRecord_fk (cfg : Mcount.Cfg) (s : St) :
    (exitFilterRecord cfg s).over = s.over ∧ (exitFilterRecord cfg s).frames.map fk = s.frames.map fk := by
  unfold exitFilterRecord
  split
  · exact ⟨rfl, rfl⟩
  · rename_i f rest hfr
    simp only [apply_ite St.over, apply_ite St.frames, apply_ite (List.map fk), recordTrace_fk, ite_self, hfr, and_self]

theorem exit_fk (cfg : Mcount.Cfg) (s : St) (t : Nat) :
    (s.over > 0 → (exit cfg s t).over = s.over - 1 ∧ (exit cfg s t).frames.map fk = s.frames.map fk) ∧
    (s.over = 0 → (exit cfg s t).over = 0 ∧ (exit cfg s t).frames.map fk = (s.frames.map fk).tail) := by
  unfold exit
  constructor
  · intro ho
    rw [if_pos ho]
    exact ⟨rfl, rfl⟩
  · intro ho
    rw [if_neg (by omega)]
    split
    · rename_i hfr
      rw [hfr]
      exact ⟨ho, rfl⟩
    · rename_i F rest hfr
      -- whatever the exit hook wrote into the top frame goes with it
      have h := exitFilterRecord_fk cfg { s with frames := (if F.cyg && F.norecord then F else { F with endT := t }) :: rest }
      refine ⟨h.1.trans ho, ?_⟩
      show (exitFilterRecord cfg _).frames.tail.map fk = _
      rw [List.map_tail, h.2, hfr]
      rfl

/-! ### the hook log of a complete call is balanced -/

theorem hpRun_append : ∀ (a b : List HookEv) (stk : List HCtx),
    hpRun stk (a ++ b) = (hpRun stk a).bind fun s => hpRun s b
  | [], b, stk => by simp [hpRun]
  | e :: a, b, stk => by
    simp only [List.cons_append, hpRun]
    cases hpStep stk e with
    | none => rfl
    | some o => exact hpRun_append a b o

theorem entryHook_none (cfg : Mcount.Cfg) (k : Kind) (s : St) (f t0 : Nat)
    (h : (entry cfg k s f t0).1.frames.map fk = s.frames.map fk) : entryHook cfg k s f t0 = none := by
  have hl : (entry cfg k s f t0).1.frames.length = s.frames.length := by
    simpa using congrArg List.length h
  unfold entryHook
  split
  · rfl
  · simp [hl]

theorem entryHook_pushed (cfg : Mcount.Cfg) (hf : cfg.fast = false) (hfin : ∀ f, (cfg.trig f).finish = false)
    (k : Kind) (s : St) (f t0 : Nat) (a st d : Nat) (nr : Bool)
    (h : (entry cfg k s f t0).1.frames.map fk = (a, st, d, nr) :: s.frames.map fk) :
    entryHook cfg k s f t0 = if nr then none else some { addr := a, depth := d, start := st, dur := 0 } := by
  have hnf : (entryFilterCheck cfg s f).2.2.finish = false :=
    Bool.eq_false_iff.mpr fun hc => Bool.noConfusion ((hfin f).symm.trans ((entryFilterCheck_fk cfg s f).2.2.2 hc))
  obtain ⟨F, tl, hfr, hF, htl⟩ := List.map_eq_cons_iff.mp h
  have hl : (F :: tl).length = s.frames.length + 1 := by simpa using congrArg List.length htl
  simp only [fk, Prod.mk.injEq] at hF
  unfold entryHook
  simp only [hfr, hl, hf, hnf, decide_true, Bool.not_false, Bool.and_true, Bool.true_and, hF.1, hF.2.1, hF.2.2.1,
    hF.2.2.2]
  cases nr <;> simp

theorem exitHook_top (cfg : Mcount.Cfg) (hf : cfg.fast = false) (s : St) (t : Nat) (ho : s.over = 0)
    (a st d : Nat) (nr : Bool) (m : List (Nat × Nat × Nat × Bool))
    (h : s.frames.map fk = (a, st, d, nr) :: m) :
    exitHook true cfg s t = if nr then none else some { addr := a, depth := d, start := st, dur := t - st } := by
  obtain ⟨F, tl, hfr, hF, _⟩ := List.map_eq_cons_iff.mp h
  simp only [fk, Prod.mk.injEq] at hF
  unfold exitHook
  simp only [ho, Nat.lt_irrefl, ↓reduceIte, hfr, hf, Bool.not_false, Bool.true_and, Bool.true_or, Bool.and_true,
    hF.1, hF.2.1, hF.2.2.1, hF.2.2.2]
  cases nr <;> simp

theorem exitHook_over (fixed : Bool) (cfg : Mcount.Cfg) (s : St) (t : Nat) (ho : s.over > 0) :
    exitHook fixed cfg s t = none := by
  unfold exitHook; simp [ho]

/-- one bracket of the log: an entry hook, a balanced middle part, the exit hook of the same frame -/
theorem bracket (funcs : List Nat) (a st d t : Nat) (nr : Bool) (mid : List HookEv)
    (hmid : ∀ stk, hpRun stk mid = some stk) (stk : List HCtx) :
    hpRun stk
      (logEntry funcs (if nr then none else some { addr := a, depth := d, start := st, dur := 0 }) ++ mid ++
       logExit funcs (if nr then none else some { addr := a, depth := d, start := st, dur := t - st })) = some stk := by
  cases nr
  · simp only [Bool.false_eq_true, ↓reduceIte, logEntry, logExit, hmatch]
    by_cases hm : (funcs.isEmpty || funcs.contains a) = true
    · simp only [hm, ↓reduceIte, List.cons_append, List.nil_append, hpRun, hpStep, hpRun_append, hmid,
        Option.bind]
      simp [hcloses]
    · simp only [hm, Bool.false_eq_true, ↓reduceIte, List.nil_append, List.append_nil]
      exact hmid stk
  · simp only [↓reduceIte, logEntry, logExit, List.nil_append, List.append_nil]
    exact hmid stk

mutual
  theorem hook_call (cfg : Mcount.Cfg) (hf : cfg.fast = false) (hfin : ∀ f, (cfg.trig f).finish = false)
      (funcs : List Nat) (k : Kind) (env : Nat → Option Bool) :
      ∀ (c : Call) (s : St), HWF cfg s →
        SameShape (runCallH true funcs cfg k env s c).1 s ∧
        ∀ stk, hpRun stk (runCallH true funcs cfg k env s c).2 = some stk
    | .node f t0 t1 kids, s, hwf => by
      have hs0 := setEnabled_shape (env t0) s
      simp only [runCallH]
      generalize setEnabled (env t0) s = s0 at hs0 ⊢
      obtain ⟨hwf1, he⟩ := entry_fk cfg k s0 f t0 (hs0.hwf cfg hwf)
      have ih := hook_calls cfg hf hfin funcs k env kids (entry cfg k s0 f t0).1 hwf1
      generalize runCallsH true funcs cfg k env (entry cfg k s0 f t0).1 kids = p at ih ⊢
      have hs1 := (setEnabled_shape (env t1) p.1).trans ih.1
      generalize setEnabled (env t1) p.1 = s1 at hs1 ⊢
      rcases he with ⟨h2, hsh⟩ | ⟨h2, hov, hfk⟩ | ⟨h2, hov, ho0, ⟨a, st, d, nr⟩, hx⟩
      · -- the hook did not take the call
        simp only [h2, Bool.false_eq_true, ↓reduceIte, entryHook_none cfg k s0 f t0 hsh.2, logEntry, List.nil_append]
        exact ⟨ih.1.trans (hsh.trans hs0), ih.2⟩
      · -- a call beyond the shadow stack
        have ho1 : s1.over > 0 := by
          rw [hs1.1, hov]
          exact Nat.succ_pos _
        have hxt := (exit_fk cfg s1 t1).1 ho1
        simp only [h2, ↓reduceIte, entryHook_none cfg k s0 f t0 hfk, exitHook_over true cfg s1 t1 ho1, logEntry,
          logExit, List.nil_append, List.append_nil]
        refine ⟨⟨?_, ?_⟩, ih.2⟩
        · rw [hxt.1, hs1.1, hov, Nat.add_sub_cancel, hs0.1]
        · rw [hxt.2, hs1.2, hfk, hs0.2]
      · -- a frame was pushed
        have ho1 : s1.over = 0 := hs1.1.trans hov
        have hfr1 : s1.frames.map fk = (a, st, d, nr) :: s0.frames.map fk := hs1.2.trans hx
        have hxt := (exit_fk cfg s1 t1).2 ho1
        simp only [h2, ↓reduceIte]
        rw [entryHook_pushed cfg hf hfin k s0 f t0 a st d nr hx, exitHook_top cfg hf s1 t1 ho1 a st d nr _ hfr1]
        refine ⟨⟨?_, ?_⟩, fun stk => bracket funcs a st d t1 nr _ ih.2 stk⟩
        · rw [hxt.1, ← hs0.1, ho0]
        · rw [hxt.2, hfr1, List.tail_cons, hs0.2]
  theorem hook_calls (cfg : Mcount.Cfg) (hf : cfg.fast = false) (hfin : ∀ f, (cfg.trig f).finish = false)
      (funcs : List Nat) (k : Kind) (env : Nat → Option Bool) :
      ∀ (cs : Calls) (s : St), HWF cfg s →
        SameShape (runCallsH true funcs cfg k env s cs).1 s ∧
        ∀ stk, hpRun stk (runCallsH true funcs cfg k env s cs).2 = some stk
    | .nil, s, _ => by
      simp only [runCallsH]
      exact ⟨⟨rfl, rfl⟩, fun stk => rfl⟩
    | .cons c rest, s, hwf => by
      have h1 := hook_call cfg hf hfin funcs k env c s hwf
      have h2 := hook_calls cfg hf hfin funcs k env rest (runCallH true funcs cfg k env s c).1 (h1.1.hwf cfg hwf)
      simp only [runCallsH]
      refine ⟨h2.1.trans h1.1, fun stk => ?_⟩
      rw [hpRun_append, h1.2 stk]
      exact h2.2 stk
end

theorem entryHook_fast (cfg : Mcount.Cfg) (hf : cfg.fast = true) (k : Kind) (s : St) (f t0 : Nat) :
    entryHook cfg k s f t0 = none := by
  unfold entryHook
  split
  · rfl
  · simp [hf]

theorem exitHook_fast (fixed : Bool) (cfg : Mcount.Cfg) (hf : cfg.fast = true) (s : St) (t : Nat) :
    exitHook fixed cfg s t = none := by
  unfold exitHook
  split
  · rfl
  · split
    · rfl
    · simp [hf]

mutual
  /-- the fast build (DISABLE_MCOUNT_FILTER) has no script hooks -/
  theorem fast_call (fixed : Bool) (cfg : Mcount.Cfg) (hf : cfg.fast = true) (funcs : List Nat) (k : Kind)
      (env : Nat → Option Bool) : ∀ (c : Call) (s : St), (runCallH fixed funcs cfg k env s c).2 = []
    | .node f t0 t1 kids, s => by
      simp only [runCallH, entryHook_fast cfg hf, exitHook_fast fixed cfg hf, logEntry, logExit,
        List.append_nil, fast_calls fixed cfg hf funcs k env kids]
      split <;> rfl
  theorem fast_calls (fixed : Bool) (cfg : Mcount.Cfg) (hf : cfg.fast = true) (funcs : List Nat) (k : Kind)
      (env : Nat → Option Bool) : ∀ (cs : Calls) (s : St), (runCallsH fixed funcs cfg k env s cs).2 = []
    | .nil, s => rfl
    | .cons c rest, s => by
      simp only [runCallsH, fast_call fixed cfg hf funcs k env c, fast_calls fixed cfg hf funcs k env rest,
        List.append_nil]
end

mutual
  /-- without interference from other threads the logged run is the hook model's run -/
  theorem state_call (fixed : Bool) (funcs : List Nat) (cfg : Mcount.Cfg) (k : Kind) :
      ∀ (c : Call) (s : St), (runCallH fixed funcs cfg k (fun _ => none) s c).1 = runCall cfg k s c
    | .node f t0 t1 kids, s => by
      simp only [runCallH, runCall, setEnabled, state_calls fixed funcs cfg k kids]
      split <;> rfl
  theorem state_calls (fixed : Bool) (funcs : List Nat) (cfg : Mcount.Cfg) (k : Kind) :
      ∀ (cs : Calls) (s : St), (runCallsH fixed funcs cfg k (fun _ => none) s cs).1 = runCalls cfg k s cs
    | .nil, s => rfl
    | .cons c rest, s => by
      simp only [runCallsH, runCalls, state_call fixed funcs cfg k c, state_calls fixed funcs cfg k rest]
end

end Uft.Script.Hook

/-! ## the interpreter lock of a binding -/
namespace Uft.Script.Bind

/-- with a blocking lock: at most one callback is inside the interpreter, nothing waits while it is free, and
    the script has been called, in order, with exactly the hooks that reached the binding and do not wait -/
structure LockInv (s : BSt) : Prop where
  one : s.running.length ≤ 1
  free : s.running = [] → s.waiting = []
  all : s.log ++ s.waiting = s.issued
  ok : s.corrupt = false

theorem lockInv_init : LockInv {} := ⟨by simp, fun _ => rfl, rfl, rfl⟩

theorem lockInv_step (s : BSt) (h : LockInv s) (x : Step) : LockInv (step .lock s x) := by
  obtain ⟨h1, h2, h3, h4⟩ := h
  cases x with
  | hook t c =>
    simp only [step]
    by_cases hr : s.running = []
    · have hw := h2 hr
      simp only [hr, List.isEmpty_nil, ↓reduceIte, enter]
      refine ⟨by simp, fun hh => by simp at hh, ?_, h4⟩
      simp only [hw, List.append_nil] at h3 ⊢
      rw [h3]
    · have : s.running.isEmpty = false := by cases hs : s.running <;> simp_all
      simp only [this, Bool.false_eq_true, ↓reduceIte]
      refine ⟨h1, fun hh => absurd hh hr, ?_, h4⟩
      show s.log ++ (s.waiting ++ [(t, c)]) = s.issued ++ [(t, c)]
      rw [← List.append_assoc, h3]
  | done t =>
    simp only [step]
    by_cases hf : (s.running.filter (fun x => x.1 != t)).isEmpty = true
    · simp only [hf, ↓reduceIte]
      cases hw : s.waiting with
      | nil =>
        refine ⟨by simp, fun _ => rfl, ?_, h4⟩
        show s.log ++ [] = s.issued
        rw [← h3, hw]
      | cons w ws =>
        refine ⟨by simp, fun hh => by simp at hh, ?_, h4⟩
        show s.log ++ [w] ++ ws = s.issued
        rw [← h3, hw]; simp
    · simp only [hf, Bool.false_eq_true, ↓reduceIte]
      have hle : (s.running.filter (fun x => x.1 != t)).length ≤ s.running.length := List.length_filter_le _ _
      refine ⟨by show (s.running.filter _).length ≤ 1; omega, ?_, h3, h4⟩
      intro hh
      simp [show (s.running.filter (fun x => x.1 != t)) = [] from hh] at hf

theorem lockInv_run : ∀ (xs : List Step) (s : BSt), LockInv s → LockInv (run .lock s xs)
  | [], _, h => h
  | x :: xs, s, h => lockInv_run xs (step .lock s x) (lockInv_step s h x)

end Uft.Script.Bind

/-! ## the argument buffer: every reader returns what the writer stored -/
namespace Uft.Script.Args
open Uft.Gen.ScriptArgs

theorem alignUp_ge (n : Nat) : n ≤ alignUp n 4 := by unfold alignUp; omega

theorem wrSize_eq (f : Fmt) (size slen : Nat) :
    wrSize f size slen = alignUp (if isStr f then slen + 2 else size) 4 := by
  cases f <;> rfl

/-- the reader advances exactly as far as the writer did, for every format it has a case for (a char spec has
    size 1: parse_argspec) -/
def Good (adv : Fmt → Nat → Nat → Option Nat) : Prop :=
  ∀ f size slen, handles adv f = true → (f = .chr → size = 1) → adv f size slen = some (wrSize f size slen)

/-- a reader with a case for every format that advances by the writer's size, a char counting as one byte
    whatever `spec->size` says -/
theorem Good.of (adv : Fmt → Nat → Nat → Option Nat)
    (h : ∀ f size slen, adv f size slen = some (wrSize f (if f = .chr then 1 else size) slen)) : Good adv := by
  intro f size slen _ hc
  rw [h]
  by_cases e : f = .chr
  · rw [if_pos e, hc e]
  · rw [if_neg e]

theorem padTo_length (n : Nat) (l : List Nat) (h : l.length ≤ n) : (padTo n l).length = n := by
  simp [padTo]; omega

theorem drop_padTo (n : Nat) (l tl : List Nat) (h : l.length ≤ n) : (padTo n l ++ tl).drop n = tl := by
  have := padTo_length n l h
  rw [List.drop_append_of_le_length (by omega)]
  simp [List.drop_eq_nil_of_le, this]

theorem take_padTo (n k : Nat) (l tl : List Nat) (hk : k ≤ l.length) : (padTo n l ++ tl).take k = l.take k := by
  unfold padTo
  rw [List.append_assoc, List.take_append_of_le_length hk]

/-- one value: reading what was just written gives the value back and leaves the rest -/
theorem decOne_encOne (adv : Fmt → Nat → Nat → Option Nat) (hg : Good adv) (sp : ASpec) (v : AVal)
    (hf : fits sp v) (hh : handles adv sp.fmt = true) (tl : List Nat) :
    decOne adv sp (encOne sp v ++ tl) = some (v, tl) := by
  cases v with
  | str s =>
    have hs : isStr sp.fmt = true := hf
    have hne : sp.fmt ≠ .chr := by intro e; rw [e] at hs; simp [isStr] at hs
    have hge : s.length + 2 ≤ wrSize sp.fmt sp.size s.length := by
      rw [wrSize_eq, hs]
      exact alignUp_ge _
    have h0 : (encOne sp (.str s) ++ tl).getD 0 0 = s.length % 256 := by simp [encOne, padTo]
    have h1 : (encOne sp (.str s) ++ tl).getD 1 0 = s.length / 256 := by simp [encOne, padTo]
    have hl : s.length % 256 + 256 * (s.length / 256) = s.length := Nat.mod_add_div _ _
    unfold decOne
    simp only [hs, ↓reduceIte, h0, h1, hl, hg sp.fmt sp.size s.length hh (fun e => absurd e hne)]
    have hd : (encOne sp (.str s) ++ tl).drop (wrSize sp.fmt sp.size s.length) = tl :=
      drop_padTo _ _ _ (by simp; omega)
    have ht : ((encOne sp (.str s) ++ tl).drop 2).take s.length = s := by
      simp [encOne, padTo]
    rw [hd, ht]
  | fixed b =>
    obtain ⟨hs, hlen, hc⟩ := hf
    have hge : sp.size ≤ wrSize sp.fmt sp.size 0 := by
      rw [wrSize_eq, hs]
      exact alignUp_ge _
    have hr : readLen sp = b.length := by
      unfold readLen
      by_cases e : sp.fmt = .chr
      · simp [e, hlen, hc e]
      · simp [e, hlen]
    unfold decOne
    simp only [hs, Bool.false_eq_true, ↓reduceIte, hg sp.fmt sp.size 0 hh hc]
    have hd : (encOne sp (.fixed b) ++ tl).drop (wrSize sp.fmt sp.size 0) = tl :=
      drop_padTo _ _ _ (by omega)
    have ht : (encOne sp (.fixed b) ++ tl).take (readLen sp) = b := by
      rw [hr]; simp only [encOne]
      rw [take_padTo _ _ _ _ (Nat.le_refl _)]; simp
    rw [hd, ht]

theorem decode_encode (adv : Fmt → Nat → Nat → Option Nat) (hg : Good adv) :
    ∀ (sv : List (ASpec × AVal)) (tl : List Nat),
      (∀ p ∈ sv, fits p.1 p.2 ∧ handles adv p.1.fmt = true) →
      decode adv (sv.map (·.1)) (encode sv ++ tl) = sv.map (·.2)
  | [], _, _ => rfl
  | (sp, v) :: rest, tl, h => by
    have h0 := h (sp, v) (List.mem_cons_self)
    have ih := decode_encode adv hg rest tl (fun p hp => h p (List.mem_cons_of_mem _ hp))
    simp only [List.map_cons, encode, decode, List.append_assoc]
    rw [decOne_encOne adv hg sp v h0.1 h0.2]
    simp only [ih]

theorem good_replay : Good replayAdv := Good.of _ fun f _ _ => by
  cases f <;> simp only [reduceCtorEq, ↓reduceIte] <;> rfl

theorem good_python : Good pyAdv := Good.of _ fun f _ _ => by
  cases f <;> simp only [reduceCtorEq, ↓reduceIte] <;> rfl

theorem good_lua : Good luaAdv := Good.of _ fun f _ _ => by
  cases f <;> simp only [reduceCtorEq, ↓reduceIte] <;> rfl

theorem replay_handles_all (f : Fmt) : handles replayAdv f = true := by
  cases f <;> rfl

end Uft.Script.Args

/-! ## refinement: this file's model of cmds/script.c against the script loop of the C07 model
    (Uft/Model/Fstack.lean `stepC`), record by record -/
namespace Uft.Script.Bridge
open Uft.Fstack
open Uft.Mcount (Call Calls evCall evCalls)

/-- a record of the C07 / hook models as a record of this model -/
def conv (r : Uft.Mcount.Rec) : Rec :=
  { time := r.time, exit := r.type == 1, depth := r.depth, addr := r.addr }

/-- the option set in the C07 model's terms: -F / -N table, -D, -t -/
def toRCfg (cfg : Cfg) (thr : Nat) : RCfg :=
  { depthOpt := cfg.depth, threshold := thr, optIn := cfg.modeIn, trig := fun a => { filter := cfg.filt a } }

/-- a callback as the shown record of the C07 model: time, kind, function, display depth -/
def cbRec : Cb → List Uft.Mcount.Rec
  | .entry c => [{ time := c.time, type := 0, depth := c.depth, addr := c.addr }]
  | .exit c => [{ time := c.time, type := 1, depth := c.depth, addr := c.addr }]
  | _ => []

def cbRecs (cbs : List Cb) : List Uft.Mcount.Rec := cbs.flatMap cbRec

def frOf (f : Frame) : Fr :=
  { origDepth := f.origDepth, filtered := f.filtered, notrace := f.notrace, norecord := f.norecord }

/-- the list of entered calls of the C07 model is the array of this model below `stack_count` -/
def StackRel (slots : Nat → Frame) : List Fr → Prop
  | [] => True
  | fr :: rest => frOf (slots rest.length) = fr ∧ StackRel slots rest

structure Sim (cfg : Cfg) (st : TaskSt) (fs : FS) : Prop where
  count : st.stackCount = fs.sc
  len : fs.stack.length = fs.sc
  started : st.started = fs.scSet
  disp : st.disp = fs.dispDepth
  dset : st.dispSet = fs.dispSet
  inc : st.inCount = fs.inCount
  outc : st.outCount = fs.outCount
  depth : st.fdepth = fs.depth
  fresh : st.started = false → st.fdepth = cfg.depth
  en : fs.enabled = true
  ss : fs.stack ≠ [] → fs.scSet = true
  stack : StackRel st.slots fs.stack

theorem StackRel_congr (s1 s2 : Nat → Frame) :
    ∀ (l : List Fr), (∀ k, k < l.length → frOf (s1 k) = frOf (s2 k)) → StackRel s1 l → StackRel s2 l
  | [], _, _ => trivial
  | fr :: rest, h, ok => by
    have hk := h rest.length (by simp)
    simp only [StackRel] at ok ⊢
    rw [← hk]
    exact ⟨ok.1, StackRel_congr s1 s2 rest (fun k hk' => h k (by simp; omega)) ok.2⟩

theorem frOf_startSlots (st : TaskSt) (r : Rec) (k : Nat) : frOf (startSlots st r k) = frOf (st.slots k) := by
  unfold startSlots
  split
  · rfl
  · split <;> rfl

theorem sim_init (cfg : Cfg) (hd : cfg.dispSet0 = true) (thr : Nat) :
    Sim cfg (TaskSt.fresh cfg) (FS.init (toRCfg cfg thr)) :=
  { count := rfl, len := rfl, started := rfl, disp := rfl,
    dset := by simp [TaskSt.fresh, FS.init, toRCfg, hd]
    inc := rfl, outc := rfl, depth := rfl, fresh := fun _ => rfl, en := rfl, ss := fun h => absurd rfl h,
    stack := trivial }

/-- the state of the C07 script loop after a list of records -/
def endC (c : RCfg) : FS → List Uft.Mcount.Rec → FS
  | s, [] => s
  | s, r :: rest => endC c (stepC c s r).1 rest

/-- the ENTRY step of the C07 script loop in the terms of this model's tests, for a task `s` (after
    read_rstack) whose counters agree with the C07 state: the two automata take the same decision -/
theorem stepC_entry (cfg : Cfg) (thr : Nat) (s : TaskSt) (fs : FS) (r : Uft.Mcount.Rec) (ht : r.type = 0)
    (hd : r.depth = fs.sc) (hi : s.inCount = fs.inCount) (ho : s.outCount = fs.outCount)
    (hdp : s.fdepth = fs.depth) (hen : fs.enabled = true) :
    stepC (toRCfg cfg thr) fs r =
      ({ fs with
          sc := fs.sc + 1, scSet := true
          inCount := if eIn cfg s (conv r) then fs.inCount + 1 else fs.inCount
          outCount := if eNotrace cfg s (conv r) then fs.outCount + 1 else fs.outCount
          depth := if accepted cfg s (conv r) then fdepth1 cfg s (conv r) - 1 else fdepth1 cfg s (conv r)
          dispSet := fs.dispSet || accepted cfg s (conv r)
          dispDepth :=
            if accepted cfg s (conv r) then (if accepted cfg s (conv r) && !fs.dispSet then fs.sc else fs.dispDepth) + 1
            else fs.dispDepth
          stack := { origDepth := fs.depth, filtered := eIn cfg s (conv r), notrace := eNotrace cfg s (conv r),
                     norecord := !accepted cfg s (conv r) } :: fs.stack },
       if accepted cfg s (conv r) then [shown r (if accepted cfg s (conv r) && !fs.dispSet then fs.sc else fs.dispDepth)] else []) := by
  have ha : account fs r = { fs with sc := fs.sc + 1, scSet := true } := by
    unfold account
    cases fs.scSet <;> simp [ht, hd]
  have hplt : isPlt (toRCfg cfg thr) r = false := rfl
  unfold stepC
  simp only [ha, hplt, ht, Bool.false_eq_true, ↓reduceIte]
  unfold fsEntry verdict accepted eMode eNotrace fdepth1 eIn eOut
  simp only [toRCfg, conv, locReject, enAfter, depthAfter, isIn, hen, hi, ho, hdp]
  have hfl : cfg.filt r.addr = none ∨ cfg.filt r.addr = some false ∨ cfg.filt r.addr = some true := by
    rcases cfg.filt r.addr with _ | (_ | _) <;> simp
  by_cases h1 : fs.outCount > 0
  · simp [h1, Verdict.matched, Verdict.late, Verdict.norecord]
  · rcases hfl with hfl | hfl | hfl
    · by_cases hm : cfg.modeIn = true ∧ fs.inCount = 0
      · simp [hfl, h1, hm.1, hm.2, Verdict.matched, Verdict.norecord, Verdict.late]
      · have hm' : (cfg.modeIn && fs.inCount == 0) = false := by simpa using hm
        have hm'' : (cfg.modeIn && decide (fs.inCount = 0)) = false := by simpa using hm
        by_cases hd0 : fs.depth = 0 <;>
          simp [hfl, h1, hm', hm'', hd0, Verdict.matched, Verdict.norecord, Verdict.late, updEntry]
    · simp [hfl, h1, Verdict.matched, Verdict.norecord, Verdict.late]
    · by_cases hd0 : cfg.depth = 0 <;> simp [hfl, h1, hd0, Verdict.matched, Verdict.norecord, Verdict.late, updEntry]

/-- the EXIT step of the C07 script loop for a call it has entered -/
theorem stepC_exit (cfg : Cfg) (thr : Nat) (fs : FS) (r : Uft.Mcount.Rec) (ht : r.type = 1) (hs : fs.scSet = true)
    (hen : fs.enabled = true) {fr : Fr} {rest : List Fr} (hstk : fs.stack = fr :: rest) :
    stepC (toRCfg cfg thr) fs r =
      ({ fs with
          sc := fs.sc - 1, scSet := true
          inCount := if fr.filtered then fs.inCount - 1 else fs.inCount
          outCount := if !fr.filtered && fr.notrace then fs.outCount - 1 else fs.outCount
          depth := fr.origDepth, stack := rest
          dispDepth := if fr.norecord then fs.dispDepth else (if fs.dispSet then fs.dispDepth else fs.sc - 1 + 1) - 1
          dispSet := fs.dispSet || !fr.norecord },
       if fr.norecord then [] else [shown r ((if fs.dispSet then fs.dispDepth else fs.sc - 1 + 1) - 1)]) := by
  have ha : account fs r = { fs with sc := fs.sc - 1, scSet := true } := by
    simp [account, ht, hs]
  have hplt : isPlt (toRCfg cfg thr) r = false := rfl
  unfold stepC exitStep
  simp only [ha, hplt, ht, hen, Bool.false_eq_true, ↓reduceIte, Nat.succ_ne_zero, Bool.not_true,
    Bool.or_false]
  cases hn : fr.norecord
  · simp [fsExit, updExit, topFr, hstk, hn]
  · simp [fsExit, topFr, hstk, hn]

/-- ENTRY: both script loops make the same step -/
theorem entry_sim (cfg : Cfg) (thr i : Nat) (hf : cfg.funcs = []) (st : TaskSt) (fs : FS) (sim : Sim cfg st fs)
    (r : Uft.Mcount.Rec) (ht : r.type = 0) (hd : r.depth = fs.sc) :
    Sim cfg (scriptTask cfg i st (conv r)).1 (stepC (toRCfg cfg thr) fs r).1 ∧
    cbRecs (scriptTask cfg i st (conv r)).2 = (stepC (toRCfg cfg thr) fs r).2 ∧
    ∃ fr, (stepC (toRCfg cfg thr) fs r).1.stack = fr :: fs.stack := by
  have hx : (conv r).exit = false := by simp [conv, ht]
  have hsc : startCount st (conv r) = fs.sc := startCount_entry hx hd (fun _ => sim.count)
  have h1fd : (consume cfg st (conv r)).fdepth = fs.depth := by
    show (if st.started = true then st.fdepth else cfg.depth) = _
    cases hs : st.started
    · rw [if_neg (by simp), ← sim.fresh hs]
      exact sim.depth
    · rw [if_pos rfl]
      exact sim.depth
  rw [stepC_entry cfg thr (consume cfg st (conv r)) fs r ht hd sim.inc sim.outc h1fd sim.en]
  generalize h1 : consume cfg st (conv r) = s1 at h1fd
  have hdisp := entry_disp cfg hx h1
  rw [hsc, sim.dset, sim.disp] at hdisp
  rw [scriptTask_entry cfg i hx h1, hsc, hdisp, sim.dset, sim.inc, sim.outc]
  refine ⟨?_, ?_, _, rfl⟩
  · exact {
      count := rfl
      len := congrArg (· + 1) sim.len
      started := rfl
      disp := by
        cases accepted cfg s1 (conv r) <;> rfl
      dset := rfl
      inc := rfl
      outc := rfl
      depth := rfl
      fresh := fun h => Bool.noConfusion h
      en := sim.en
      ss := fun _ => rfl
      stack := by
        refine ⟨?_, StackRel_congr st.slots _ fs.stack ?_ sim.stack⟩
        · rw [sim.len, ← h1fd]
          exact congrArg frOf (setSlot_eq _ _ _)
        · intro k hk
          rw [sim.len] at hk
          exact (frOf_startSlots st (conv r) k).symm.trans
            (congrArg frOf (setSlot_ne _ _ _ (Nat.ne_of_lt hk)).symm) }
  · unfold scriptEntryCb
    rw [matchFuncs_nil cfg hf, Bool.and_true, hdisp]
    cases accepted cfg s1 (conv r)
    · rfl
    · simp [cbRecs, cbRec, shown, conv, ht]

/-- EXIT of a call this reader has entered: both script loops make the same step -/
theorem exit_sim (cfg : Cfg) (thr i : Nat) (hf : cfg.funcs = []) (st : TaskSt) (fs : FS) (sim : Sim cfg st fs)
    (r : Uft.Mcount.Rec) (ht : r.type = 1) (fr : Fr) (rest : List Fr) (hstk : fs.stack = fr :: rest) :
    Sim cfg (scriptTask cfg i st (conv r)).1 (stepC (toRCfg cfg thr) fs r).1 ∧
    cbRecs (scriptTask cfg i st (conv r)).2 = (stepC (toRCfg cfg thr) fs r).2 ∧
    (stepC (toRCfg cfg thr) fs r).1.stack = rest := by
  have hx : (conv r).exit = true := by simp [conv, ht]
  have hscset : fs.scSet = true := sim.ss (by simp [hstk])
  have hlen : fs.sc = rest.length + 1 := by
    rw [← sim.len, hstk]
    rfl
  -- the frame fstack_exit looks at is the innermost entered call of the C07 model
  obtain ⟨hfr, hrest⟩ : frOf (st.slots rest.length) = fr ∧ StackRel st.slots rest := by
    have := sim.stack
    rwa [hstk] at this
  subst hfr
  rw [stepC_exit cfg thr fs r ht hscset sim.en hstk,
    scriptTask_exit cfg i hx (sim.started.trans hscset) (sim.count.trans hlen) rfl, matchFuncs_nil cfg hf, Bool.and_true,
    sim.disp, sim.dset, sim.inc, sim.outc, hlen]
  refine ⟨?_, ?_, rfl⟩
  · exact {
      count := rfl
      len := rfl
      started := rfl
      disp := rfl
      dset := rfl
      inc := rfl
      outc := rfl
      depth := rfl
      fresh := fun h => Bool.noConfusion h
      en := sim.en
      ss := fun _ => rfl
      stack := StackRel_congr st.slots _ rest
        (fun k hk => congrArg frOf (setSlot_ne _ _ _ (Nat.ne_of_lt hk)).symm) hrest }
  · show cbRecs (if (!(st.slots rest.length).norecord) = true then _ else _) =
      if (st.slots rest.length).norecord = true then _ else _
    cases (st.slots rest.length).norecord
    · simp [cbRecs, cbRec, shown, conv, ht]
    · rfl

theorem taskRun_append (cfg : Cfg) (i : Nat) : ∀ (a b : List Rec) (st : TaskSt),
    taskRun cfg i st (a ++ b) =
      ((taskRun cfg i (taskRun cfg i st a).1 b).1, (taskRun cfg i st a).2 ++ (taskRun cfg i (taskRun cfg i st a).1 b).2)
  | [], b, st => by simp [taskRun]
  | r :: a, b, st => by
    simp only [List.cons_append, taskRun, taskRun_append cfg i a b, List.append_assoc]

theorem endC_append (c : RCfg) : ∀ (a b : List Uft.Mcount.Rec) (s : FS), endC c s (a ++ b) = endC c (endC c s a) b
  | [], _, _ => rfl
  | r :: a, b, s => by simp only [List.cons_append, endC, endC_append c a b]

theorem runSteps_append (c : RCfg) : ∀ (a b : List Uft.Mcount.Rec) (s : FS),
    runSteps (stepC c) s (a ++ b) = runSteps (stepC c) s a ++ runSteps (stepC c) (endC c s a) b
  | [], _, _ => rfl
  | r :: a, b, s => by simp only [List.cons_append, runSteps, endC, runSteps_append c a b, List.append_assoc]

theorem cbRecs_append (a b : List Cb) : cbRecs (a ++ b) = cbRecs a ++ cbRecs b := by simp [cbRecs]

/-- both script loops have gone through `rs` in step -/
def InStep (cfg : Cfg) (thr i : Nat) (st : TaskSt) (fs : FS) (rs : List Uft.Mcount.Rec) : Prop :=
  Sim cfg (taskRun cfg i st (rs.map conv)).1 (endC (toRCfg cfg thr) fs rs) ∧
  cbRecs (taskRun cfg i st (rs.map conv)).2 = runSteps (stepC (toRCfg cfg thr)) fs rs

theorem InStep.cons {cfg : Cfg} {thr i : Nat} {st : TaskSt} {fs : FS} {r : Uft.Mcount.Rec} {rs : List Uft.Mcount.Rec}
    (out : cbRecs (scriptTask cfg i st (conv r)).2 = (stepC (toRCfg cfg thr) fs r).2)
    (h : InStep cfg thr i (scriptTask cfg i st (conv r)).1 (stepC (toRCfg cfg thr) fs r).1 rs) :
    InStep cfg thr i st fs (r :: rs) := by
  refine ⟨h.1, ?_⟩
  show cbRecs (_ ++ _) = _ ++ _
  rw [cbRecs_append, out, h.2]

theorem InStep.append {cfg : Cfg} {thr i : Nat} {st : TaskSt} {fs : FS} {a b : List Uft.Mcount.Rec}
    (ha : InStep cfg thr i st fs a)
    (hb : InStep cfg thr i (taskRun cfg i st (a.map conv)).1 (endC (toRCfg cfg thr) fs a) b) :
    InStep cfg thr i st fs (a ++ b) := by
  unfold InStep
  rw [List.map_append, taskRun_append, endC_append, runSteps_append, cbRecs_append, ha.2, hb.2]
  exact ⟨hb.1, rfl⟩

/-- what the simulation gives for a stretch of records -/
structure SimRun (cfg : Cfg) (thr i : Nat) (st : TaskSt) (fs : FS) (rs : List Uft.Mcount.Rec) : Prop where
  sim : Sim cfg (taskRun cfg i st (rs.map conv)).1 (endC (toRCfg cfg thr) fs rs)
  out : cbRecs (taskRun cfg i st (rs.map conv)).2 = runSteps (stepC (toRCfg cfg thr)) fs rs
  stack : (endC (toRCfg cfg thr) fs rs).stack = fs.stack

mutual
  /-- a complete call: the two script loops stay in step and the entered-call stack is restored -/
  theorem sim_call (cfg : Cfg) (thr i : Nat) (hf : cfg.funcs = []) :
      ∀ (x : Call) (st : TaskSt) (fs : FS), Sim cfg st fs → SimRun cfg thr i st fs (evCall fs.sc x)
    | .node f t0 t1 kids, st, fs, sim => by
      obtain ⟨sim1, out1, fr, hstk1⟩ :=
        entry_sim cfg thr i hf st fs sim { time := t0, type := 0, depth := fs.sc, addr := f } rfl rfl
      have hK := sim_calls cfg thr i hf kids _ _ sim1
      rw [show (stepC (toRCfg cfg thr) fs { time := t0, type := 0, depth := fs.sc, addr := f }).1.sc = fs.sc + 1 by
        rw [← sim1.len, hstk1, List.length_cons, sim.len]] at hK
      obtain ⟨sim3, out3, hstk3⟩ :=
        exit_sim cfg thr i hf _ _ hK.sim { time := t1, type := 1, depth := fs.sc, addr := f } rfl fr fs.stack
          (hK.stack.trans hstk1)
      have h := InStep.cons out1 (InStep.append ⟨hK.sim, hK.out⟩ (InStep.cons (rs := []) out3 ⟨sim3, rfl⟩))
      refine ⟨h.1, h.2, ?_⟩
      show (endC (toRCfg cfg thr) _ (evCalls (fs.sc + 1) kids ++ [_])).stack = _
      rw [endC_append]
      exact hstk3
  theorem sim_calls (cfg : Cfg) (thr i : Nat) (hf : cfg.funcs = []) :
      ∀ (xs : Calls) (st : TaskSt) (fs : FS), Sim cfg st fs → SimRun cfg thr i st fs (evCalls fs.sc xs)
    | .nil, st, fs, sim => ⟨sim, rfl, rfl⟩
    | .cons x rest, st, fs, sim => by
      have h1 := sim_call cfg thr i hf x st fs sim
      have h2 := sim_calls cfg thr i hf rest _ _ h1.sim
      rw [show (endC (toRCfg cfg thr) fs (evCall fs.sc x)).sc = fs.sc by rw [← h1.sim.len, h1.stack, sim.len]] at h2
      have h := InStep.append ⟨h1.sim, h1.out⟩ ⟨h2.sim, h2.out⟩
      refine ⟨h.1, h.2, ?_⟩
      show (endC (toRCfg cfg thr) fs (evCall fs.sc x ++ evCalls fs.sc rest)).stack = _
      rw [endC_append, h2.stack, h1.stack]
end

/-- the main loop over a stream of one task is that task's run -/
theorem runWith_single (cfg : Cfg) (i : Nat) {α : Type} (f : α → Rec) : ∀ (rs : List α) (g : G),
    (runWith (scriptTask cfg) g (rs.map fun r => (i, f r))).2 = (taskRun cfg i (g i) (rs.map f)).2
  | [], _ => rfl
  | r :: rs, g => by
    simp only [List.map_cons, runWith, taskRun]
    rw [runWith_single cfg i f rs]
    simp [upd]

end Uft.Script.Bridge

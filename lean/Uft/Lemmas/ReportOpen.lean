/- C08 helper lemmas: the whole function report over call forests: complete calls, the plain
   report as the keying where every address is its own name, and calls still open at the end of
   the data (`add_remaining_fstack`). -/
import Uft.Lemmas.Report
import Uft.Lemmas.ReportMerge
namespace Uft.Report
open Uft.Mcount (Call Calls)

/-- the name-keyed function report over complete forests: the node table is the empty table updated
    with the forests' invocations as the reader computes them (task order; any order gives the same) -/
theorem report_forestsK (ky : Keying) (m : Nat) (forests : List Calls) (hfit : ∀ cs ∈ forests, cs.height ≤ m) :
    reportNodesK ky m (streamsOf forests) = Nodes.upds (fun _ => {}) (allUpdsK ky forests) := by
  have hrun : ∀ cs ∈ forests,
      (runTG (stepFK ky) (Task.init m) (evCalls 0 cs)).2 = updsLK ky [] cs ∧
      finishFK ky (runTG (stepFK ky) (Task.init m) (evCalls 0 cs)).1 = [] := by
    intro cs hcs
    obtain ⟨hU, hP⟩ := runK_calls ky cs (Task.init m) 0 0 ⟨rfl, rfl, Or.inr ⟨rfl, rfl⟩⟩
      (by simpa [Task.init] using hfit cs hcs)
    exact ⟨hU, by simp [finishFK, hP.ready.sc]⟩
  unfold reportNodesK allUpdsK
  rw [reportG]
  simp only [streamsOf, List.flatMap_map]
  rw [flatMap_eq_of_forall _ _ _ (fun cs h => (hrun cs h).1),
    List.flatMap_eq_nil_iff.mpr (fun cs h => (hrun cs h).2), List.append_nil]

/-! ### a 1-1 symbol table: the keyed report is the plain one -/

/-- every address is its own name, recursion is tested by address (the code as found) -/
def Keying.plain (sym : Nat → Bool) : Keying := { name := id, sym := sym, byName := false }

theorem updOfK_plain (sym : Nat → Bool) (stk : List Fs) (i : Nat) (fs : Fs) (k : Nat) :
    updOfK (Keying.plain sym) stk i fs k = updOf stk i fs k := by
  simp [updOfK, updOf, isRecK, isRec, Keying.plain]

theorem lostUpdsK_plain (sym : Nat → Bool) (stk : List Fs) : ∀ (n : Nat) (i : Int),
    lostUpdsK (Keying.plain sym) stk n i = lostUpds stk n i
  | 0, _ => rfl
  | n + 1, i => by
    simp only [lostUpdsK, lostUpds]
    cases slot? stk i with
    | none => exact lostUpdsK_plain sym stk n _
    | some fs => simp only [updOfK_plain, lostUpdsK_plain sym stk n]

theorem remLoopK_plain (sym : Nat → Bool) (last : Nat) : ∀ (n : Nat) (stk : List Fs),
    remLoopK (Keying.plain sym) last n stk = remLoop last none n stk
  | 0, _ => rfl
  | n + 1, stk => by
    rw [remLoopK, remLoop]
    cases stk[n]? with
    | none => exact remLoopK_plain sym last n stk
    | some fs =>
      simp only [updOfK_plain, remLoopK_plain sym last n, Option.isSome_none, Bool.false_and, Bool.false_eq_true,
        if_false, Option.getD_none]

theorem stepFK_plain (sym : Nat → Bool) : stepFK (Keying.plain sym) = stepF := by
  funext t r
  simp only [stepFK, stepF, updOfK_plain, lostUpdsK_plain]
  by_cases h1 : r.typ = 1
  · simp only [h1, if_true]
    cases slot? (consume t r).stk (consume t r).sc <;> rfl
  · simp only [h1, if_false]

theorem finishFK_plain (sym : Nat → Bool) : finishFK (Keying.plain sym) = finishF := by
  funext t
  simp only [finishFK, finishF, remLoopK_plain]

theorem reportNodesK_plain (sym : Nat → Bool) (m : Nat) (streams : List (List Rec)) :
    reportNodesK (Keying.plain sym) m streams = reportNodes false m streams := by
  unfold reportNodesK
  rw [stepFK_plain, finishFK_plain]
  rfl

theorem report_forests (m : Nat) (forests : List Calls) (hfit : ∀ cs ∈ forests, cs.height ≤ m) :
    reportNodes false m (streamsOf forests) = Nodes.upds (fun _ => {}) (allUpds forests) := by
  rw [← reportNodesK_plain (fun _ => false), report_forestsK _ m forests hfit, allUpdsK_id _ (fun _ => rfl)]

theorem runF_calls (cs : Calls) (t : Task) (n d : Nat) (hr : Ready t n d) (hh : n + cs.height ≤ t.stk.length) :
    (runTG stepF t (evCalls d cs)).2 = updsL (ctxOf t.stk n) cs ∧
    Post t (runTG stepF t (evCalls d cs)).1 n d (Fs.kidsDone cs) := by
  rw [← stepFK_plain (fun _ => false), ← updsLK_id (Keying.plain _) (fun _ => rfl)]
  exact runK_calls _ cs t n d hr hh

/-! ### calls still open at the end of the data -/

def capp : Calls → Calls → Calls
  | .nil, b => b
  | .cons c rest, b => .cons c (capp rest b)

/-- the calls that are still open when a task's data ends, outermost first:
    (function, entry time, the callees it had completed) -/
abbrev Open := List (Nat × Nat × Calls)

def evOpen (d : Nat) : Open → List Rec
  | [] => []
  | (f, t0, kids) :: rest =>
    { time := t0, typ := 0, depth := d, addr := f } :: (evCalls (d + 1) kids ++ evOpen (d + 1) rest)

/-- the same calls, returning at time `last` -/
def closeAt (last : Nat) : Open → Calls
  | [] => .nil
  | (f, t0, kids) :: rest => .cons (.node f t0 last (capp kids (closeAt last rest))) .nil

def openHeight : Open → Nat
  | [] => 0
  | (_, _, kids) :: rest => max (kids.height + 1) (openHeight rest + 1)

theorem evCalls_capp (d : Nat) : ∀ (a b : Calls), evCalls d (capp a b) = evCalls d a ++ evCalls d b
  | .nil, b => by simp [capp, evCalls]
  | .cons c rest, b => by simp [capp, evCalls, evCalls_capp d rest b]

theorem updsL_capp (ctx : List Nat) : ∀ (a b : Calls), updsL ctx (capp a b) = updsL ctx a ++ updsL ctx b
  | .nil, b => by simp [capp, updsL]
  | .cons c rest, b => by simp [capp, updsL, updsL_capp ctx rest b]

theorem childTime_capp : ∀ (a b : Calls) (acc : Nat), childTime acc (capp a b) = childTime (childTime acc a) b
  | .nil, b, acc => by simp [capp, childTime]
  | .cons c rest, b, acc => by simp [capp, childTime, childTime_capp rest b]

theorem durSum_capp : ∀ (a b : Calls), durSum (capp a b) = durSum a + durSum b
  | .nil, b => by simp [capp, durSum]
  | .cons c rest, b => by
    simp [capp, durSum, durSum_capp rest b]
    omega

theorem wtL_capp : ∀ (a b : Calls), wtL (capp a b) ↔ wtL a ∧ wtL b
  | .nil, b => by simp [capp, wtL]
  | .cons c rest, b => by simp [capp, wtL, wtL_capp rest b, and_assoc]

theorem height_capp : ∀ (a b : Calls), (capp a b).height = max a.height b.height
  | .nil, b => by simp [capp, Calls.height]
  | .cons c rest, b => by simp [capp, Calls.height, height_capp rest b, Nat.max_assoc]

/-- `add_remaining_fstack` over the slots `lo + n - 1 … lo` -/
def remFrom (last : Nat) (lo : Nat) : Nat → List Fs → List Fs × List Upd
  | 0, stk => (stk, [])
  | n + 1, stk =>
    match stk[lo + n]? with
    | none => remFrom last lo n stk
    | some fs =>
      if fs.total > last then remFrom last lo n stk
      else
        let total0 := last - fs.total
        let total := if fs.child > total0 then fs.child else total0
        let fs' := { fs with total := total }
        let stk1 := stk.set (lo + n) fs'
        let stk2 := if lo + n > 0 then bump stk1 (lo + n - 1) total else stk1
        let u := updOf stk2 (lo + n) fs' fs.addr
        let r := remFrom last lo n stk2
        (r.1, u :: r.2)

theorem remLoop_eq (last : Nat) : ∀ (n : Nat) (stk : List Fs), remLoop last none n stk = remFrom last 0 n stk
  | 0, _ => rfl
  | n + 1, stk => by
    rw [remLoop, remFrom, Nat.zero_add]
    cases stk[n]? with
    | none => exact remLoop_eq last n stk
    | some fs =>
      simp only [remLoop_eq last n, Option.isSome_none, Bool.false_and, Bool.false_eq_true, if_false, Option.getD_none]

theorem remFrom_split (last : Nat) : ∀ (a b lo : Nat) (stk : List Fs),
    remFrom last lo (b + a) stk =
      ((remFrom last lo b (remFrom last (lo + b) a stk).1).1,
       (remFrom last (lo + b) a stk).2 ++ (remFrom last lo b (remFrom last (lo + b) a stk).1).2)
  | 0, b, lo, stk => by simp [remFrom]
  | a + 1, b, lo, stk => by
    rw [← Nat.add_assoc, remFrom, remFrom, Nat.add_assoc lo b a]
    cases stk[lo + (b + a)]? with
    | none => exact remFrom_split last a b lo stk
    | some fs =>
      simp only [remFrom_split last a b lo]
      split <;> rfl

theorem remFrom_one (last n : Nat) (stk : List Fs) (fs : Fs) (h : stk[n]? = some fs)
    (h1 : fs.total ≤ last) (h2 : fs.child ≤ last - fs.total) :
    remFrom last n 1 stk =
      (closeStk stk n (last - fs.total) { fs with total := last - fs.total },
       [{ key := fs.addr, total := last - fs.total, self := sub64 (last - fs.total) fs.child,
          recursive := (ctxOf stk n).any (· == fs.addr) }]) := by
  have h1' : ¬ (fs.total > last) := by omega
  have h2' : ¬ (fs.child > last - fs.total) := by omega
  have hc := ctxOf_closeStk stk n (last - fs.total) { fs with total := last - fs.total }
  unfold closeStk at hc ⊢
  simp only [remFrom, Nat.add_zero, h, h1', if_false, h2', updOf, isRec_eq, hc]

/-- running the records of the open calls and then `add_remaining_fstack` over their slots gives
    the updates of the same calls closed at `last` -/
theorem run_open (last : Nat) : ∀ (spine : Open) (t : Task) (n d : Nat), Ready t n d →
    n + openHeight spine ≤ t.stk.length → wtL (closeAt last spine) →
    (runTG stepF t (evOpen d spine)).2 ++ (remFrom last n spine.length (runTG stepF t (evOpen d spine)).1.stk).2 =
        updsL (ctxOf t.stk n) (closeAt last spine) ∧
    (runTG stepF t (evOpen d spine)).1.sc = ((n + spine.length : Nat) : Int) ∧
    Below t.stk (remFrom last n spine.length (runTG stepF t (evOpen d spine)).1.stk).1 n
      (Fs.kidsDone (closeAt last spine))
  | [], t, n, d, hr, hh, hw => by
    refine ⟨rfl, hr.sc, rfl, fun k _ => ?_⟩
    show t.stk[k]? = _
    cases t.stk[k]? <;> simp [closeAt, Fs.kidsDone, childTime]
  | (f, t0, kids) :: rest, t, n, d, hr, hh, hw => by
    simp only [closeAt, wtL, wt, and_true] at hw
    obtain ⟨hw1, hw2, hw3, hw4⟩ := hw
    have hwr := ((wtL_capp _ _).mp hw4).2
    have hm : max (kids.height + 1) (openHeight rest + 1) = openHeight ((f, t0, kids) :: rest) := rfl
    have hn : n < t.stk.length := by omega
    have hE := stepFK_entry (Keying.plain fun _ => false) t n { time := t0, typ := 0, depth := d, addr := f }
      hr rfl hn
    rw [stepFK_plain] at hE
    simp only [evOpen, runTG, hE, runTG_append, List.nil_append]
    -- the completed callees
    obtain ⟨ihU, ihP⟩ := runF_calls kids (entryTask t n { time := t0, typ := 0, depth := d, addr := f })
      (n + 1) (d + 1) ⟨rfl, hr.lost, Or.inl rfl⟩ (by simp only [entryTask, List.length_set]; omega)
    generalize runTG stepF (entryTask t n { time := t0, typ := 0, depth := d, addr := f })
      (evCalls (d + 1) kids) = rk at ihU ihP ⊢
    have hlen : rk.1.stk.length = t.stk.length := ihP.stk.len.trans (List.length_set ..)
    -- the deeper open calls
    obtain ⟨oU, oS, oB⟩ := run_open last rest rk.1 (n + 1) (d + 1)
      ⟨ihP.ready.sc, ihP.ready.lost, Or.inl (ihP.ready.fset.resolve_right (by omega))⟩ (by omega) hwr
    generalize runTG stepF rk.1 (evOpen (d + 1) rest) = ro at oU oS oB ⊢
    rw [show ((f, t0, kids) :: rest).length = 1 + rest.length by simp; omega, remFrom_split]
    generalize remFrom last (n + 1) rest.length ro.1.stk = q at oU oB ⊢
    -- the frame of `f` when `add_remaining_fstack` reaches it
    obtain ⟨hslot, hbelow⟩ := (ihP.stk.trans oB).frame hn
    have hct : childTime 0 (capp kids (closeAt last rest)) = durSum (capp kids (closeAt last rest)) := by
      rw [childTime_eq _ 0 hw4 (by omega)]
      omega
    simp only [Function.comp, Fs.kidsDone, ← childTime_capp, hct] at hslot
    rw [remFrom_one last n q.1 _ hslot hw1 hw3]
    refine ⟨?_, by rw [oS]; omega, ?_⟩
    · have hc : ctxOf q.1 n = ctxOf t.stk n := ctxOf_congr _ _ _ (fun k hk => by rw [hbelow k hk])
      have hcl : ¬ (durSum (capp kids (closeAt last rest)) > last - t0) := by omega
      rw [ihP.stk.ctx (fun _ => rfl)] at oU
      simp only [entryTask, ctxOf_set_succ _ _ _ hn] at oU ihU
      simp only [closeAt, updsL, upds, List.append_nil, updsL_capp, ihU, hct, hc,
        sub64_eq _ _ hw1 hw2, hcl, if_false, List.append_assoc, ← oU]
    · have hk : Fs.kidsDone (closeAt last ((f, t0, kids) :: rest)) = Fs.addChild (last - t0) := by
        funext fs
        simp only [closeAt, Fs.kidsDone, Fs.addChild, childTime, dur, sub64_eq _ _ hw1 hw2]
      rw [hk]
      exact Below.close _ _ (oB.len.trans hlen) hbelow

/-! ### one task's data ending with open calls, through the whole report -/

/-- time of the last record (`dflt` for an empty stream) -/
def lastTimeOf (dflt : Nat) (rs : List Rec) : Nat := rs.foldl (fun _ r => r.time) dflt

theorem stepF_lastTime (t : Task) (r : Rec) : (stepF t r).1.lastTime = r.time := by
  unfold stepF
  simp only
  split
  · split <;> rfl
  · split <;> rfl

theorem runF_lastTime : ∀ (rs : List Rec) (t : Task), (runTG stepF t rs).1.lastTime = lastTimeOf t.lastTime rs
  | [], t => rfl
  | r :: rs, t => by
    simp only [runTG, lastTimeOf, List.foldl_cons]
    rw [runF_lastTime rs, stepF_lastTime]
    rfl

theorem finishF_eq (t : Task) (n : Nat) (h : t.sc = n) :
    finishF t = (remFrom t.lastTime 0 n t.stk).2 := by
  unfold finishF
  by_cases h0 : n = 0
  · subst h0
    simp [h, remFrom]
  · have : ¬ (t.sc = 0) := by omega
    rw [if_neg this]
    simp only [h, Int.toNat_natCast, remLoop_eq]

theorem report_open (m : Nat) (done : Calls) (spine : Open)
    (hd : done.height ≤ m) (hs : openHeight spine ≤ m)
    (hw : wtL (closeAt (lastTimeOf 0 (evCalls 0 done ++ evOpen 0 spine)) spine)) :
    reportNodes false m [evCalls 0 done ++ evOpen 0 spine] =
      Nodes.upds (fun _ => {})
        (updsL [] (capp done (closeAt (lastTimeOf 0 (evCalls 0 done ++ evOpen 0 spine)) spine))) := by
  generalize hlast : lastTimeOf 0 (evCalls 0 done ++ evOpen 0 spine) = last at hw
  have hlt := runF_lastTime (evCalls 0 done ++ evOpen 0 spine) (Task.init m)
  rw [show (Task.init m).lastTime = 0 from rfl, hlast] at hlt
  rw [reportNodes_false, reportG]
  simp only [List.flatMap_cons, List.flatMap_nil, List.append_nil]
  rw [runTG_append] at hlt ⊢
  obtain ⟨dU, dP⟩ := runF_calls done (Task.init m) 0 0 ⟨rfl, rfl, Or.inr ⟨rfl, rfl⟩⟩
    (by simp [Task.init]; exact hd)
  generalize runTG stepF (Task.init m) (evCalls 0 done) = r1 at dU dP hlt ⊢
  have hlen : r1.1.stk.length = m := by
    rw [dP.stk.len]
    simp [Task.init]
  obtain ⟨oU, oS, _⟩ := run_open last spine r1.1 0 0 dP.ready (by rw [hlen]; omega) hw
  simp only at hlt ⊢
  rw [finishF_eq _ spine.length (by rw [oS]; simp), hlt, List.append_assoc, oU, dU, updsL_capp]
  rfl

end Uft.Report

import Uft.Lemmas.McountHooks
/- The hooks when nothing is filtered: `pending` (the ENTRY records record_trace_data owes for a shadow stack) and
   `markTo` (the stack after it wrote them), the configurations `Plain` and the thread states `Good` between
   hooks, and what the entry and the exit hook do on such a state (`entry_plain`, `exit_plain'`). -/
namespace Uft.Mcount

def markW (f : Frame) : Frame := { f with written := true }

/-- ENTRY records still owed for the frames (innermost first), as
    `record_trace_data` would write them: outermost first, stopping at the first
    frame already written -/
def pending : List Frame → List Rec
  | [] => []
  | f :: r => if f.written then [] else pending r ++ [entryRec f]

def markTo : List Frame → List Frame
  | [] => []
  | f :: r => if f.written then f :: r else markW f :: markTo r

def NoSkip (fs : List Frame) : Prop := ∀ f ∈ fs, f.norecord = false ∧ f.disabled = false

theorem flushBelow_noskip (fs : List Frame) (h : NoSkip fs) :
    flushBelow fs = (markTo fs, pending fs) := by
  induction fs with
  | nil => rfl
  | cons f r ih =>
    have hf := h f (by simp)
    have hr : NoSkip r := fun g hg => h g (by simp [hg])
    simp only [flushBelow, markTo, pending]
    split
    · rfl
    · simp [Frame.skip, hf.1, hf.2, ih hr, markW]

theorem pending_markTo (fs : List Frame) : pending (markTo fs) = [] := by
  cases fs with
  | nil => rfl
  | cons f r =>
    simp only [markTo]
    split
    · rename_i h; simp [pending, h]
    · simp [pending, markW]

theorem markTo_markTo (fs : List Frame) : markTo (markTo fs) = markTo fs := by
  cases fs with
  | nil => rfl
  | cons f r =>
    simp only [markTo]
    split
    · rename_i h; simp [markTo, h]
    · simp [markTo, markW]

theorem pending_cons_unwritten (F : Frame) (fs : List Frame) (h : F.written = false) :
    pending (F :: fs) = pending fs ++ [entryRec F] := by
  simp [pending, h]

theorem markTo_cons_unwritten (F : Frame) (fs : List Frame) (h : F.written = false) :
    markTo (F :: fs) = markW F :: markTo fs := by
  simp [markTo, h]

theorem markTo_eraseW (fs : List Frame) : (markTo fs).map eraseW = fs.map eraseW := by
  induction fs with
  | nil => rfl
  | cons f r ih =>
    simp only [markTo]
    split
    · rfl
    · simp [ih, eraseW, markW]

theorem markTo_length (fs : List Frame) : (markTo fs).length = fs.length := by
  simpa using congrArg List.length (markTo_eraseW fs)

theorem markTo_noskip (fs : List Frame) (h : NoSkip fs) : NoSkip (markTo fs) :=
  forall_of_map (fun f => (f.norecord, f.disabled)) (fun p => p.1 = false ∧ p.2 = false)
    (map_of_eraseW _ (fun _ => rfl) (markTo_eraseW fs)) h

/-- configuration without any filter, trigger or threshold -/
structure Plain (cfg : Cfg) : Prop where
  fast : cfg.fast = false
  optIn : cfg.optIn = false
  locIn : cfg.locIn = false
  caller : cfg.callerMode = false
  thr : cfg.threshold = 0
  trig : ∀ f, cfg.trig f = {}

/-- the thread state between hooks, at nesting depth `d`, when nothing is filtered -/
structure Good (s : St) (d : Nat) : Prop where
  over : s.over = 0
  len : s.frames.length = d
  ridx : s.recordIdx = d
  en : s.enabled = true
  inc : s.filt.inCount = 0
  outc : s.filt.outCount = 0
  fdepth : s.filt.depth = d
  fmax : s.filt.maxDepth = noMaxDepth
  ftime : s.filt.time = noTime
  fsize : s.filt.size = 0
  noskip : NoSkip s.frames

theorem good_init (cfg : Cfg) (hmin : cfg.minSize = 0) (hen : cfg.enabled0 = true) : Good (St.init cfg) 0 :=
  ⟨rfl, rfl, rfl, hen, rfl, rfl, rfl, rfl, rfl, hmin, fun _ hf => nomatch hf⟩

/-- the frame the entry hook pushes for a call at depth `d` -/
def plainFrame (k : Kind) (f t0 d : Nat) : Frame :=
  { addr := f, start := t0, depth := d, cyg := (k == .cyg),
    sDepth := d, sMaxDepth := noMaxDepth, sTime := noTime, sSize := 0 }

theorem entry_plain (cfg : Cfg) (hp : Plain cfg) (k : Kind) (s : St) (d f t0 : Nat)
    (hg : Good s d) (hm : d < cfg.maxStack) (hd : d < cfg.depthOpt) :
    (entry cfg k s f t0).2 = true ∧
    (entry cfg k s f t0).1.out = s.out ∧
    (entry cfg k s f t0).1.frames = plainFrame k f t0 d :: s.frames ∧
    Good (entry cfg k s f t0).1 (d + 1) ∧ (entry cfg k s f t0).1.warned = false := by
  obtain ⟨h1, h2, h3, h4, h5, h6, h7, h8, h9, h10, h11⟩ := hg
  have hidx : ¬ (s.idx ≥ cfg.maxStack) := by simp [St.idx, h1, h2]; omega
  have hnd : ¬ (d ≥ cfg.depthOpt) := by omega
  cases k <;>
  simp [entry, entryFilterCheck, checkRstack, hidx, hp.fast, hp.optIn, hp.locIn, hp.trig,
    saveFilt, matchFilt, earlyOut, trigFilt, depthLimit, trigEnabled,
    entryFilterRecord, h3, h4, h5, h6, h7, h8, h9, h10, hnd, plainFrame]
  all_goals (constructor <;> simp_all [NoSkip])

theorem durOk_of_lt (cfg : Cfg) (t0 t1 : Nat) (h : t0 < t1) : durOk cfg (t1 - t0) 0 = true := by
  unfold durOk; split <;> simp <;> omega

theorem durOk_fixed (cfg : Cfg) (h : cfg.s4fixed = true) (x : Nat) : durOk cfg x 0 = true := by
  simp [durOk, h]

/-- the exit hook on a plain frame; `hdur` = the call passes the (absent) time filter, `hne` = the
    clock does not read 0 (0 is the "still open" sentinel of `end_time`) -/
theorem exit_plain' (cfg : Cfg) (hp : Plain cfg) (k : Kind) (s2 : St) (d f t0 t1 : Nat) (w : Bool)
    (rest : List Frame)
    (hfr : s2.frames = { plainFrame k f t0 d with written := w } :: rest)
    (hg : Good s2 (d + 1)) (ht2 : ¬ t1 = 0) (hdur : durOk cfg (t1 - t0) 0 = true)
    (hw : w = true → markTo rest = rest) :
    (exit cfg s2 t1).out =
      s2.out ++ (if w then [] else pending rest ++ [entryRec (plainFrame k f t0 d)]) ++
        [{ time := t1, type := 1, depth := d, addr := f }] ∧
    (exit cfg s2 t1).frames = markTo rest ∧
    Good (exit cfg s2 t1) d := by
  obtain ⟨h1, h2, h3, h4, h5, h6, h7, _, h9, _, h11⟩ := hg
  have hrest : NoSkip rest := fun g hg => h11 g (by simp [hfr, hg])
  have hlen : rest.length = d := by simpa [hfr] using h2
  have hrec : exitRecords cfg s2 { { plainFrame k f t0 d with written := w } with endT := t1 } = true := by
    simp [exitRecords, plainFrame, h4, h9, hp.thr, hp.caller, hdur]
  have hfl : (if w then rest else markTo rest) = markTo rest := by
    cases w
    · rfl
    · exact (hw rfl).symm
  rw [exit_cons cfg hp.fast s2 h1 _ rest hfr, hrec, recordTrace_exit _ rest ht2 rfl, flushBelow_noskip rest hrest]
  simp only [↓reduceIte, List.tail_cons, hfl]
  refine ⟨?_, trivial, ⟨h1, ?_, ?_, h4, h5, h6, rfl, rfl, rfl, rfl, markTo_noskip rest hrest⟩⟩
  · rw [← List.append_assoc]
    cases w <;> rfl
  · rw [markTo_length, hlen]
  · show s2.recordIdx - 1 = d
    omega

theorem exit_plain (cfg : Cfg) (hp : Plain cfg) (k : Kind) (s2 : St) (d f t0 t1 : Nat) (w : Bool)
    (rest : List Frame)
    (hfr : s2.frames = { plainFrame k f t0 d with written := w } :: rest)
    (hg : Good s2 (d + 1)) (ht : t0 < t1)
    (hw : w = true → markTo rest = rest) :
    (exit cfg s2 t1).out =
      s2.out ++ (if w then [] else pending rest ++ [entryRec (plainFrame k f t0 d)]) ++
        [{ time := t1, type := 1, depth := d, addr := f }] ∧
    (exit cfg s2 t1).frames = markTo rest ∧
    Good (exit cfg s2 t1) d :=
  exit_plain' cfg hp k s2 d f t0 t1 w rest hfr hg (by omega) (durOk_of_lt cfg t0 t1 ht) hw

mutual
theorem okFor_of_timed (cfg : Cfg) : ∀ c : Call, c.timed → c.okFor cfg
  | .node _ t0 t1 kids, h => by
    simp only [Call.timed] at h
    exact ⟨⟨durOk_of_lt cfg t0 t1 h.1, by omega⟩, okFors_of_timed cfg kids h.2⟩
theorem okFors_of_timed (cfg : Cfg) : ∀ cs : Calls, cs.timed → cs.okFor cfg
  | .nil, _ => trivial
  | .cons c rest, h => by
    simp only [Calls.timed] at h
    exact ⟨okFor_of_timed cfg c h.1, okFors_of_timed cfg rest h.2⟩
end

mutual
theorem okFor_of_ended (cfg : Cfg) (hf : cfg.s4fixed = true) : ∀ c : Call, c.ended → c.okFor cfg
  | .node _ t0 t1 kids, h => by
    simp only [Call.ended] at h
    exact ⟨⟨durOk_fixed cfg hf _, h.1⟩, okFors_of_ended cfg hf kids h.2⟩
theorem okFors_of_ended (cfg : Cfg) (hf : cfg.s4fixed = true) : ∀ cs : Calls, cs.ended → cs.okFor cfg
  | .nil, _ => trivial
  | .cons c rest, h => by
    simp only [Calls.ended] at h
    exact ⟨okFor_of_ended cfg hf c h.1, okFors_of_ended cfg hf rest h.2⟩
end

end Uft.Mcount

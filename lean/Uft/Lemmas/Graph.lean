import Uft.Model.Graph
/- Helper lemmas for C15: the trie operations seen through `Node.get`. -/
namespace Uft.Graph

namespace Node
@[simp] theorem name_mk (a b c d e f) : (Node.mk a b c d e f).name = a := rfl
@[simp] theorem id_mk (a b c d e f) : (Node.mk a b c d e f).id = b := rfl
@[simp] theorem calls_mk (a b c d e f) : (Node.mk a b c d e f).calls = c := rfl
@[simp] theorem time_mk (a b c d e f) : (Node.mk a b c d e f).time = d := rfl
@[simp] theorem child_mk (a b c d e f) : (Node.mk a b c d e f).child = e := rfl
@[simp] theorem kids_mk (a b c d e f) : (Node.mk a b c d e f).kids = f := rfl

@[simp] theorem setKids_eq (n : Node) (k) : n.setKids k = .mk n.name n.id n.calls n.time n.child k := by
  cases n; rfl
@[simp] theorem incCalls_eq (n : Node) : n.incCalls = .mk n.name n.id (n.calls + 1) n.time n.child n.kids := by
  cases n; rfl
@[simp] theorem addTime_eq (n : Node) (a b) :
    n.addTime a b = .mk n.name n.id n.calls (n.time + a) (n.child + b) n.kids := by
  cases n; rfl
@[simp] theorem addChild_eq (n : Node) (d) : n.addChild d = .mk n.name n.id n.calls n.time (n.child + d) n.kids := by
  cases n; rfl
end Node

/-- what the theorems observe of a node -/
def st (n : Node) : Nat × Nat := (n.calls, n.time)

@[simp] theorem st_mk (a b c d e f) : st (.mk a b c d e f) = (c, d) := rfl

/-! ## children lists -/

theorem find_name {x : Name} : ∀ {kids : Nodes} {c : Node}, kids.find x = some c → c.name = x
  | .nil, _, h => by simp [Nodes.find] at h
  | .cons n rest, c, h => by
    simp only [Nodes.find] at h
    split at h
    · rename_i hn; simp at h; subst h; exact hn
    · exact find_name h

theorem find_mapFirst (x y : Name) (g : Node → Node) (hg : ∀ m, (g m).name = m.name) :
    ∀ kids : Nodes, (kids.mapFirst x g).find y = if y = x then (kids.find x).map g else kids.find y
  | .nil => by simp [Nodes.mapFirst, Nodes.find]
  | .cons n rest => by
    have ih := find_mapFirst x y g hg rest
    simp only [Nodes.mapFirst]
    by_cases hn : n.name = x
    · simp only [hn, ↓reduceIte, Nodes.find, hg]
      by_cases hy : y = x
      · simp [hy]
      · simp [hy, Ne.symm hy]
    · simp only [hn, ↓reduceIte, Nodes.find]
      by_cases hy : y = x
      · subst hy; simp [hn, ih]
      · simp only [hy, ↓reduceIte] at ih ⊢
        rw [ih]

theorem find_bump (x y : Name) (id : Nat) :
    ∀ kids : Nodes, (kids.bump x id).find y =
      if y = x then some (match kids.find x with | some n => n.incCalls | none => Node.fresh x id)
      else kids.find y
  | .nil => by
    by_cases hy : y = x
    · subst hy; simp [Nodes.bump, Nodes.find, Node.fresh]
    · simp [Nodes.bump, Nodes.find, Node.fresh, hy, Ne.symm hy]
  | .cons n rest => by
    have ih := find_bump x y id rest
    simp only [Nodes.bump]
    by_cases hn : n.name = x
    · simp only [hn, ↓reduceIte, Nodes.find, Node.incCalls_eq, Node.name_mk]
      by_cases hy : y = x
      · simp [hy]
      · simp [hy, Ne.symm hy]
    · simp only [hn, ↓reduceIte, Nodes.find]
      by_cases hy : y = x
      · subst hy; simp [hn, ih]
      · simp only [hy, ↓reduceIte] at ih ⊢
        rw [ih]

/-! ## paths -/

theorem get_cons (x : Name) (p : Path) (n : Node) :
    n.get (x :: p) = (n.kids.find x).bind (Node.get p) := by
  simp only [Node.get]; cases n.kids.find x <;> rfl

theorem get_cons_some {x : Name} {p : Path} {n m : Node} (h : n.get (x :: p) = some m) :
    ∃ c, n.kids.find x = some c ∧ c.get p = some m :=
  Option.bind_eq_some_iff.1 ((get_cons x p n).symm.trans h)

theorem get_append (p r : Path) : ∀ n : Node, n.get (p ++ r) = (n.get p).bind (Node.get r) := by
  induction p with
  | nil => intro n; simp [Node.get]
  | cons x p ih =>
    intro n
    simp only [List.cons_append, get_cons]
    cases n.kids.find x with
    | none => rfl
    | some c => simpa using ih c

theorem has_dropLast {p : Path} {n : Node} (h : (n.get p).isSome) : (n.get p.dropLast).isSome := by
  by_cases hp : p = []
  · subst hp; exact h
  · rw [← List.dropLast_concat_getLast hp, get_append] at h
    cases hd : n.get p.dropLast with
    | none => simp [hd] at h
    | some _ => rfl

theorem name_modifyAt (f : Node → Node) (hf : ∀ m, (f m).name = m.name) :
    ∀ (p : Path) (n : Node), (n.modifyAt p f).name = n.name
  | [], n => by simp [Node.modifyAt, hf]
  | _ :: _, n => by simp [Node.modifyAt]

/-- an update that touches only the counters of the node at `p` -/
theorem get_modifyAt_stat (f : Node → Node) (hn : ∀ m, (f m).name = m.name) (hk : ∀ m, (f m).kids = m.kids) :
    ∀ (p : Path) (n : Node) (q : Path),
      ((n.modifyAt p f).get q).map st = if q = p then (n.get p).map (fun m => st (f m)) else (n.get q).map st
  | [], n, q => by
    cases q with
    | nil => simp [Node.modifyAt, Node.get]
    | cons y r => simp [Node.modifyAt, get_cons, hk]
  | x :: p, n, q => by
    cases q with
    | nil => simp [Node.modifyAt, Node.get, st]
    | cons y r =>
      simp only [Node.modifyAt, get_cons, Node.setKids_eq, Node.kids_mk]
      rw [find_mapFirst x y _ (fun m => name_modifyAt f hn p m)]
      by_cases hy : y = x
      · subst hy
        simp only [↓reduceIte, List.cons.injEq, true_and]
        cases hc : n.kids.find y with
        | none => simp
        | some c =>
          simp only [Option.map_some, Option.bind_some]
          exact get_modifyAt_stat f hn hk p c r
      · simp [hy]

/-- `add_graph_entry` below the node at `p` -/
def bumpF (x : Name) (id : Nat) : Node → Node := fun m => m.setKids (m.kids.bump x id)

theorem get_modifyAt_bump (x : Name) (id : Nat) :
    ∀ (p : Path) (n : Node), (n.get p).isSome → ∀ q : Path,
      ((n.modifyAt p (bumpF x id)).get q).map st =
        if q = p ++ [x] then
          some (match n.get q with | some m => (m.calls + 1, m.time) | none => (1, 0))
        else (n.get q).map st
  | [], n, _, q => by
    cases q with
    | nil => simp [Node.modifyAt, Node.get, bumpF, st]
    | cons y r =>
      simp only [Node.modifyAt, bumpF, get_cons, Node.setKids_eq, Node.kids_mk, List.nil_append, List.cons.injEq]
      rw [find_bump]
      by_cases hy : y = x
      · subst hy
        simp only [↓reduceIte, true_and, Option.bind_some]
        cases hc : n.kids.find y with
        | none => cases r <;> simp [Node.get, st, Node.fresh, Nodes.find]
        | some c => cases r <;> simp [Node.get, st]
      · simp [hy]
  | z :: p, n, h, q => by
    rw [get_cons] at h
    cases hc : n.kids.find z with
    | none => simp [hc] at h
    | some c =>
      simp only [hc, Option.bind_some] at h
      cases q with
      | nil => simp [Node.modifyAt, Node.get, st]
      | cons y r =>
        simp only [Node.modifyAt, get_cons, Node.setKids_eq, Node.kids_mk, List.cons_append, List.cons.injEq]
        rw [find_mapFirst z y _ (fun m => name_modifyAt _ (by simp [bumpF]) p m)]
        by_cases hy : y = z
        · subst hy
          simp only [↓reduceIte, hc, Option.map_some, Option.bind_some, true_and]
          exact get_modifyAt_bump x id p c h r
        · simp [hy]

/-! ## the counters at a path -/

def callsN (root : Node) (q : Path) : Nat := ((root.get q).map Node.calls).getD 0
def timeN (root : Node) (q : Path) : Nat := ((root.get q).map Node.time).getD 0

theorem callsN_get {root n : Node} {q : Path} (h : root.get q = some n) : callsN root q = n.calls := by
  simp [callsN, h]

/-- what an equation between observations says about the counters read by the theorems -/
theorem of_map_st {a : Option Node} {X : Option (Nat × Nat)} (h : a.map st = X) :
    (a.map Node.calls).getD 0 = (X.map (·.1)).getD 0 ∧ (a.map Node.time).getD 0 = (X.map (·.2)).getD 0 ∧
    a.isSome = X.isSome := by
  subst h
  cases a <;> exact ⟨rfl, rfl, rfl⟩

/-- an update of the counters of the node at `p` that adds `dt` to its time and leaves the calls -/
theorem counters_modifyAt (f : Node → Node) (hn : ∀ m, (f m).name = m.name) (hk : ∀ m, (f m).kids = m.kids)
    (dt : Nat) (hc : ∀ m, (f m).calls = m.calls) (ht : ∀ m, (f m).time = m.time + dt)
    (p : Path) (n : Node) (hp : (n.get p).isSome) (q : Path) :
    callsN (n.modifyAt p f) q = callsN n q ∧
    timeN (n.modifyAt p f) q = timeN n q + (if q = p then dt else 0) ∧
    ((n.modifyAt p f).get q).isSome = (n.get q).isSome := by
  obtain ⟨c, t, s⟩ := of_map_st (get_modifyAt_stat f hn hk p n q)
  unfold callsN timeN
  rw [c, t, s]
  by_cases hq : q = p
  · subst hq
    obtain ⟨m, hm⟩ := Option.isSome_iff_exists.1 hp
    simp [hm, st, hc, ht]
  · rw [if_neg hq, if_neg hq]
    cases n.get q <;> simp [st]

/-- all task pointers point into the trie -/
def Valid (g : G) : Prop := ∀ t, (g.root.get (g.cur t)).isSome

theorem valid_init (rn : Name) : Valid (G.init rn) := by
  intro t; simp [G.init, Node.get]

theorem gEntry_spec (g : G) (hv : Valid g) (tid : Nat) (x : Name) :
    Valid (gEntry g tid x) ∧ ∀ q,
      callsN (gEntry g tid x).root q = callsN g.root q + (if q = g.cur tid ++ [x] then 1 else 0) ∧
      timeN (gEntry g tid x).root q = timeN g.root q := by
  have key : ∀ q, callsN (gEntry g tid x).root q = callsN g.root q + (if q = g.cur tid ++ [x] then 1 else 0) ∧
      timeN (gEntry g tid x).root q = timeN g.root q ∧
      ((gEntry g tid x).root.get q).isSome = (decide (q = g.cur tid ++ [x]) || (g.root.get q).isSome) := by
    intro q
    obtain ⟨c, t, s⟩ := of_map_st (get_modifyAt_bump x g.nextId (g.cur tid) g.root (hv tid) q)
    unfold callsN timeN
    rw [show (gEntry g tid x).root = g.root.modifyAt (g.cur tid) (bumpF x g.nextId) from rfl, c, t, s]
    by_cases hq : q = g.cur tid ++ [x]
    · rw [if_pos hq, if_pos hq]
      cases g.root.get q <;> simp [hq]
    · rw [if_neg hq, if_neg hq]
      cases g.root.get q <;> simp [st, hq]
  refine ⟨fun t => ?_, fun q => ⟨(key q).1, (key q).2.1⟩⟩
  show ((gEntry g tid x).root.get (setFn g.cur tid (g.cur tid ++ [x]) t)).isSome = true
  rw [(key _).2.2, setFn]
  by_cases ht : t = tid
  · simp [ht]
  · simp [ht, hv t]

theorem gExit_spec (sample : Option Nat) (g : G) (hv : Valid g) (tid total child : Nat) :
    Valid (gExit sample g tid total child) ∧ ∀ q,
      callsN (gExit sample g tid total child).root q = callsN g.root q ∧
      timeN (gExit sample g tid total child).root q =
        timeN g.root q + (if q = g.cur tid then total else 0) := by
  have k1 := counters_modifyAt (Node.addTime total child) (by simp) (by simp) total (by simp) (by simp)
    (g.cur tid) g.root (hv tid)
  -- the optional second update (adjust_fg_time) touches child_time only
  have k2 := fun d => counters_modifyAt (Node.addChild d) (by simp) (by simp) 0 (by simp) (by simp)
    (g.cur tid).dropLast (g.root.modifyAt (g.cur tid) (Node.addTime total child))
    (by rw [(k1 _).2.2]; exact has_dropLast (hv tid))
  have hroot : ∀ q, callsN (gExit sample g tid total child).root q = callsN g.root q ∧
      timeN (gExit sample g tid total child).root q = timeN g.root q + (if q = g.cur tid then total else 0) ∧
      ((gExit sample g tid total child).root.get q).isSome = (g.root.get q).isSome := by
    intro q
    obtain ⟨a', b', c'⟩ := k1 q
    simp only [gExit]
    cases sample with
    | none => exact ⟨a', b', c'⟩
    | some stv =>
      simp only []
      split
      · exact ⟨a', b', c'⟩
      · obtain ⟨a, b, c⟩ := k2 (((total / stv * stv : Nat) : Int) - (total : Int)) q
        rw [ite_self, Nat.add_zero] at b
        exact ⟨a.trans a', b.trans b', c.trans c'⟩
  refine ⟨fun t => ?_, fun q => ⟨(hroot q).1, (hroot q).2.1⟩⟩
  rw [(hroot _).2.2]
  show (g.root.get (setFn g.cur tid (g.cur tid).dropLast t)).isSome = true
  rw [setFn]
  split
  · exact has_dropLast (hv tid)
  · exact hv t

/-! ## the whole record sequence -/

theorem callsAt_cons (q p : Path) (o : Out) (a : List (Path × Out)) :
    callsAt q ((p, o) :: a) = (if o.entry = true ∧ p = q then 1 else 0) + callsAt q a := by
  simp only [callsAt, List.filter_cons, Bool.and_eq_true, decide_eq_true_eq]
  split
  · exact Nat.add_comm _ 1
  · exact (Nat.zero_add _).symm

theorem timeAt_cons (q p : Path) (o : Out) (a : List (Path × Out)) :
    timeAt q ((p, o) :: a) = (if o.entry = false ∧ p = q then o.total else 0) + timeAt q a := by
  simp only [timeAt, List.filter_cons, Bool.and_eq_true, Bool.not_eq_true', decide_eq_true_eq]
  split
  · rfl
  · exact (Nat.zero_add _).symm

theorem build_counts (sample : Option Nat) : ∀ (os : List Out) (g : G), Valid g →
    Valid (build sample g os) ∧ ∀ q,
      callsN (build sample g os).root q = callsN g.root q + callsAt q (annot g.cur os) ∧
      timeN (build sample g os).root q = timeN g.root q + timeAt q (annot g.cur os)
  | [], g, hv => by simp [build, annot, callsAt, timeAt, hv]
  | o :: os, g, hv => by
    have hb : build sample g (o :: os) = build sample (gStep sample g o) os := rfl
    rw [hb]
    by_cases he : o.entry = true
    · have hs : gStep sample g o = gEntry g o.tid o.name := by simp [gStep, he]
      obtain ⟨hv', hc⟩ := gEntry_spec g hv o.tid o.name
      have hcur : (gEntry g o.tid o.name).cur = setFn g.cur o.tid (g.cur o.tid ++ [o.name]) := rfl
      obtain ⟨hv2, ih⟩ := build_counts sample os (gEntry g o.tid o.name) hv'
      rw [hs]
      refine ⟨hv2, fun q => ?_⟩
      have ha : annot g.cur (o :: os) =
          (g.cur o.tid ++ [o.name], o) :: annot (setFn g.cur o.tid (g.cur o.tid ++ [o.name])) os := by
        simp [annot, he]
      rw [ha, callsAt_cons, timeAt_cons, (ih q).1, (ih q).2, (hc q).1, (hc q).2, hcur]
      have e1 : (g.cur o.tid ++ [o.name] = q) = (q = g.cur o.tid ++ [o.name]) := propext eq_comm
      simp only [he, true_and, e1, Bool.true_eq_false, false_and, ↓reduceIte]
      omega
    · have he' : o.entry = false := by simpa using he
      have hs : gStep sample g o = gExit sample g o.tid o.total o.child := by simp [gStep, he']
      obtain ⟨hv', hc⟩ := gExit_spec sample g hv o.tid o.total o.child
      have hcur : (gExit sample g o.tid o.total o.child).cur = setFn g.cur o.tid (g.cur o.tid).dropLast := by
        simp [gExit]
      obtain ⟨hv2, ih⟩ := build_counts sample os (gExit sample g o.tid o.total o.child) hv'
      rw [hs]
      refine ⟨hv2, fun q => ?_⟩
      have ha : annot g.cur (o :: os) =
          (g.cur o.tid, o) :: annot (setFn g.cur o.tid (g.cur o.tid).dropLast) os := by
        simp [annot, he']
      rw [ha, callsAt_cons, timeAt_cons, (ih q).1, (ih q).2, (hc q).1, (hc q).2, hcur]
      have e1 : (g.cur o.tid = q) = (q = g.cur o.tid) := propext eq_comm
      simp only [he', Bool.false_eq_true, false_and, true_and, e1, ↓reduceIte]
      omega

/-! ## call trees (one task): what the records of a tree of closed calls aggregate to -/

mutual
  inductive Call where
    | node (name : Name) (t0 t1 : Nat) (kids : Calls)
  inductive Calls where
    | nil
    | cons (c : Call) (rest : Calls)
end

def Call.dur : Call → Nat
  | .node _ t0 t1 _ => t1 - t0

def Calls.durSum : Calls → Nat
  | .nil => 0
  | .cons c rest => c.dur + rest.durSum

mutual
  /-- the records libmcount writes for the call (entry, callees, exit) -/
  def Call.recs (tid : Nat) : Call → List Rec
    | .node x t0 t1 kids => ⟨tid, true, x, t0⟩ :: (Calls.recs tid kids ++ [⟨tid, false, x, t1⟩])
  def Calls.recs (tid : Nat) : Calls → List Rec
    | .nil => []
    | .cons c rest => Call.recs tid c ++ Calls.recs tid rest
end

mutual
  /-- what the dump callbacks are expected to see -/
  def Call.outs (tid : Nat) : Call → List Out
    | .node x t0 t1 kids =>
      ⟨tid, true, x, t0, 0, 0⟩ ::
        (Calls.outs tid kids ++ [⟨tid, false, x, t1, t1 - t0, min (0 + kids.durSum) (t1 - t0)⟩])
  def Calls.outs (tid : Nat) : Calls → List Out
    | .nil => []
    | .cons c rest => Call.outs tid c ++ Calls.outs tid rest
end

mutual
  /-- number of calls of the tree (placed below the call path `P`) whose call path is `q` -/
  def Call.countAt (P q : Path) : Call → Nat
    | .node x _ _ kids => (if P ++ [x] = q then 1 else 0) + Calls.countAt (P ++ [x]) q kids
  def Calls.countAt (P q : Path) : Calls → Nat
    | .nil => 0
    | .cons c rest => Call.countAt P q c + Calls.countAt P q rest
end

mutual
  /-- sum of the durations of the calls whose call path is `q` -/
  def Call.durAt (P q : Path) : Call → Nat
    | .node x t0 t1 kids => (if P ++ [x] = q then t1 - t0 else 0) + Calls.durAt (P ++ [x]) q kids
  def Calls.durAt (P q : Path) : Calls → Nat
    | .nil => 0
    | .cons c rest => Call.durAt P q c + Calls.durAt P q rest
end

theorem setFn_same {α : Type} (f : Nat → α) (k : Nat) (v : α) : setFn f k v k = v := by simp [setFn]

theorem setFn_setFn {α : Type} (f : Nat → α) (k : Nat) (a b : α) : setFn (setFn f k a) k b = setFn f k b := by
  funext x; simp only [setFn]; split <;> rfl

theorem setFn_id {α : Type} (f : Nat → α) (k : Nat) : setFn f k (f k) = f := by
  funext x; simp only [setFn]; split
  · rename_i h; rw [h]
  · rfl

theorem addChildTop_zero (S : List Frame) : addChildTop 0 S = S := by
  cases S <;> simp [addChildTop]

theorem addChildTop_add (a b : Nat) (S : List Frame) :
    addChildTop b (addChildTop a S) = addChildTop (a + b) S := by
  cases S with
  | nil => rfl
  | cons f r => simp [addChildTop, Nat.add_assoc]

theorem replay_append (s : RS) (a b : List Rec) :
    replay s (a ++ b) = ((replay (replay s a).1 b).1, (replay s a).2 ++ (replay (replay s a).1 b).2) := by
  induction a generalizing s with
  | nil => simp [replay]
  | cons r rs ih => simp [replay, ih]

mutual
  theorem Call.replay_eq (tid : Nat) : ∀ (c : Call) (s : RS), ∃ l,
      replay s (c.recs tid) =
        (⟨setFn s.stacks tid (addChildTop c.dur (s.stacks tid)), l⟩, c.outs tid)
    | .node x t0 t1 kids, s => by
      obtain ⟨l, hk⟩ := Calls.replay_eq tid kids
        ⟨setFn s.stacks tid (⟨x, t0, 0⟩ :: s.stacks tid), setFn s.last tid t0⟩
      refine ⟨setFn l tid t1, ?_⟩
      simp only [Call.recs, Call.outs, replay, stepRec, ↓reduceIte, replay_append, hk, setFn_same,
        addChildTop, Bool.false_eq_true, setFn_setFn, Call.dur]
  theorem Calls.replay_eq (tid : Nat) : ∀ (cs : Calls) (s : RS), ∃ l,
      replay s (cs.recs tid) =
        (⟨setFn s.stacks tid (addChildTop cs.durSum (s.stacks tid)), l⟩, cs.outs tid)
    | .nil, s => ⟨s.last, by simp [Calls.recs, Calls.outs, replay, Calls.durSum, addChildTop_zero, setFn_id]⟩
    | .cons c rest, s => by
      obtain ⟨l1, h1⟩ := Call.replay_eq tid c s
      obtain ⟨l2, h2⟩ := Calls.replay_eq tid rest
        ⟨setFn s.stacks tid (addChildTop c.dur (s.stacks tid)), l1⟩
      refine ⟨l2, ?_⟩
      simp only [Calls.recs, Calls.outs, replay_append, h1, h2, setFn_same, setFn_setFn,
        addChildTop_add, Calls.durSum]
end

/-- a tree of closed calls leaves nothing for the "remaining functions" loop -/
theorem outs_calls (tid : Nat) (cs : Calls) : outs [tid] (cs.recs tid) = cs.outs tid := by
  obtain ⟨l, h⟩ := Calls.replay_eq tid cs RS.init
  simp only [outs]
  rw [h]
  simp [tails, RS.init, setFn_same, addChildTop, tailTask]

mutual
  theorem Call.annot_counts (tid : Nat) (q : Path) : ∀ (c : Call) (cur : Nat → Path) (rest : List Out),
      callsAt q (annot cur (c.outs tid ++ rest)) = c.countAt (cur tid) q + callsAt q (annot cur rest) ∧
      timeAt q (annot cur (c.outs tid ++ rest)) = c.durAt (cur tid) q + timeAt q (annot cur rest)
    | .node x t0 t1 kids, cur, rest => by
      have ih := Calls.annot_counts tid q kids (setFn cur tid (cur tid ++ [x]))
        (⟨tid, false, x, t1, t1 - t0, min (0 + kids.durSum) (t1 - t0)⟩ :: rest)
      simp only [setFn_same] at ih
      simp only [Call.outs, List.cons_append, List.append_assoc, List.nil_append, annot, ↓reduceIte, callsAt_cons,
        timeAt_cons, Call.countAt, Call.durAt, ih.1, ih.2, setFn_same, Bool.false_eq_true, setFn_setFn,
        List.dropLast_concat, setFn_id]
      simp only [true_and, false_and, ↓reduceIte, Bool.true_eq_false]
      constructor <;> omega
  theorem Calls.annot_counts (tid : Nat) (q : Path) : ∀ (cs : Calls) (cur : Nat → Path) (rest : List Out),
      callsAt q (annot cur (cs.outs tid ++ rest)) = cs.countAt (cur tid) q + callsAt q (annot cur rest) ∧
      timeAt q (annot cur (cs.outs tid ++ rest)) = cs.durAt (cur tid) q + timeAt q (annot cur rest)
    | .nil, cur, rest => by simp [Calls.outs, Calls.countAt, Calls.durAt]
    | .cons c cs, cur, rest => by
      have h1 := Call.annot_counts tid q c cur (cs.outs tid ++ rest)
      have h2 := Calls.annot_counts tid q cs cur rest
      simp only [Calls.outs, List.append_assoc, h1.1, h1.2, h2.1, h2.2, Calls.countAt, Calls.durAt]
      constructor <;> omega
end

/-! ## sibling names are distinct, and what the pre-order walk visits -/

mutual
  def Node.uniq : Node → Prop
    | .mk _ _ _ _ _ kids => Nodes.uniq kids
  def Nodes.uniq : Nodes → Prop
    | .nil => True
    | .cons n rest => Node.uniq n ∧ rest.find n.name = none ∧ Nodes.uniq rest
end

theorem Node.uniq_iff (n : Node) : n.uniq ↔ n.kids.uniq := by cases n; simp [Node.uniq]

theorem uniq_bump (x : Name) (id : Nat) : ∀ kids : Nodes, kids.uniq → (kids.bump x id).uniq
  | .nil, _ => by simp [Nodes.bump, Nodes.uniq, Node.fresh, Node.uniq, Nodes.find]
  | .cons n rest, h => by
    obtain ⟨h1, h2, h3⟩ := h
    simp only [Nodes.bump]
    split
    · refine ⟨?_, by simpa using h2, h3⟩
      rw [Node.uniq_iff] at h1 ⊢; simpa using h1
    · rename_i hn
      refine ⟨h1, ?_, uniq_bump x id rest h3⟩
      rw [find_bump]; simp [hn, h2]

theorem uniq_mapFirst (x : Name) (g : Node → Node) (hg : ∀ m, (g m).name = m.name)
    (hu : ∀ m, m.uniq → (g m).uniq) : ∀ kids : Nodes, kids.uniq → (kids.mapFirst x g).uniq
  | .nil, _ => by simp [Nodes.mapFirst, Nodes.uniq]
  | .cons n rest, h => by
    obtain ⟨h1, h2, h3⟩ := h
    simp only [Nodes.mapFirst]
    split
    · exact ⟨hu n h1, by simpa [hg] using h2, h3⟩
    · rename_i hn
      refine ⟨h1, ?_, uniq_mapFirst x g hg hu rest h3⟩
      rw [find_mapFirst x _ g hg]; simp [hn, h2]

theorem uniq_modifyAt (f : Node → Node) (hf : ∀ m, (f m).name = m.name) (hu : ∀ m, m.uniq → (f m).uniq) :
    ∀ (p : Path) (n : Node), n.uniq → (n.modifyAt p f).uniq
  | [], n, h => by simpa [Node.modifyAt] using hu n h
  | x :: p, n, h => by
    simp only [Node.modifyAt]
    rw [Node.uniq_iff] at h ⊢
    simp only [Node.setKids_eq, Node.kids_mk]
    exact uniq_mapFirst x _ (fun m => name_modifyAt f hf p m) (fun m hm => uniq_modifyAt f hf hu p m hm) _ h

/-- every step rewrites the trie by updates that keep names and the distinctness of sibling names -/
theorem build_root {P : Node → Prop}
    (hP : ∀ f : Node → Node, (∀ m, (f m).name = m.name) → (∀ m, m.uniq → (f m).uniq) →
      ∀ (p : Path) (n : Node), P n → P (n.modifyAt p f))
    (sample : Option Nat) : ∀ (os : List Out) (g : G), P g.root → P (build sample g os).root
  | [], _, h => h
  | o :: os, g, h => by
    refine build_root hP sample os (gStep sample g o) ?_
    have hb : ∀ x id (m : Node), m.uniq → (bumpF x id m).uniq := by
      intro x id m hm
      rw [Node.uniq_iff] at hm ⊢
      simpa [bumpF] using uniq_bump x id _ hm
    have ht : ∀ a b (m : Node), m.uniq → (m.addTime a b).uniq := by
      intro a b m hm; rw [Node.uniq_iff] at hm ⊢; simpa using hm
    have hc : ∀ d (m : Node), m.uniq → (m.addChild d).uniq := by
      intro d m hm; rw [Node.uniq_iff] at hm ⊢; simpa using hm
    unfold gStep
    split
    · exact hP (bumpF o.name g.nextId) (by simp [bumpF]) (hb _ _) _ _ h
    · have h1 := hP (Node.addTime o.total o.child) (by simp) (ht _ _) (g.cur o.tid) _ h
      simp only [gExit]
      cases sample with
      | none => exact h1
      | some stv =>
        simp only []
        split
        · exact h1
        · exact hP _ (by simp) (hc _) _ _ h1

theorem uniq_build (sample : Option Nat) (os : List Out) (g : G) (h : g.root.uniq) : (build sample g os).root.uniq :=
  build_root uniq_modifyAt sample os g h

theorem name_build (sample : Option Nat) (os : List Out) (g : G) : (build sample g os).root.name = g.root.name :=
  build_root (P := fun n => n.name = g.root.name) (fun f hf _ p n h => (name_modifyAt f hf p n).trans h) sample os g rfl

theorem uniq_init (rn : Name) : (G.init rn).root.uniq := by simp [G.init, Node.uniq, Nodes.uniq]

theorem dfs_of_find {y : Name} {c : Node} (par : Node) (pre : Path) :
    ∀ {kids : Nodes}, kids.find y = some c → ∀ e, e ∈ Node.dfs par pre c → e ∈ Nodes.dfs par pre kids
  | .nil, h, _, _ => by simp [Nodes.find] at h
  | .cons n rest, h, e, he => by
    simp only [Nodes.find] at h
    simp only [Nodes.dfs, List.mem_append]
    split at h
    · simp at h; subst h; exact Or.inl he
    · exact Or.inr (dfs_of_find par pre h e he)

/-- completeness: every node below a child is visited, at its path -/
theorem dfs_complete : ∀ (r : Path) {kids : Nodes} {y : Name} {c m : Node} (par : Node) (pre : Path),
    kids.find y = some c → c.get r = some m → ∃ par', (par', pre ++ y :: r, m) ∈ Nodes.dfs par pre kids
  | r, _, y, .mk a i cl t ch ks, m, par, pre, hc, h => by
    have hy : a = y := find_name hc
    subst hy
    suffices ∃ par', (par', pre ++ a :: r, m) ∈ Node.dfs par pre (.mk a i cl t ch ks) from
      this.imp fun _ hm => dfs_of_find par pre hc _ hm
    cases r with
    | nil =>
      cases h
      exact ⟨par, by simp [Node.dfs]⟩
    | cons z r' =>
      obtain ⟨c', hz, h⟩ := get_cons_some h
      obtain ⟨par', hp⟩ := dfs_complete r' (.mk a i cl t ch ks) (pre ++ [a]) hz h
      exact ⟨par', by simpa [Node.dfs, List.append_assoc] using hp⟩

/-- one level up: the node and the parent found at `r` below the child `k` are found at `k.name :: r` below `n` -/
theorem get_child {n k m par : Node} {r : Path} (hk : n.kids.find k.name = some k) (h2 : k.get r = some m)
    (h3 : (if r = [] then some n else k.get r.dropLast) = some par) :
    n.get (k.name :: r) = some m ∧ n.get (k.name :: r).dropLast = some par := by
  refine ⟨by simpa [get_cons, hk] using h2, ?_⟩
  cases r with
  | nil => simpa [Node.get] using h3
  | cons z r' => simpa [get_cons, hk] using h3

mutual
  /-- soundness: what is visited is the node at that path, with its parent -/
  theorem Node.dfs_sound (par : Node) (pre : Path) : ∀ (n : Node), n.uniq → ∀ e, e ∈ Node.dfs par pre n →
      ∃ r, e.2.1 = pre ++ n.name :: r ∧ n.get r = some e.2.2 ∧
        (if r = [] then some par else n.get r.dropLast) = some e.1
    | .mk x i c t ch kids, hu, e, he => by
      simp only [Node.dfs, List.mem_cons] at he
      rcases he with he | he
      · subst he; exact ⟨[], by simp [Node.get]⟩
      · obtain ⟨k, hk, r, h1, h2, h3⟩ := Nodes.dfs_sound (.mk x i c t ch kids) (pre ++ [x]) kids hu e he
        obtain ⟨g1, g2⟩ := get_child (n := .mk x i c t ch kids) hk h2 h3
        exact ⟨k.name :: r, by simpa [List.append_assoc] using h1, g1, by rw [if_neg (List.cons_ne_nil _ _)]; exact g2⟩
  theorem Nodes.dfs_sound (par : Node) (pre : Path) : ∀ (kids : Nodes), kids.uniq → ∀ e, e ∈ Nodes.dfs par pre kids →
      ∃ k, kids.find k.name = some k ∧ ∃ r, e.2.1 = pre ++ k.name :: r ∧ k.get r = some e.2.2 ∧
        (if r = [] then some par else k.get r.dropLast) = some e.1
    | .nil, _, e, he => by simp [Nodes.dfs] at he
    | .cons n rest, hu, e, he => by
      obtain ⟨h1, h2, h3⟩ := hu
      simp only [Nodes.dfs, List.mem_append] at he
      rcases he with he | he
      · exact ⟨n, by simp [Nodes.find], Node.dfs_sound par pre n h1 e he⟩
      · obtain ⟨k, hk, hr⟩ := Nodes.dfs_sound par pre rest h3 e he
        -- `k` is found in `rest` and `n.name` is not
        have hn : n.name ≠ k.name := fun e' => by rw [e', hk] at h2; cases h2
        exact ⟨k, by simp [Nodes.find, hn, hk], hr⟩
end

theorem walk_sound (root : Node) (hu : root.uniq) : ∀ e, e ∈ walk root →
    e.2.1 ≠ [] ∧ root.get e.2.1 = some e.2.2 ∧ root.get e.2.1.dropLast = some e.1 := by
  intro e he
  rw [Node.uniq_iff] at hu
  obtain ⟨k, hk, r, a, b, c⟩ := Nodes.dfs_sound root [] root.kids hu e he
  rw [List.nil_append] at a
  rw [a]
  exact ⟨List.cons_ne_nil _ _, get_child hk b c⟩

theorem walk_complete (root : Node) (p : Path) (m : Node) (hp : p ≠ []) (h : root.get p = some m) :
    ∃ par, (par, p, m) ∈ walk root := by
  cases p with
  | nil => exact absurd rfl hp
  | cons y r =>
    obtain ⟨c, hc, h⟩ := get_cons_some h
    exact dfs_complete r root [] hc h

theorem get_name {n m : Node} : ∀ {p : Path} (hp : p ≠ []), n.get p = some m → m.name = p.getLast hp
  | [y], _, h => by
    obtain ⟨c, hc, h⟩ := get_cons_some h
    cases h
    exact find_name hc
  | y :: z :: r, _, h => by
    obtain ⟨c, _, h⟩ := get_cons_some h
    simpa using get_name (n := c) (p := z :: r) (by simp) h

mutual
  /-- every path is visited once -/
  theorem Node.dfs_nodup (par : Node) (pre : Path) : ∀ (n : Node), n.uniq →
      ((Node.dfs par pre n).map (fun e => e.2.1)).Nodup
    | .mk x i c t ch kids, hu => by
      simp only [Node.dfs, List.map_cons, List.nodup_cons, List.mem_map, not_exists, not_and]
      refine ⟨?_, Nodes.dfs_nodup _ _ kids hu⟩
      intro e he hpath
      obtain ⟨k, _, r, a, _⟩ := Nodes.dfs_sound (.mk x i c t ch kids) (pre ++ [x]) kids hu e he
      rw [a] at hpath
      have := congrArg List.length hpath
      simp at this
  theorem Nodes.dfs_nodup (par : Node) (pre : Path) : ∀ (kids : Nodes), kids.uniq →
      ((Nodes.dfs par pre kids).map (fun e => e.2.1)).Nodup
    | .nil, _ => by simp [Nodes.dfs]
    | .cons n rest, hu => by
      obtain ⟨h1, h2, h3⟩ := hu
      simp only [Nodes.dfs, List.map_append, List.nodup_append, List.mem_map]
      refine ⟨Node.dfs_nodup par pre n h1, Nodes.dfs_nodup par pre rest h3, ?_⟩
      rintro p ⟨e, he, rfl⟩ q ⟨e', he', rfl⟩ heq
      obtain ⟨r, a, _⟩ := Node.dfs_sound par pre n h1 e he
      obtain ⟨k, hk, r', a', _⟩ := Nodes.dfs_sound par pre rest h3 e' he'
      rw [a, a'] at heq
      -- both paths start below `pre` with the same name, which `rest` does not hold
      rw [(List.cons.inj (List.append_cancel_left heq)).1, hk] at h2
      cases h2
end

theorem walk_nodup (root : Node) (hu : root.uniq) : ((walk root).map (fun e => e.2.1)).Nodup := by
  rw [Node.uniq_iff] at hu
  exact Nodes.dfs_nodup root [] root.kids hu

/-! ## begin/end events of one task are balanced and properly nested -/

/-- run a sequence of (is-entry, name) events against a stack of open names -/
def balRun : List Name → List (Bool × Name) → Option (List Name)
  | st, [] => some st
  | st, (true, x) :: es => balRun (x :: st) es
  | [], (false, _) :: _ => none
  | n :: r, (false, x) :: es => if n = x then balRun r es else none

/-- the events the callbacks see for task `t` -/
def evsOf (t : Nat) (os : List Out) : List (Bool × Name) :=
  (os.filter (fun o => o.tid = t)).map (fun o => (o.entry, o.name))

def names (stk : List Frame) : List Name := stk.map (·.name)

/-- well-formed record sequence: per task the time does not go back and every EXIT record
    closes the innermost open call of its task (same function) -/
def WF : RS → List Rec → Prop
  | _, [] => True
  | s, r :: rs =>
    s.last r.tid ≤ r.time ∧
    (r.entry = false → ∃ f rest, s.stacks r.tid = f :: rest ∧ f.name = r.name) ∧
    WF (stepRec s r).1 rs

/-- no open call started after the task's last record -/
def Started (s : RS) : Prop := ∀ t, ∀ f ∈ s.stacks t, f.start ≤ s.last t

theorem balRun_append (st : List Name) (a b : List (Bool × Name)) :
    balRun st (a ++ b) = (balRun st a).bind (fun st' => balRun st' b) := by
  induction a generalizing st with
  | nil => simp [balRun]
  | cons e es ih =>
    obtain ⟨k, x⟩ := e
    cases k with
    | true => simp [balRun, ih]
    | false =>
      cases st with
      | nil => simp [balRun]
      | cons n r =>
        simp only [List.cons_append, balRun]
        split
        · exact ih r
        · simp

theorem evsOf_append (t : Nat) (a b : List Out) : evsOf t (a ++ b) = evsOf t a ++ evsOf t b := by
  simp [evsOf]

theorem names_addChildTop (d : Nat) (S : List Frame) : names (addChildTop d S) = names S := by
  cases S <;> simp [names, addChildTop]

theorem replay_balanced : ∀ (recs : List Rec) (s : RS), WF s recs → Started s →
    Started (replay s recs).1 ∧
    ∀ t, balRun (names (s.stacks t)) (evsOf t (replay s recs).2) = some (names ((replay s recs).1.stacks t))
  | [], s, _, hs => by simp [replay, evsOf, balRun, hs]
  | r :: rs, s, hw, hs => by
    obtain ⟨hmono, hexit, hw'⟩ := hw
    have hstep : Started (stepRec s r).1 ∧ ∀ t,
        balRun (names (s.stacks t)) (evsOf t [(stepRec s r).2]) = some (names ((stepRec s r).1.stacks t)) := by
      by_cases he : r.entry = true
      · simp only [stepRec, he, ↓reduceIte]
        constructor
        · intro t f hf
          simp only [setFn] at hf ⊢
          by_cases ht : t = r.tid
          · simp only [ht, ↓reduceIte, List.mem_cons] at hf ⊢
            rcases hf with hf | hf
            · subst hf; exact Nat.le_refl _
            · exact Nat.le_trans (hs r.tid f hf) hmono
          · simp only [ht, ↓reduceIte] at hf ⊢; exact hs t f hf
        · intro t
          by_cases ht : r.tid = t
          · subst ht; simp [evsOf, balRun, setFn, names]
          · simp [evsOf, balRun, setFn, ht, Ne.symm ht]
      · have he' : r.entry = false := by simpa using he
        obtain ⟨f, rest, hst, hname⟩ := hexit he'
        simp only [stepRec, he', Bool.false_eq_true, ↓reduceIte, hst]
        constructor
        · intro t g hg
          simp only [setFn] at hg ⊢
          by_cases ht : t = r.tid
          · simp only [ht, ↓reduceIte] at hg ⊢
            have : ∃ g' ∈ rest, g'.start = g.start := by
              cases rest with
              | nil => simp [addChildTop] at hg
              | cons a b =>
                simp only [addChildTop, List.mem_cons] at hg
                rcases hg with hg | hg
                · exact ⟨a, by simp, by rw [hg]⟩
                · exact ⟨g, by simp [hg], rfl⟩
            obtain ⟨g', hg', hs'⟩ := this
            rw [← hs']
            exact Nat.le_trans (hs r.tid g' (by rw [hst]; simp [hg'])) hmono
          · simp only [ht, ↓reduceIte] at hg ⊢; exact hs t g hg
        · intro t
          by_cases ht : r.tid = t
          · subst ht
            have hn := names_addChildTop (r.time - f.start) rest
            simp only [names] at hn
            simp [evsOf, balRun, setFn, hst, names, hname, hn]
          · simp [evsOf, balRun, setFn, ht, Ne.symm ht]
    obtain ⟨hs1, hb1⟩ := hstep
    obtain ⟨hs2, hb2⟩ := replay_balanced rs (stepRec s r).1 hw' hs1
    refine ⟨by simpa [replay] using hs2, fun t => ?_⟩
    have : (replay s (r :: rs)).2 = [(stepRec s r).2] ++ (replay (stepRec s r).1 rs).2 := by simp [replay]
    rw [this, evsOf_append, balRun_append, hb1 t]
    simpa [replay] using hb2 t

/-- the "remaining functions" loop hands over exits of its own task only -/
theorem tailTask_mem (t last : Nat) : ∀ (stk : List Frame) (carry : Nat), ∀ o ∈ tailTask t last carry stk,
    o.entry = false ∧ o.tid = t
  | [], _, o, h => by simp [tailTask] at h
  | f :: rest, carry, o, h => by
    simp only [tailTask] at h
    split at h
    · exact tailTask_mem t last rest 0 o h
    · simp only [List.mem_cons] at h
      rcases h with h | h
      · subst h; exact ⟨rfl, rfl⟩
      · exact tailTask_mem t last rest _ o h

theorem tails_mem : ∀ (ts : List Nat) (s : RS), ∀ o ∈ tails s ts, o.entry = false ∧ o.tid ∈ ts
  | [], _, o, h => by simp [tails] at h
  | t :: ts, s, o, h => by
    simp only [tails, List.mem_append] at h
    rcases h with h | h
    · obtain ⟨a, b⟩ := tailTask_mem t (s.last t) (s.stacks t) 0 o h
      exact ⟨a, by simp [b]⟩
    · obtain ⟨a, b⟩ := tails_mem ts _ o h
      exact ⟨a, by simp [b]⟩

theorem tailTask_balanced (t last : Nat) : ∀ (stk : List Frame) (carry : Nat), (∀ f ∈ stk, f.start ≤ last) →
    balRun (names stk) (evsOf t (tailTask t last carry stk)) = some []
  | [], _, _ => by simp [tailTask, evsOf, balRun, names]
  | f :: rest, carry, h => by
    have hf : ¬ last < f.start := Nat.not_lt.mpr (h f (by simp))
    have ih := tailTask_balanced t last rest (max (last - f.start) (f.child + carry)) (fun g hg => h g (by simp [hg]))
    simp only [tailTask, hf, ↓reduceIte]
    simp only [evsOf, List.filter_cons, ↓reduceIte, decide_true, List.map_cons, names, balRun] at ih ⊢
    exact ih

theorem evsOf_other {t t' : Nat} (h : t' ≠ t) {os : List Out} (ho : ∀ o ∈ os, o.tid = t') : evsOf t os = [] := by
  simp only [evsOf, List.map_eq_nil_iff, List.filter_eq_nil_iff, decide_eq_true_eq]
  intro o hm e
  exact h ((ho o hm).symm.trans e)

theorem tails_balanced : ∀ (tids : List Nat) (s : RS), Started s → ∀ t,
    balRun (names (s.stacks t)) (evsOf t (tails s tids)) =
      some (if t ∈ tids then [] else names (s.stacks t))
  | [], s, _, t => by simp [tails, evsOf, balRun]
  | t' :: ts, s, hs, t => by
    have hs' : Started { s with stacks := setFn s.stacks t' [] } := by
      intro u f hf
      simp only [setFn] at hf
      split at hf
      · simp at hf
      · exact hs u f hf
    have ih := tails_balanced ts { s with stacks := setFn s.stacks t' [] } hs' t
    simp only [tails, evsOf_append, balRun_append]
    by_cases ht : t' = t
    · subst ht
      rw [tailTask_balanced t' (s.last t') (s.stacks t') 0 (hs t')]
      simp only [setFn_same, names, List.map_nil] at ih
      simp only [Option.bind_some, ih]
      simp
    · rw [evsOf_other ht (fun o ho => (tailTask_mem t' (s.last t') (s.stacks t') 0 o ho).2)]
      have hne : ¬ t = t' := fun e => ht e.symm
      simp only [balRun, Option.bind_some]
      simp only [setFn, hne, ↓reduceIte] at ih
      rw [ih]
      simp [hne]

/-- the callbacks see every record, in order, with its own time stamp -/
theorem replay_faithful : ∀ (recs : List Rec) (s : RS),
    (replay s recs).2.map (fun o => (⟨o.tid, o.entry, o.name, o.time⟩ : Rec)) = recs
  | [], _ => rfl
  | r :: rs, s => by
    have := replay_faithful rs (stepRec s r).1
    simp only [replay, List.map_cons, this, List.cons.injEq, and_true]
    unfold stepRec
    split
    · rename_i h; cases r; simp_all
    · rename_i h
      split <;> (cases r; simp_all)

/-! ## the printers as lists of entries -/

/-- a printer that skips some entries prints the entries that are left -/
theorem flatMap_unless {α β γ : Type} (c : α → Prop) [DecidablePred c] (g : α → β) (f : β → List γ) :
    ∀ l : List α, l.flatMap (fun x => if c x then [] else f (g x)) =
      ((l.filter (fun x => decide (¬ c x))).map g).flatMap f
  | [] => rfl
  | x :: l => by
    rw [List.flatMap_cons, flatMap_unless c g f l, List.filter_cons]
    by_cases h : c x
    · simp [h]
    · simp [h]

/-- the lines of `dump --flame-graph`: (call path, printed number) -/
def flameEntries (st : Nat) (root : Node) : List (Path × Nat) :=
  ((walk root).filter (fun e => sampleOf st e.2.2 ≠ 0)).map (fun e => (e.2.1, sampleOf st e.2.2))

/-- the edges of `dump --graphviz`: (parent name, name, label) -/
def gvEdges (root : Node) : List (Name × Name × Nat) :=
  ((walk root).filter (fun e => e.2.2.calls ≠ 0)).map (fun e => (e.1.name, e.2.2.name, e.2.2.calls))

/-! ## print_time_unit -/

/-- the loop of `print_time_unit` written out: which unit is chosen and what the two numbers are.
    `hm` = 60 (repaired) or 24 (as it is) "minutes per hour". -/
theorem tuLoop_cases (hm ns : Nat) :
    tuLoop [1000, 1000, 1000, 60, hm] 0 ns =
      if ns / 1000 < 1000 then (ns / 1000, ns % 1000, 0)
      else if ns / 1000 / 1000 < 1000 then (ns / 1000 / 1000, ns / 1000 % 1000, 1)
      else if ns / 1000 / 1000 / 1000 < 60 then (ns / 1000 / 1000 / 1000, ns / 1000 / 1000 % 1000, 2)
      else if ns / 1000 / 1000 / 1000 / 60 < hm then
        (ns / 1000 / 1000 / 1000 / 60, ns / 1000 / 1000 / 1000 % 60, 3)
      else (ns / 1000 / 1000 / 1000 / 60 / hm, ns / 1000 / 1000 / 1000 / 60 % hm, 4) := by
  simp only [tuLoop]

/-- `a` is `ns` in steps of `S`, rounded down -/
def Floor (ns S a : Nat) : Prop := S * a ≤ ns ∧ ns < S * a + S

theorem Floor.one (ns : Nat) : Floor ns 1 ns := by
  unfold Floor; omega

/-- one more division: `k` steps make one step of the next unit -/
theorem Floor.div {ns S a : Nat} (h : Floor ns S a) (k : Nat) (hk : 0 < k) : Floor ns (S * k) (a / k) := by
  have h1 : S * (k * (a / k)) ≤ S * a := Nat.mul_le_mul_left S (Nat.mul_div_le a k)
  have h2 : S * (a + 1) ≤ S * (k * (a / k + 1)) := Nat.mul_le_mul_left S (Nat.lt_mul_div_succ a hk)
  rw [Nat.mul_add, Nat.mul_one] at h2
  rw [Nat.mul_add, Nat.mul_add, Nat.mul_one] at h2
  unfold Floor at *
  rw [Nat.mul_assoc]
  omega

/-- whole units and steps shown denote `ns` rounded down to the step -/
theorem Floor.shown {ns S a : Nat} (h : Floor ns S a) (k : Nat) (hk : 0 < k) (hS : 0 < S) :
    a % k * S < S * k ∧ a / k * (S * k) + a % k * S ≤ ns ∧ ns < a / k * (S * k) + (a % k + 1) * S := by
  have e : a / k * (S * k) + a % k * S = S * a := by
    rw [Nat.mul_comm (a / k), Nat.mul_assoc, Nat.mul_comm (a % k), ← Nat.mul_add, Nat.div_add_mod]
  have l : S * (a % k) < S * k := (Nat.mul_lt_mul_left hS).2 (Nat.mod_lt a hk)
  rw [Nat.add_mul, Nat.one_mul, ← Nat.add_assoc, e, Nat.mul_comm (a % k)]
  unfold Floor at h
  exact ⟨l, h⟩

end Uft.Graph

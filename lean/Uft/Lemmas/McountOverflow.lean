import Uft.Lemmas.Mcount
/- The eager view `out ++ pending` of a thread (`eager`) does not see the lazy flushes, also not the one at a
   --max-stack overflow; with it: calls beyond the shadow stack are dropped and nothing else is, for both hook
   flavours (`over_calls`). -/
namespace Uft.Mcount

mutual
  /-- eager trace of a call at depth `d` when only `b` more levels fit on the shadow stack -/
  def evCallB (d b : Nat) : Call → List Rec
    | .node f t0 t1 kids =>
      if b = 0 then [] else
      [{ time := t0, type := 0, depth := d, addr := f }] ++ evCallsB (d + 1) (b - 1) kids ++
      [{ time := t1, type := 1, depth := d, addr := f }]
  def evCallsB (d b : Nat) : Calls → List Rec
    | .nil => []
    | .cons c rest => evCallB d b c ++ evCallsB d b rest
end

theorem evCallsB_zero : ∀ (d : Nat) (cs : Calls), evCallsB d 0 cs = []
  | _, .nil => rfl
  | d, .cons (.node _ _ _ _) rest => by simp [evCallsB, evCallB, evCallsB_zero d rest]

/-- what has been written plus what is still owed -/
def eager (s : St) : List Rec := s.out ++ pending s.frames

/-- every written frame has only written frames below it -/
def WClosed : List Frame → Prop
  | [] => True
  | f :: r => (f.written = true → pending r = []) ∧ WClosed r

theorem markTo_of_pending_nil (fs : List Frame) (h : pending fs = []) : markTo fs = fs := by
  cases fs with
  | nil => rfl
  | cons f r =>
    cases hw : f.written
    · simp [pending, hw] at h
    · simp [markTo, hw]

theorem WClosed_markTo : ∀ (fs : List Frame), WClosed fs → WClosed (markTo fs)
  | [], _ => trivial
  | f :: r, h => by
    simp only [markTo]
    split
    · exact h
    · exact ⟨fun _ => pending_markTo r, WClosed_markTo r h.2⟩

/-- the state between hooks at depth `d`, with the flush bookkeeping -/
structure GoodW (s : St) (d : Nat) : Prop where
  good : Good s d
  closed : WClosed s.frames
  warn : s.warned = true → pending s.frames = []
  open_ : ∀ f ∈ s.frames, f.endT = 0

theorem goodW_init (cfg : Cfg) (hmin : cfg.minSize = 0) (hen : cfg.enabled0 = true) : GoodW (St.init cfg) 0 :=
  ⟨good_init cfg hmin hen, trivial, fun _ => rfl, fun _ hf => nomatch hf⟩

theorem eraseW_head {F : Frame} {fs gs : List Frame} (h : (F :: fs).map eraseW = gs.map eraseW) :
    ∃ G gs', gs = G :: gs' ∧ G = { F with written := G.written } ∧ fs.map eraseW = gs'.map eraseW := by
  cases gs with
  | nil => simp at h
  | cons G gs' =>
    simp only [List.map_cons, List.cons.injEq] at h
    refine ⟨G, gs', rfl, ?_, h.2⟩
    have := h.1
    cases F; cases G
    simp [eraseW] at this ⊢
    simp [this]

theorem markTo_noskip' (fs : List Frame) (h : NoSkip fs) : NoSkip (markTo fs) := markTo_noskip fs h

theorem markTo_open (fs : List Frame) (ho : ∀ f ∈ fs, f.endT = 0) : ∀ f ∈ markTo fs, f.endT = 0 :=
  forall_of_map (·.endT) (· = 0) (map_of_eraseW _ (fun _ => rfl) (markTo_eraseW fs)) ho

/-- with the shadow stack full mcount_check_rstack has reported the overflow, and the stack stays full -/
theorem checkRstack_full (cfg : Cfg) (s : St) (hidx : s.idx ≥ cfg.maxStack) :
    (checkRstack cfg s).1 = true ∧ (checkRstack cfg s).2.warned = true ∧
    (checkRstack cfg s).2.idx ≥ cfg.maxStack := by
  unfold checkRstack
  rw [if_pos hidx]
  cases hw : s.warned
  · refine ⟨rfl, rfl, ?_⟩
    simp only [St.idx, Bool.not_false, ↓reduceIte, recordTrace_length]
    exact hidx
  · exact ⟨rfl, hw, hidx⟩

theorem entry_full (cfg : Cfg) (k : Kind) (s : St) (f t0 : Nat) (hidx : s.idx ≥ cfg.maxStack) :
    entry cfg k s f t0 =
      match k with
      | .pg => ((checkRstack cfg s).2, false)
      | .cyg => ({ (checkRstack cfg s).2 with over := (checkRstack cfg s).2.over + 1 }, true) := by
  have hc : entryFilterCheck cfg s f = (.rstack, (checkRstack cfg s).2, {}) := by
    unfold entryFilterCheck
    simp [(checkRstack_full cfg s hidx).1]
  unfold entry
  rw [hc]
  cases k <;> rfl

/-- a call beyond --max-stack on the -pg path: not taken, nothing lost from the eager view -/
theorem entry_overflow (cfg : Cfg) (s : St) (d f t0 : Nat) (hg : GoodW s d) (hm : cfg.maxStack ≤ d) :
    (entry cfg .pg s f t0).2 = false ∧ eager (entry cfg .pg s f t0).1 = eager s ∧
    (entry cfg .pg s f t0).1.frames.map eraseW = s.frames.map eraseW ∧ GoodW (entry cfg .pg s f t0).1 d := by
  have hidx : s.idx ≥ cfg.maxStack := by simp [St.idx, hg.good.over, hg.good.len]; omega
  have hrt := (recordTrace_of_open s.frames hg.open_).trans (flushBelow_noskip s.frames hg.good.noskip)
  rw [entry_full cfg .pg s f t0 hidx]
  by_cases hwd : s.warned = true
  · simp [checkRstack, hidx, hwd, eager]
    exact hg
  · have hwd' : s.warned = false := by simpa using hwd
    simp [checkRstack, hidx, hwd', eager, hrt, pending_markTo, markTo_eraseW]
    exact ⟨{ hg.good with len := by simpa [markTo_length] using hg.good.len, noskip := markTo_noskip _ hg.good.noskip },
      WClosed_markTo _ hg.closed, fun _ => pending_markTo _, markTo_open _ hg.open_⟩

/-- -finstrument-functions beyond --max-stack, after the overflow was reported: the entry hook only
    counts (`idx++`), the exit hook only counts back; whatever is called in between, the state
    comes back exactly -/
theorem exit_over (cfg : Cfg) (s : St) (t : Nat) :
    exit cfg { s with over := s.over + 1 } t = s := by
  cases s; simp [exit]

mutual
theorem cyg_sat_call (cfg : Cfg) : ∀ (c : Call) (s : St), s.idx ≥ cfg.maxStack → s.warned = true →
    runCall cfg .cyg s c = s
  | .node f t0 t1 kids, s, hi, hw => by
    have he : entry cfg .cyg s f t0 = ({ s with over := s.over + 1 }, true) := by
      simp [entry_full cfg .cyg s f t0 hi, checkRstack, hi, hw]
    have hk := cyg_sat_calls cfg kids { s with over := s.over + 1 } (by simp [St.idx] at hi ⊢; omega) hw
    simp only [runCall, he, ↓reduceIte, hk]
    exact exit_over cfg s t1
theorem cyg_sat_calls (cfg : Cfg) : ∀ (cs : Calls) (s : St), s.idx ≥ cfg.maxStack → s.warned = true →
    runCalls cfg .cyg s cs = s
  | .nil, s, _, _ => rfl
  | .cons c rest, s, hi, hw => by
    simp only [runCalls]
    rw [cyg_sat_call cfg c s hi hw]
    exact cyg_sat_calls cfg rest s hi hw
end

/-- a call beyond --max-stack on the -finstrument-functions path: the whole call (entry hook,
    everything it calls, exit hook) leaves exactly the state the -pg entry hook leaves
    (overflow reported once, open frames flushed) -/
theorem runCall_cyg_overflow (cfg : Cfg) (s : St) (c : Call) (f t0 : Nat) (hidx : s.idx ≥ cfg.maxStack) :
    runCall cfg .cyg s c = (entry cfg .pg s f t0).1 := by
  obtain ⟨_, hw, hi⟩ := checkRstack_full cfg s hidx
  cases c with
  | node g u0 u1 kids =>
    rw [entry_full cfg .pg s f t0 hidx]
    simp only [runCall, entry_full cfg .cyg s g u0 hidx, ↓reduceIte]
    rw [cyg_sat_calls cfg kids { (checkRstack cfg s).2 with over := (checkRstack cfg s).2.over + 1 }
      (by simp only [St.idx] at hi ⊢; omega) hw]
    exact exit_over cfg _ u1

theorem eager_exit_eq (out : List Rec) (w : Bool) (G F : Frame) (gs : List Frame) (x : Rec)
    (hG : G = { F with written := w }) :
    (out ++ (if w then [] else pending gs ++ [entryRec F]) ++ [x]) ++ pending (markTo gs) =
    (out ++ pending (G :: gs)) ++ [x] := by
  subst hG
  cases w <;> simp [pending, pending_markTo, entryRec]

mutual
theorem over_call (cfg : Cfg) (hp : Plain cfg) (k : Kind) (hdo : cfg.maxStack ≤ cfg.depthOpt) :
    ∀ (c : Call) (s : St) (d : Nat), GoodW s d → d ≤ cfg.maxStack → c.okFor cfg →
      eager (runCall cfg k s c) = eager s ++ evCallB d (cfg.maxStack - d) c ∧
      (runCall cfg k s c).frames.map eraseW = s.frames.map eraseW ∧
      GoodW (runCall cfg k s c) d
  | .node f t0 t1 kids, s, d, hg, hm, ht => by
    simp only [Call.okFor] at ht
    by_cases hfull : cfg.maxStack ≤ d
    · -- beyond the shadow stack: the call and everything below it is dropped
      have hb : cfg.maxStack - d = 0 := by omega
      obtain ⟨o1, o2, o3, o4⟩ := entry_overflow cfg s d f t0 hg hfull
      cases k with
      | pg =>
        obtain ⟨k1, k2, k3⟩ := over_calls cfg hp .pg hdo kids (entry cfg .pg s f t0).1 d o4 hm ht.2
        simp only [runCall, o1, Bool.false_eq_true, ↓reduceIte]
        refine ⟨?_, k2.trans o3, k3⟩
        rw [k1, o2, hb, evCallsB_zero]; simp [evCallB]
      | cyg =>
        rw [runCall_cyg_overflow cfg s _ f t0 (by simp [St.idx, hg.good.over, hg.good.len]; omega)]
        refine ⟨?_, o3, o4⟩
        rw [o2, hb]; simp [evCallB]
    · have hlt : d < cfg.maxStack := by omega
      obtain ⟨e1, e2, e3, e4, ew⟩ := entry_plain cfg hp k s d f t0 hg.good hlt (by omega)
      have hFw : (plainFrame k f t0 d).written = false := rfl
      have hgw1 : GoodW (entry cfg k s f t0).1 (d + 1) := by
        refine ⟨e4, ?_, ?_, ?_⟩
        · rw [e3]; exact ⟨fun h => by simp [hFw] at h, hg.closed⟩
        · intro h; simp [ew] at h
        · rw [e3]
          exact List.forall_mem_cons.2 ⟨rfl, hg.open_⟩
      obtain ⟨k1, k2, k3⟩ := over_calls cfg hp k hdo kids (entry cfg k s f t0).1 (d + 1) hgw1 (by omega) ht.2
      rw [e3] at k2
      obtain ⟨G, gs, hfr, hG, hgs⟩ := eraseW_head k2.symm
      have hcl := k3.closed
      rw [hfr] at hcl
      have hw : G.written = true → markTo gs = gs := fun h => markTo_of_pending_nil gs (hcl.1 h)
      have hfr' : (runCalls cfg k (entry cfg k s f t0).1 kids).frames =
          { plainFrame k f t0 d with written := G.written } :: gs := by rw [hfr, ← hG]
      obtain ⟨x1, x2, x3⟩ := exit_plain' cfg hp k _ d f t0 t1 G.written gs hfr' k3.good ht.1.2 ht.1.1 hw
      simp only [runCall, e1, ↓reduceIte]
      have hopen2 : ∀ g ∈ gs, g.endT = 0 := fun g hgm => k3.open_ g (by rw [hfr]; simp [hgm])
      refine ⟨?_, ?_, ⟨x3, ?_, ?_, ?_⟩⟩
      · have hb : cfg.maxStack - d ≠ 0 := by omega
        have hb1 : cfg.maxStack - d - 1 = cfg.maxStack - (d + 1) := by omega
        simp only [eager, x1, x2]
        rw [eager_exit_eq _ _ G _ gs _ hG]
        have : (runCalls cfg k (entry cfg k s f t0).1 kids).out ++ pending (G :: gs) =
            eager (runCalls cfg k (entry cfg k s f t0).1 kids) := by simp [eager, hfr]
        rw [this, k1]
        simp only [eager, e2, e3, pending_cons_unwritten _ _ hFw, evCallB, hb, ↓reduceIte, hb1]
        simp [entryRec, plainFrame]
      · rw [x2, markTo_eraseW, ← hgs]
      · rw [x2]; exact WClosed_markTo _ hcl.2
      · intro _; rw [x2]; exact pending_markTo _
      · rw [x2]; exact markTo_open _ hopen2
theorem over_calls (cfg : Cfg) (hp : Plain cfg) (k : Kind) (hdo : cfg.maxStack ≤ cfg.depthOpt) :
    ∀ (cs : Calls) (s : St) (d : Nat), GoodW s d → d ≤ cfg.maxStack → cs.okFor cfg →
      eager (runCalls cfg k s cs) = eager s ++ evCallsB d (cfg.maxStack - d) cs ∧
      (runCalls cfg k s cs).frames.map eraseW = s.frames.map eraseW ∧
      GoodW (runCalls cfg k s cs) d
  | .nil, s, d, hg, _, _ => by simp [runCalls, evCallsB, hg]
  | .cons c rest, s, d, hg, hm, ht => by
    simp only [Calls.okFor] at ht
    obtain ⟨c1, c2, c3⟩ := over_call cfg hp k hdo c s d hg hm ht.1
    obtain ⟨r1, r2, r3⟩ := over_calls cfg hp k hdo rest (runCall cfg k s c) d c3 hm ht.2
    simp only [runCalls]
    refine ⟨?_, r2.trans c2, r3⟩
    rw [r1, c1]; simp [evCallsB]
end

end Uft.Mcount

import Uft.Model.Asm
/- read-over-write lemmas, call splitting and the part of a machine state that an
   ABI-conforming call leaves alone, for the stub proofs (Props/C01) -/
namespace Uft.Asm

@[simp] theorem gpr_setR (m : M) (r x : Reg) (v : Nat) :
    (setR m r v).gpr x = if x = r then v else m.gpr x := rfl
@[simp] theorem gpr_setM (m : M) (a v : Nat) (x : Reg) : (setM m a v).gpr x = m.gpr x := rfl
@[simp] theorem gpr_setX (m : M) (i lo hi : Nat) (x : Reg) : (setX m i lo hi).gpr x = m.gpr x := rfl
@[simp] theorem mem_setR (m : M) (r : Reg) (v a : Nat) : (setR m r v).mem a = m.mem a := rfl
@[simp] theorem mem_setX (m : M) (i lo hi a : Nat) : (setX m i lo hi).mem a = m.mem a := rfl
theorem mem_setM_eq (m : M) (a b v : Nat) (h : b = a) : (setM m a v).mem b = v := by simp [setM, h]
theorem mem_setM_ne (m : M) (a b v : Nat) (h : b ≠ a) : (setM m a v).mem b = m.mem b := by simp [setM, h]
@[simp] theorem xlo_setR (m : M) (r : Reg) (v i : Nat) : (setR m r v).xlo i = m.xlo i := rfl
@[simp] theorem xhi_setR (m : M) (r : Reg) (v i : Nat) : (setR m r v).xhi i = m.xhi i := rfl
@[simp] theorem xlo_setM (m : M) (a v i : Nat) : (setM m a v).xlo i = m.xlo i := rfl
@[simp] theorem xhi_setM (m : M) (a v i : Nat) : (setM m a v).xhi i = m.xhi i := rfl
@[simp] theorem xlo_setX (m : M) (i lo hi j : Nat) : (setX m i lo hi).xlo j = if j = i then lo else m.xlo j := rfl
@[simp] theorem xhi_setX (m : M) (i lo hi j : Nat) : (setX m i lo hi).xhi j = if j = i then hi else m.xhi j := rfl
@[simp] theorem rip_setR (m : M) (r : Reg) (v : Nat) : (setR m r v).rip = m.rip := rfl
@[simp] theorem rip_setM (m : M) (a v : Nat) : (setM m a v).rip = m.rip := rfl
@[simp] theorem rip_setX (m : M) (i lo hi : Nat) : (setX m i lo hi).rip = m.rip := rfl

/-! Reads in the form the symbolic execution of a stub uses them.  Every address a
stub touches is `base + literal` for one of two bases (the stub's frame and the
aligned area below it), so that each side condition below is a comparison of
literals or an assumption; `gpr_setR` itself would make `simp` normalise the whole
`else` branch before it looks at the condition. -/

theorem gpr_setR_self (m : M) (r : Reg) (v : Nat) : (setR m r v).gpr r = v := by
  simp
theorem gpr_setR_ne (m : M) (r x : Reg) (v : Nat) (h : x ≠ r) : (setR m r v).gpr x = m.gpr x := by
  simp [h]
theorem mem_setM_self (m : M) (a v : Nat) : (setM m a v).mem a = v :=
  mem_setM_eq m a a v rfl
theorem mem_setM_add_ne (m : M) (b j k v : Nat) (h : j ≠ k) :
    (setM m (b + k) v).mem (b + j) = m.mem (b + j) :=
  mem_setM_ne m _ _ v (by omega)
theorem mem_setM_below (m : M) (b f j k n v : Nat) (h : b + n ≤ f) (hj : j < n) :
    (setM m (b + j) v).mem (f + k) = m.mem (f + k) :=
  mem_setM_ne m _ _ v (by omega)
theorem mem_setM_above (m : M) (b f j k n v : Nat) (h : b + n ≤ f) (hj : j < n) :
    (setM m (f + k) v).mem (b + j) = m.mem (b + j) :=
  mem_setM_ne m _ _ v (by omega)

theorem align16_bounds (x : Nat) : align16 x ≤ x ∧ x < align16 x + 16 := by
  unfold align16; omega

theorem align16_mod (x : Nat) : align16 x % 16 = 0 := by
  unfold align16; omega

/-- The frame of a stub entered with stack pointer `x`: it lowers the stack pointer by `F` to `f`
    and then uses `n` bytes below the aligned `f`; with `b` for their base every address the stub
    touches is `f + literal` or `b + literal`. -/
theorem exists_frame (x F n : Nat) (h : F + n + 15 ≤ x) :
    ∃ f b, x = f + F ∧ align16 f = b + n ∧ b + n ≤ f ∧ (b + n) % 16 = 0 := by
  have := align16_bounds (x - F)
  have := align16_mod (x - F)
  exact ⟨x - F, align16 (x - F) - n, by omega, by omega, by omega, by omega⟩

theorem exec_append (env : Env) (a b : List Instr) (m : M) :
    exec env (a ++ b) m = exec env b (exec env a m) := by
  simp [exec, List.foldl_append]

/- Proved by rewriting, not by `rfl`: as a definitional rewrite rule `simp` would leave no proof
   steps for an execution, and the kernel would have to find the whole run again by conversion. -/
theorem exec_cons (env : Env) (i : Instr) (l : List Instr) (m : M) :
    exec env (i :: l) m = exec env l (step env m i) := by
  simp only [exec, List.foldl_cons]

@[simp] theorem exec_nil (env : Env) (m : M) : exec env [] m = m := rfl

theorem exec_call (env : Env) (s p q : List Instr) (c : String) (m : M) (hs : s = p ++ .call c :: q) :
    exec env s m = exec env q (env.callee c (exec env p m)) := by
  rw [hs, exec_append, exec_cons]
  rfl

/-- `i` writes no vector register, or is a call of a function that writes none -/
def Instr.KeepsVec (env : Env) : Instr → Prop
  | .loadx _ _ _ => False
  | .call c => NoVec (env.callee c)
  | _ => True

theorem exec_keepsVec (env : Env) (l : List Instr) (h : ∀ i ∈ l, i.KeepsVec env) (m : M) (j : Nat) :
    (exec env l m).xlo j = m.xlo j ∧ (exec env l m).xhi j = m.xhi j := by
  induction l generalizing m with
  | nil => exact ⟨rfl, rfl⟩
  | cons i l ih =>
    have hl := ih (fun x hx => h x (List.mem_cons_of_mem _ hx)) (step env m i)
    rw [exec_cons, hl.1, hl.2]
    cases i with
    | loadx => exact (h _ List.mem_cons_self : False).elim
    | call c => exact h _ List.mem_cons_self m j
    | pltTail =>
      simp only [step]
      split <;> exact ⟨rfl, rfl⟩
    | _ => exact ⟨rfl, rfl⟩

def calleeSaved : List Reg := [.rbx, .rbp, .r12, .r13, .r14, .r15]

/-- What a stub entered in state `m` relies on across a call it makes in state `P`: the stack
    pointer is `lo`, the words `slots` (address, value) hold what the stub has put there for the
    time of the call, and the callee-saved registers are still those of `m`.  All slots lie in
    `[lo, hi)`: from the stack pointer at the call up to the bound below which the callee is
    assumed (`ABI c hi`) to leave the caller's memory alone.  So a call keeps all of it
    (`Parked.call`), and what follows the call in the stub can restore from the slots.
    A conjunction and not a structure, so that the one `simp only` that executes a stub up to its
    call proves all parts at once. -/
def Parked (m P : M) (lo hi : Nat) (slots : List (Nat × Nat)) : Prop :=
  P.gpr .rsp = lo ∧ (∀ s ∈ slots, lo ≤ s.1 ∧ s.1 < hi) ∧ (∀ s ∈ slots, P.mem s.1 = s.2) ∧
    ∀ r ∈ calleeSaved, P.gpr r = m.gpr r

theorem Parked.call {c : M → M} {m P : M} {lo hi : Nat} {slots : List (Nat × Nat)}
    (h : ABI c hi) (hP : Parked m P lo hi slots) : Parked m (c P) lo hi slots := by
  obtain ⟨hrsp, hwin, hmem, hsaved⟩ := hP
  refine ⟨(h.rsp P).trans hrsp, hwin, fun s hs => ?_, fun r hr => ?_⟩
  · exact (h.mem P s.1 (hrsp ▸ (hwin s hs).1) (hwin s hs).2).trans (hmem s hs)
  · rw [← hsaved r hr]
    simp only [calleeSaved, List.mem_cons, List.not_mem_nil, or_false] at hr
    rcases hr with rfl | rfl | rfl | rfl | rfl | rfl
    · exact h.rbx P
    · exact h.rbp P
    · exact h.r12 P
    · exact h.r13 P
    · exact h.r14 P
    · exact h.r15 P

theorem Parked.setR {m P : M} {lo hi : Nat} {slots : List (Nat × Nat)} (hP : Parked m P lo hi slots)
    (r : Reg) (v : Nat) (hr : r ≠ .rsp) (hr' : r ∉ calleeSaved) : Parked m (setR P r v) lo hi slots := by
  obtain ⟨hrsp, hwin, hmem, hsaved⟩ := hP
  refine ⟨(gpr_setR_ne P r .rsp v hr.symm).trans hrsp, hwin, hmem, fun x hx => ?_⟩
  rw [gpr_setR_ne P r x v (fun e => hr' (e ▸ hx))]
  exact hsaved x hx

end Uft.Asm

import Uft.Lemmas.NonLocal.Signal
import Uft.Lemmas.NonLocal.Stream
/-
C11 — whole histories from the first instruction of the program: the machine stays in step (`Inv`),
the depth bookkeeping stays right (`TraceInv`) and the records written form a coherent stream
(`StreamInv`).  The parts: NonLocal/Shadow.lean (the shadow stack a real stack accounts for, and what
the hooks do to it), NonLocal/Inv.lean (`Inv`, `WellFormedOp`, every step), NonLocal/Signal.lean,
NonLocal/Depth.lean, NonLocal/Replay.lean (display depth on coherent streams), NonLocal/Stream.lean.
-/
namespace Uft.NonLocal

/-- a program history: every step is well formed in the state it is executed in and uses the fix-up
    symbols only through their own ops -/
def History (m : M) : List Op → Prop
  | [] => True
  | op :: r => WellFormedOp m op ∧ SymOk op ∧ History (step Fix.current m op) r

theorem symOk_depthClaim {op : Op} (h : SymOk op) : op.noDepthClaim = false := by
  cases op <;> simp_all [SymOk, Op.noDepthClaim]

theorem inv_step_nonterminal {m : M} {op : Op} (hi : Inv m) (hw : WellFormedOp m op) (hnt : op.noDepthClaim = false) :
    Inv (step Fix.all m op) :=
  inv_step hi hw (fun _ _ _ h => by rw [h] at hnt; cases hnt)

theorem streamInv_init : StreamInv Sh.init CSt.init :=
  ⟨⟨rfl, rfl, ⟨rfl, rfl, fun _ => rfl, trivial, rfl⟩, rfl⟩, (fun _ h => by cases h), (fun _ _ _ h => by cases h)⟩

theorem traceInv_init : TraceInv Sh.init := ⟨rfl, rfl, fun _ _ _ h => by cases h⟩

/-- everything the theorems need, kept along a history -/
theorem history_run : ∀ (ops : List Op) (m : M) (c : CSt), Inv m → TraceInv m.sh → StreamInv m.sh c → History m ops →
    ∃ c', Inv (run Fix.current m ops) ∧ TraceInv (run Fix.current m ops).sh ∧ StreamInv (run Fix.current m ops).sh c' ∧
      SeenLe c c' := by
  intro ops
  induction ops with
  | nil => intro m c hi ht hs _; exact ⟨c, hi, ht, hs, SeenLe.refl c⟩
  | cons op r ih =>
    intro m c hi ht hs hh
    obtain ⟨hw, hk, hr⟩ := hh
    obtain ⟨c1, hs', hle⟩ := stream_step hi ht hs hw hk
    obtain ⟨c', a1, a2, a3, a4⟩ := ih (step Fix.current m op) c1 (inv_step_nonterminal hi hw (symOk_depthClaim hk))
      (trace_step hi ht hw (symOk_depthClaim hk)) hs' hr
    exact ⟨c', a1, a2, a3, hle.trans a4⟩

theorem wc_le_length (l : List Ent) : wc l ≤ l.length := by
  induction l with
  | nil => exact Nat.le_refl _
  | cons e r ih => simp only [wc, List.length_cons]; split <;> omega

end Uft.NonLocal

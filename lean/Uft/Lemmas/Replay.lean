/- C06: the equations of `startTask`, `consume`, `upd` and `inhOf`, and the hypothesis `PairsOK` of the
   folding theorems. Core only. -/
import Uft.Model.Replay
import Uft.Lemmas.Merge
namespace Uft.Replay
open Uft.Merge

theorem startTask_started {inh : Nat} {st : TaskSt} {r : Rec} (h : st.started = true) :
    startTask inh st r = st := by
  cases st
  simp only at h
  simp [startTask, h]

@[simp] theorem startTask_isStarted (inh : Nat) (st : TaskSt) (r : Rec) :
    (startTask inh st r).started = true := rfl

@[simp] theorem consume_started (inh : Nat) (st : TaskSt) (r : Rec) : (consume inh st r).started = true := rfl
@[simp] theorem consume_parent (inh : Nat) (st : TaskSt) (r : Rec) : (consume inh st r).parent = st.parent := rfl
@[simp] theorem consume_forkDisp (inh : Nat) (st : TaskSt) (r : Rec) : (consume inh st r).forkDisp = st.forkDisp := rfl

/-- the inherited depth is only looked at by `startTask` -/
theorem consume_startTask (inh : Nat) (st : TaskSt) (r : Rec) :
    consume inh st r = consume 0 (startTask inh st r) r := by
  simp only [consume, startTask_started (inh := 0) (startTask_isStarted inh st r)]
  rfl

theorem consume_of_started {inh : Nat} {st : TaskSt} {r : Rec} (h : st.started = true) :
    consume inh st r = consume 0 st r := by
  rw [consume_startTask, startTask_started h]

theorem consume_entry {st : TaskSt} {r : Rec} (hs : st.started = true) (hr : r.exit = false) (inh : Nat) :
    consume inh st r =
      { st with stackCount := st.stackCount + 1,
                slots := setSlot st.slots st.stackCount { addr := r.addr, total := r.time, valid := true } } := by
  cases st
  simp only at hs
  simp [consume, startTask, newCount, accountSlots, hs, hr]

theorem consume_exit {st : TaskSt} {x : Rec} {c : Nat} (hs : st.started = true) (hx : x.exit = true)
    (hc : st.stackCount = c + 1) (inh : Nat) :
    consume inh st x =
      { st with stackCount := c,
                slots := setSlot st.slots c
                  { addr := (st.slots c).addr,
                    total := if (st.slots c).valid then x.time - (st.slots c).total else 0, valid := false } } := by
  cases st
  simp only at hs hc
  simp [consume, startTask, newCount, accountSlots, hs, hx, hc]

@[simp] theorem upd_same (g : G) (i : Nat) (s : TaskSt) : upd g i s i = s := by simp [upd]
theorem upd_other {g : G} {i j : Nat} (s : TaskSt) (h : j ≠ i) : upd g i s j = g j := by simp [upd, h]

theorem inhOf_upd_same_parent {g : G} {i : Nat} {s : TaskSt} (hp : s.parent = (g i).parent)
    (hf : s.forkDisp = (g i).forkDisp) (j : Nat) : inhOf (upd g i s) j = inhOf g j := by
  unfold inhOf
  by_cases hj : j = i
  · subst hj
    simp only [upd_same, hp]
    cases (g j).parent with
    | none => rfl
    | some p =>
      by_cases hpj : p = j
      · subst hpj; simp [hf]
      · simp [upd_other _ hpj]
  · rw [upd_other _ hj]
    cases (g j).parent with
    | none => rfl
    | some p =>
      by_cases hpi : p = i
      · subst hpi; simp [hf]
      · simp [upd_other _ hpi]

theorem foldsWith_iff {i j : Nat} {r x : Rec} :
    foldsWith i r j x = true ↔ (j = i ∧ x.depth = r.depth) ∧ x.exit = true := by
  simp [foldsWith, Bool.and_eq_true]

/-- what the folding theorems need from the data: an EXIT that directly follows the
    ENTRY of the same task at the same depth is that call's EXIT (same function, not earlier) -/
def PairsOK : List (Nat × Rec) → Prop
  | (i, r) :: (j, x) :: rest =>
    (r.exit = false → foldsWith i r j x = true → x.addr = r.addr ∧ r.time ≤ x.time) ∧ PairsOK ((j, x) :: rest)
  | _ => True

theorem pairsOK_tail {p : Nat × Rec} {m : List (Nat × Rec)} (h : PairsOK (p :: m)) : PairsOK m := by
  cases m with
  | nil => simp [PairsOK]
  | cons q m => obtain ⟨i, r⟩ := p; obtain ⟨j, x⟩ := q; exact h.2

end Uft.Replay

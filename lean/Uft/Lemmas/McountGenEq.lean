/-
C05 / C02 — the definitions generated from libmcount/mcount.c by translators/c2lean.py
(`Uft.Gen.McountC.mcount_save_filter`, `mcount_entry_filter_check`, `mcount_exit_filter_record_prefix`)
compute what the hand-written hook model `Uft/Model/Mcount.lean` (`saveFilt`, `entryFilterCheck`,
`exitFilterRecord`) computes on the per-thread filter state.

Mapping (`FiltRel`): `mtdp->filter.*` is the model's `Filt` record (`in_count` / `out_count` are C `int`, `Nat`
in the model); `mcount_enabled` is `St.enabled`; the options `mcount_depth`, `mcount_triggers->filter_count`,
`->loc_count` are `Cfg.depthOpt`, `optIn`, `locIn` (`CfgRel`); the rstack slot's saved filter values and flags
are a model `Frame` (`FrameRel`).

Abstractions of the hand model, explicit as hypotheses:
  * `uftrace_match_filter` on `mcount_triggers->root` leaves in `*tr` an encoding (`TrEnc`) of the model's
    `Trigger` value `cfg.trig addr` — pattern matching is not modelled;
  * `mcount_check_rstack` (stack overflow check, with its own flush) is the model's `checkRstack`: the theorems
    are stated for the case that it reports no overflow and relate the state after it;
  * `max_depth` / the depth counters are `unsigned short` in C: a `depth=` trigger value is assumed to be below
    2^31 only in so far as the model itself does (it is a `Nat` there and an `int` in `tr->depth`);
  * the model counts in `Nat`: the exit side is equivalent where the decremented counter is positive.
`mcount_entry_filter_check_eq` relates the filter state, `mcount_enabled` and the returned `filter_result`; it does
not depend on the model's `f7fixed` flag (the flush of finding F-C07-TRACEOFF-FLUSH writes records, not filter
state).  `mcount_entry_filter_check_calls` pins down the opaque calls the code makes: `record_trace_data` on the
callers' top frame exactly under the condition of the model's `traceOffFlush` with `f7fixed = true`
(`c05_gen_entry_filter_check_flush_model`), which is the code after the repair of that finding.
The statements about `mcount_save_filter`, the overflow return and the exit side, and those that tie `efc`, `flushCond`
and `exitFilt` to the model's hooks, are proved in `Uft/Props/C05Gen.lean`.
-/
import Uft.Model.Mcount
import Uft.Gen.McountC
import Uft.Lemmas.CommonGenEq
namespace Uft.McountGenEq
open Uft.Mcount Uft.Gen.C Uft.GenEq
open Uft.Gen.McountC (Oracles W_uftrace_match_filter mcount_save_filter mcount_entry_filter_check
  mcount_exit_filter_record_prefix filter_restore_from_rstack mcount_get_filter_mode mcount_get_loc_mode)
/-- the generated field structure (the model's own state record is `Uft.Mcount.St`) -/
abbrev GSt := Uft.Gen.McountC.St

/-- the value of an optional trigger parameter (0 when there is none) -/
def optVal : Option Nat → Nat
  | some d => d
  | none => 0

theorem getD_eq (o : Option Nat) (x : Nat) : o.getD x = if o.isSome then optVal o else x := by
  cases o <;> simp [optVal]

/-! The model's updates as records of `if`s, the form the predicated assignments of the generated code have. -/

theorem matchFilt_eq (t : Trigger) (f : Filt) :
    matchFilt t f = if t.filter.isSome then
        { f with inCount := if t.filter == some true then f.inCount + 1 else f.inCount
                 outCount := if t.filter == some true then f.outCount else f.outCount + 1
                 depth := 0 }
      else f := by
  unfold matchFilt; rcases t.filter with _ | _ | _ <;> simp

theorem trigFilt_eq (t : Trigger) (f : Filt) :
    trigFilt t f = { f with depth := if t.depth.isSome then 0 else f.depth
                            maxDepth := if t.depth.isSome then optVal t.depth else f.maxDepth
                            time := if t.time.isSome then optVal t.time else f.time
                            size := if t.size.isSome then optVal t.size else f.size } := by
  unfold trigFilt; rcases t.depth with _ | _ <;> rcases t.time with _ | _ <;> rcases t.size with _ | _ <;>
    simp [optVal]

/-- `*tr` after uftrace_match_filter encodes the model's trigger value (numerals: TRIGGER_FL_FILTER, _LOC, _DEPTH,
    _TRACE_ON, _TRACE_OFF, _TIME_FILTER, _SIZE_FILTER; FILTER_MODE_IN = 1, FILTER_MODE_OUT = 2) -/
structure TrEnc (t : Trigger) (w : W_uftrace_match_filter) : Prop where
  filter : ((w.tr_flags &&& 2) != 0) = t.filter.isSome
  fmodeIn : t.filter.isSome → (w.tr_fmode == 1) = (t.filter == some true)
  fmodeOut : t.filter.isSome → (w.tr_fmode == 2) = !(t.filter == some true)
  loc : ((w.tr_flags &&& 262144) != 0) = t.loc.isSome
  lmode : t.loc.isSome → (w.tr_lmode == 2) = (t.loc == some false)
  depthF : ((w.tr_flags &&& 1) != 0) = t.depth.isSome
  depthV : t.depth.isSome → w.tr_depth = ((optVal t.depth : Nat) : Int)
  traceOn : ((w.tr_flags &&& 16) != 0) = t.traceOn
  traceOff : ((w.tr_flags &&& 32) != 0) = t.traceOff
  timeF : ((w.tr_flags &&& 1024) != 0) = t.time.isSome
  timeV : t.time.isSome → w.tr_time = optVal t.time
  sizeF : ((w.tr_flags &&& 524288) != 0) = t.size.isSome
  sizeV : t.size.isSome → w.tr_size = optVal t.size

/-- `mtdp->filter` holds the model's `Filt` -/
structure FiltRel (f : Filt) (s : GSt) : Prop where
  inC : s.mtdp_filter_in_count = (f.inCount : Int)
  outC : s.mtdp_filter_out_count = (f.outCount : Int)
  depth : s.mtdp_filter_depth = f.depth
  maxDepth : s.mtdp_filter_max_depth = f.maxDepth
  time : s.mtdp_filter_time = f.time
  size : s.mtdp_filter_size = f.size
  svDepth : s.mtdp_filter_saved_depth = f.svDepth
  svMaxDepth : s.mtdp_filter_saved_max_depth = f.svMaxDepth
  svTime : s.mtdp_filter_saved_time = f.svTime
  svSize : s.mtdp_filter_saved_size = f.svSize

theorem filtRel_iff (f : Filt) (s : GSt) : FiltRel f s ↔
    (s.mtdp_filter_in_count = (f.inCount : Int) ∧ s.mtdp_filter_out_count = (f.outCount : Int) ∧
     s.mtdp_filter_depth = f.depth ∧ s.mtdp_filter_max_depth = f.maxDepth ∧ s.mtdp_filter_time = f.time ∧
     s.mtdp_filter_size = f.size ∧ s.mtdp_filter_saved_depth = f.svDepth ∧
     s.mtdp_filter_saved_max_depth = f.svMaxDepth ∧ s.mtdp_filter_saved_time = f.svTime ∧
     s.mtdp_filter_saved_size = f.svSize) :=
  ⟨fun ⟨a, b, c, d, e, g, h, i, j, k⟩ => ⟨a, b, c, d, e, g, h, i, j, k⟩,
   fun ⟨a, b, c, d, e, g, h, i, j, k⟩ => ⟨a, b, c, d, e, g, h, i, j, k⟩⟩

/-- the option values the hooks read -/
structure CfgRel (cfg : Cfg) (s : GSt) : Prop where
  depthOpt : s.mcount_depth = (cfg.depthOpt : Int)
  optIn : decide (s.mcount_triggers_filter_count > 0) = cfg.optIn
  locIn : decide (s.mcount_triggers_loc_count > 0) = cfg.locIn
  threshold : s.mcount_threshold = cfg.threshold

/-- the rstack slot holds the model frame: saved filter values and the three flags the exit hook tests first
    (numerals: MCOUNT_FL_FILTERED = 16, MCOUNT_FL_NOTRACE = 8, MCOUNT_FL_RECOVER = 256) -/
structure FrameRel (fr : Frame) (s : GSt) : Prop where
  sDepth : s.rstack_filter_depth = fr.sDepth
  sMaxDepth : s.rstack_filter_max_depth = fr.sMaxDepth
  sTime : s.rstack_filter_time = fr.sTime
  sSize : s.rstack_filter_size = fr.sSize
  filtered : ((s.rstack_flags &&& 16) != 0) = fr.filtered
  notrace : ((s.rstack_flags &&& 8) != 0) = fr.notrace

/-- the model's result on the filter state, `mcount_enabled` and the verdict, for the regular (not
    DISABLE_MCOUNT_FILTER) build once mcount_check_rstack has reported no overflow: `entryFilterCheck` without its
    first line (`c05_gen_entry_filter_check_model`). -/
def efc (cfg : Cfg) (f : Filt) (en : Bool) (addr : Nat) : FR × Filt × Bool :=
  let f0 := saveFilt f
  if f0.outCount > 0 then (.out, f0, en) else
  let tr := cfg.trig addr
  let f1 := matchFilt tr f0
  if earlyOut cfg tr f0 then (.out, f1, en) else
  let f3 := trigFilt tr f1
  let en' := trigEnabled tr en
  if f3.depth ≥ depthLimit cfg tr f0 then (.out, f3, en') else (.in_, { f3 with depth := f3.depth + 1 }, en')

/-- the `filter_result` codes (FILTER_RSTACK = -1, FILTER_OUT = 0, FILTER_IN = 1 in the generated file) -/
def frCode : FR → Int
  | .rstack => -1
  | .out => 0
  | .in_ => 1

/-- assumptions on the opaque callees of mcount_entry_filter_check -/
structure EntryEnv (cfg : Cfg) (o : Oracles) (mtdp tr : Ptr) (child : Nat) : Prop where
  noOverflow : (o.mcount_check_rstack "mcount_entry_filter_check:1" mtdp {}).1 = false
  trig : ∀ p w, TrEnc (cfg.trig child) (o.uftrace_match_filter "mcount_entry_filter_check:2" child p tr w).2

/-- the model's condition for the flush at the TRACE_OFF update: both early returns passed, the trigger switches
    tracing off, and tracing is on at that point (after the TRACE_ON update) -/
def flushCond (cfg : Cfg) (f : Filt) (en : Bool) (addr : Nat) : Bool :=
  !decide ((saveFilt f).outCount > 0) && !earlyOut cfg (cfg.trig addr) (saveFilt f) &&
    (cfg.trig addr).traceOff && ((cfg.trig addr).traceOn || en)

/-! The three tests of `efc`, in the form mcount_entry_filter_check makes them on a state that holds `f` (`FiltRel`,
`CfgRel`) and a `*tr` that encodes the trigger (`TrEnc`): counters as C `int`s, a flag before its mode, the depth and
the limit as the FILTER and DEPTH updates leave them. -/

theorem outTest_eq (f : Filt) : ((saveFilt f).outCount > 0) ↔ decide ((f.outCount : Int) > 0) = true := by
  simp [saveFilt]

theorem earlyOut_iff (cfg : Cfg) (t : Trigger) (f : Filt) : earlyOut cfg t (saveFilt f) = true ↔
    (¬t.filter.isSome = true ∧ (cfg.optIn && (f.inCount : Int) == 0) = true) ∨
    (t.loc.isSome = true ∧ (t.loc == some false) = true) ∨ (¬t.loc.isSome = true ∧ cfg.locIn = true) := by
  unfold earlyOut saveFilt
  rcases t.filter with _ | _ <;> rcases t.loc with _ | _ | _ <;> simp

theorem depthTest_eq (cfg : Cfg) (t : Trigger) (f : Filt) :
    (trigFilt t (matchFilt t (saveFilt f))).depth ≥ depthLimit cfg t (saveFilt f) ↔
    decide (((if t.depth.isSome = true then 0 else if t.filter.isSome = true then 0 else f.depth : Nat) : Int) ≥
      if t.depth.isSome = true then ((optVal t.depth : Nat) : Int)
      else if ((f.maxDepth : Int) == 65535) = true then (cfg.depthOpt : Int) else (f.maxDepth : Int)) = true := by
  have hm' : ((f.maxDepth : Int) = 65535) = (f.maxDepth = 65535) := propext (by omega)
  rcases hd : t.depth with _ | d <;> by_cases hf : t.filter.isSome = true <;> by_cases hm : f.maxDepth = 65535 <;>
    simp [trigFilt_eq, matchFilt_eq, depthLimit, optVal, saveFilt, noMaxDepth, Uft.Gen.Consts.FILTER_NO_MAX_DEPTH, hd,
      hf, hm, hm']

theorem flushCond_eq (cfg : Cfg) (f : Filt) (en : Bool) (a : Nat) : (flushCond cfg f en a = true) =
    (¬(saveFilt f).outCount > 0 ∧ ¬earlyOut cfg (cfg.trig a) (saveFilt f) = true ∧
     (cfg.trig a).traceOff = true ∧ ((cfg.trig a).traceOn = true ∨ en = true)) := by
  simp [flushCond, and_assoc]

/-- everything mcount_entry_filter_check leaves behind, from one walk over its `return`s: verdict, filter state and
    `mcount_enabled` (as in `mcount_entry_filter_check_eq`), the logged calls (`mcount_entry_filter_check_calls`) -/
theorem mcount_entry_filter_check_spec (cfg : Cfg) (o : Oracles) (mtdp tr : Ptr) (child : Nat) (s : GSt) (f : Filt)
    (en : Bool) (hr : FiltRel f s) (hc : CfgRel cfg s) (hen : s.mcount_enabled = en)
    (he : EntryEnv cfg o mtdp tr child) (r : GSt × Int) (hres : mcount_entry_filter_check o mtdp child tr s = r) :
    r.2 = frCode (efc cfg f en child).1 ∧ FiltRel (efc cfg f en child).2.1 r.1 ∧
    r.1.mcount_enabled = (efc cfg f en child).2.2 ∧
    r.1.calls =
      s.calls ++ [{ fn := "mcount_check_rstack", site := "mcount_entry_filter_check:1", ints := [], ptrs := [mtdp] }] ++
        (if flushCond cfg f en child = true ∧ s.mtdp_idx > 0 then
          [{ fn := "record_trace_data", site := "mcount_entry_filter_check:3", ints := [],
             ptrs := [mtdp, Ptr.idx s.mtdp_rstack (s.mtdp_idx - 1), Ptr.null] }] else []) ∧
    r.1.aborted = s.aborted := by
  obtain ⟨h1, h2, h3, h4, h5, h6, -, -, -, -⟩ := hr
  obtain ⟨c1, c2, c3, -⟩ := hc
  obtain ⟨e1, e2⟩ := he
  generalize hw : (o.uftrace_match_filter "mcount_entry_filter_check:2" child (Ptr.fld s.mcount_triggers "root") tr
    { tr_depth := s.tr_depth, tr_flags := s.tr_flags, tr_fmode := s.tr_fmode, tr_lmode := s.tr_lmode,
      tr_size := s.tr_size, tr_time := s.tr_time }).2 = w
  have tw : TrEnc (cfg.trig child) w := hw ▸ e2 _ _
  unfold mcount_entry_filter_check mcount_save_filter mcount_get_filter_mode mcount_get_loc_mode at hres
  -- `↓and_mask_ne`: FLAGS_TO_CHECK contains each of the five flags tested under it
  simp only [Id.run, pure, e1, hw, ↓and_mask_ne _ 525361 1 rfl, ↓and_mask_ne _ 525361 16 rfl,
    ↓and_mask_ne _ 525361 32 rfl, ↓and_mask_ne _ 525361 1024 rfl, ↓and_mask_ne _ 525361 524288 rfl, tw.filter, tw.loc,
    tw.depthF, tw.traceOn, tw.traceOff, tw.timeF, tw.sizeF, Bool.false_eq_true, ↓reduceIte] at hres
  -- the state as `FiltRel` / `CfgRel` give it; the depth=, time= and size= values as the model reads them
  simp only [h1, h2, h3, h4, h5, h6, c1, c2, c3, hen, mode_eq_nat, ite_then_congr tw.depthV,
    ite_then_congr fun h => congrArg Int.toNat (tw.depthV h), Int.toNat_natCast, ite_then_congr tw.timeV,
    ite_then_congr tw.sizeV] at hres
  repeat' ((replace hres := ite_eq_elim hres; rcases hres with ⟨hc, hres⟩ | ⟨hc, hres⟩) <;>
    (try simp only [tw.fmodeIn hc, tw.fmodeOut hc] at hres) <;> (try simp only [tw.lmode hc] at hres))
  all_goals subst hres
  -- the tests passed and failed on the way to a `return` pick the branch of `efc` (and decide `flushCond`); what is
  -- left is that the assignments made on the way are the fields of `saveFilt`, `matchFilt`, `trigFilt`
  all_goals (
    clear e2 tw hw
    simp only [efc, flushCond_eq, outTest_eq, earlyOut_iff, depthTest_eq, *, true_and, and_true, not_true_eq_false,
      not_false_eq_true, false_and, and_false, or_false, or_true, true_or, Bool.false_eq_true, ↓reduceIte]
    simp [saveFilt, matchFilt_eq, trigFilt_eq, trigEnabled, frCode, filtRel_iff, apply_ite (Nat.cast (R := Int)),
      and_assoc, *] <;> grind)

/-- **mcount_entry_filter_check.**  For every option set, trigger table, filter state and function address: on a
    state whose `mtdp->filter` holds the model's `Filt` the generated function returns the code of the model's
    verdict and leaves the model's new `Filt` and `mcount_enabled`.  (Caveat of the translation, listed in the
    head of the generated file: `tr->depth` is stored into the `unsigned short` `max_depth` without the
    truncation C performs for values above 65535; the model has no such truncation either.) -/
theorem mcount_entry_filter_check_eq (cfg : Cfg) (o : Oracles) (mtdp tr : Ptr) (child : Nat) (s : GSt) (f : Filt)
    (en : Bool) (hr : FiltRel f s) (hc : CfgRel cfg s) (hen : s.mcount_enabled = en)
    (he : EntryEnv cfg o mtdp tr child) :
    (mcount_entry_filter_check o mtdp child tr s).2 = frCode (efc cfg f en child).1 ∧
    FiltRel (efc cfg f en child).2.1 (mcount_entry_filter_check o mtdp child tr s).1 ∧
    (mcount_entry_filter_check o mtdp child tr s).1.mcount_enabled = (efc cfg f en child).2.2 :=
  have h := mcount_entry_filter_check_spec cfg o mtdp tr child s f en hr hc hen he _ rfl
  ⟨h.1, h.2.1, h.2.2.1⟩

/-- **the opaque calls of mcount_entry_filter_check**: mcount_check_rstack once; then record_trace_data on the
    callers' top frame `&mtdp->rstack[mtdp->idx - 1]` exactly when the model flushes (`flushCond`) and there is a
    caller (`mtdp->idx > 0`); nothing else that is logged. -/
theorem mcount_entry_filter_check_calls (cfg : Cfg) (o : Oracles) (mtdp tr : Ptr) (child : Nat) (s : GSt)
    (f : Filt) (en : Bool) (hr : FiltRel f s) (hc : CfgRel cfg s) (hen : s.mcount_enabled = en)
    (he : EntryEnv cfg o mtdp tr child) :
    (mcount_entry_filter_check o mtdp child tr s).1.calls =
      s.calls ++ [{ fn := "mcount_check_rstack", site := "mcount_entry_filter_check:1", ints := [], ptrs := [mtdp] }] ++
        (if flushCond cfg f en child = true ∧ s.mtdp_idx > 0 then
          [{ fn := "record_trace_data", site := "mcount_entry_filter_check:3", ints := [],
             ptrs := [mtdp, Ptr.idx s.mtdp_rstack (s.mtdp_idx - 1), Ptr.null] }] else []) ∧
    (mcount_entry_filter_check o mtdp child tr s).1.aborted = s.aborted :=
  (mcount_entry_filter_check_spec cfg o mtdp tr child s f en hr hc hen he _ rfl).2.2.2

/-- the model's filter state after the exit hook (`c05_gen_exit_filter_model`), which the part of
    mcount_exit_filter_record up to filter_restore_from_rstack leaves (`c05_gen_exit_filter_restore_eq`): counters of
    the frame's own filter hit undone, the values saved in the frame restored -/
def exitFilt (fr : Frame) (f : Filt) : Filt :=
  { f with inCount := if fr.filtered then f.inCount - 1 else f.inCount
           outCount := if !fr.filtered && fr.notrace then f.outCount - 1 else f.outCount
           depth := fr.sDepth, maxDepth := fr.sMaxDepth, time := fr.sTime, size := fr.sSize }

/-! ### the hypotheses can be met: for every trigger table there are opaque callees as assumed -/

/-- an encoding of a `Trigger` value in `*tr` -/
def encW (t : Trigger) : W_uftrace_match_filter :=
  { tr_flags := (if t.filter.isSome then 2 else 0) ||| (if t.loc.isSome then 262144 else 0) |||
                (if t.depth.isSome then 1 else 0) ||| (if t.traceOn then 16 else 0) |||
                (if t.traceOff then 32 else 0) ||| (if t.time.isSome then 1024 else 0) |||
                (if t.size.isSome then 524288 else 0)
    tr_fmode := match t.filter with | some true => 1 | some false => 2 | none => 0
    tr_lmode := match t.loc with | some true => 1 | some false => 2 | none => 0
    tr_depth := (optVal t.depth : Nat)
    tr_time := optVal t.time
    tr_size := optVal t.size }

theorem trEnc_encW (t : Trigger) : TrEnc t (encW t) := by
  -- a flag test distributes over the `|||` of `encW` and lands on the numerals
  constructor <;> simp only [encW, or_and_ne, ite_and_ne]
  case fmodeIn | fmodeOut => rcases t.filter with _ | _ | _ <;> simp
  case lmode => rcases t.loc with _ | _ | _ <;> simp
  all_goals simp

/-- opaque callees that behave as `EntryEnv` assumes, for the trigger table of `cfg` -/
def demoOracles (cfg : Cfg) : Oracles :=
  { mcount_check_rstack := fun _ _ w => (false, w)
    record_trace_data := fun _ _ _ _ => 0
    mcount_rstack_rehook := fun _ _ => ()
    uftrace_match_filter := fun _ a _ _ _ => (Ptr.null, encW (cfg.trig a)) }

theorem entryEnv_demo (cfg : Cfg) (mtdp tr : Ptr) (child : Nat) : EntryEnv cfg (demoOracles cfg) mtdp tr child :=
  ⟨rfl, fun _ _ => trEnc_encW _⟩

end Uft.McountGenEq

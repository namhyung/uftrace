/-
Shared proof tools for the equivalence theorems between the definitions generated by
translators/c2lean.py (Uft/Gen/*C.lean) and the hand-written models (Uft/Model/*.lean).

A generated definition is an `Id.run do` block; after `unfold` + `simp only [Id.run, pure, …]` it is a
tree of `if`s whose leaves are the `return`s of the C function (return-free `if` statements are
translated by predication and do not fork).  `ite_eq_elim` walks that tree one fork at a time: from
`h : (if c then a else b) = r` it gives the two cases `c ∧ a = r` and `¬c ∧ b = r`, so that the work per
leaf is proportional to the length of the path and not to the size of the tree.
-/
namespace Uft.GenEq

theorem ite_eq_elim {α : Sort _} {c : Prop} [Decidable c] {a b r : α} (h : (if c then a else b) = r) :
    (c ∧ a = r) ∨ (¬c ∧ b = r) := by
  by_cases hc : c
  · exact Or.inl ⟨hc, by simpa [hc] using h⟩
  · exact Or.inr ⟨hc, by simpa [hc] using h⟩

/-- `walk_ite h`: split the hypothesis `h : <tree of ifs> = r` into one goal per leaf; the conditions
    along the path are added to the context (inaccessible names), `h` becomes `<leaf> = r`.  For a walk that needs
    nothing but the path conditions.  `fstack_entry_eq` and `mcount_entry_filter_check_spec` write the same loop out,
    because at each fork they also specialise the facts of the encoding that hold under its condition
    (`TrEnc.fmode` …). -/
macro "walk_ite " h:ident : tactic =>
  `(tactic| repeat' (first
      | (rcases ite_eq_elim $h:ident with hh | hh <;> (have hc := hh.1; replace $h:ident := hh.2; clear hh))))

/-- a fact about the `then` value that holds under the condition rewrites the `if`: this is how the conditional
    fields of an encoding relation (`TrEnc.depthV` …) reach the predicated assignments of the generated code -/
theorem ite_then_congr {α : Sort _} {c : Prop} [Decidable c] {a a' : α} (h : c → a = a') (b : α) :
    (if c then a else b) = if c then a' else b :=
  ite_congr rfl h (fun _ => rfl)

/-- a flag `b` tested under a mask `m` that contains it (`FLAGS_TO_CHECK` and the like): the outer test is redundant -/
theorem and_mask_ne (F m b : Nat) (h : m &&& b = b) : ((F &&& m != 0) && (F &&& b != 0)) = (F &&& b != 0) := by
  have hb : F &&& b = (F &&& m) &&& b := by rw [Nat.and_assoc, h]
  by_cases hm : F &&& m = 0
  · simp [hb, hm]
  · simp [hm]

theorem or_and_ne (a b m : Nat) : ((a ||| b) &&& m != 0) = ((a &&& m != 0) || (b &&& m != 0)) := by
  rw [Nat.and_or_distrib_right, Bool.eq_iff_iff]
  by_cases h : a &&& m = 0 <;> simp [Nat.or_eq_zero_iff, h]

theorem ite_and_ne (c : Bool) (k m : Nat) : ((if c then k else 0) &&& m != 0) = (c && (k &&& m != 0)) := by
  cases c <;> simp

/-- `(c ? 1 : 2) == 1`, the mode as an `int` … -/
theorem mode_eq (b : Bool) : ((if b = true then (1 : Int) else 2) == 1) = b := by cases b <;> rfl

/-- … and as an `enum filter_mode` -/
theorem mode_eq_nat (b : Bool) : ((if b = true then (1 : Nat) else 2) == 1) = b := by cases b <;> rfl

end Uft.GenEq

import Uft.Model.PyTrace
/- The per-event decision of Model/PyTrace.lean: the equations of one step, the entry and exit event of
   one call taken together (`_frame`), the run on a call tree. -/
namespace Uft.PyTrace

variable {α : Type}

/-- the counters of a state reached from program start by a nested stream -/
def WF (c : Cfg α) (s : St) : Prop :=
  0 ≤ s.cin ∧ 0 ≤ s.cout ∧ 0 ≤ s.lib ∧ (c.gmode = .none → s.cout = 0)

/-- the environment the documented selection sees in state `s` -/
def envA (s : St) : Bool := decide (0 < s.cin)
def envB (s : St) : Bool := decide (0 < s.cout)
def envL (s : St) : Nat := s.lib.toNat

theorem wf_init (c : Cfg α) : WF c St.init := by simp [WF, St.init]

theorem run_append (c : Cfg α) (a b : List (Ev α)) (s : St) :
    run c s (a ++ b) = ((run c (run c s a).1 b).1, (run c s a).2 ++ (run c (run c s a).1 b).2) := by
  induction a generalizing s with
  | nil => simp [run]
  | cons e a ih => simp [run, ih]

theorem firstMatch_fin_any (fs : List (Filter α)) (n : α) (h : firstMatch fs n = some .fin) :
    fs.any (fun f => f.mode == .fin) = true := by
  induction fs with
  | nil => simp [firstMatch] at h
  | cons f fs ih =>
    simp only [firstMatch] at h
    split at h
    · simp only [Option.some.injEq] at h
      simp [h]
    · simp [ih h]

theorem firstMatch_of_gmode_none (c : Cfg α) (n : α) (h : c.gmode = .none) :
    firstMatch c.flist n = none := by
  unfold Cfg.gmode at h
  unfold Cfg.flist
  cases hf : c.filters with
  | none => rfl
  | some fs =>
    simp only [hf] at h
    split at h <;> cases h

theorem gmode_fout_no_fin (c : Cfg α) (n : α) (h : c.gmode = .fout) :
    firstMatch c.flist n ≠ some .fin := by
  intro hm
  unfold Cfg.flist at hm
  unfold Cfg.gmode at h
  cases hf : c.filters with
  | none => simp [hf] at h
  | some fs =>
    simp only [hf] at h hm
    simp [firstMatch_fin_any fs n hm] at h

theorem walk_append (a b : List (Out α)) (d : Nat) :
    walk d (a ++ b) = (walk d a).bind (fun d' => walk d' b) := by
  induction a generalizing d with
  | nil => simp [walk]
  | cons o a ih =>
    cases o with
    | enter n => simpa [walk] using ih (d + 1)
    | exit =>
      cases d with
      | zero => simp [walk]
      | succ d => simpa [walk] using ih d

theorem walk_counts (l : List (Out α)) (d d' : Nat) (h : walk d l = some d') :
    d + enters l = d' + exits l := by
  induction l generalizing d with
  | nil =>
    simp [walk] at h
    simp [enters, exits, h]
  | cons o l ih =>
    cases o with
    | enter n =>
      have := ih (d + 1) (by simpa [walk] using h)
      simp only [enters, exits]
      omega
    | exit =>
      cases d with
      | zero => simp [walk] at h
      | succ d =>
        have := ih d (by simpa [walk] using h)
        simp only [enters, exits]
        omega

theorem walk_left (a b : List (Out α)) (d d' : Nat) (h : walk d (a ++ b) = some d') :
    exits a ≤ d + enters a := by
  rw [walk_append] at h
  cases ha : walk d a with
  | none => simp [ha] at h
  | some da =>
    have := walk_counts a d da ha
    omega

/- the documented selection is balanced by construction -/
mutual
theorem walk_specCall (c : Cfg α) : ∀ (t : Call α) (a b : Bool) (ld d : Nat),
    walk d (specCall c a b ld t) = some d
  | .node n k kids, a, b, ld, d => by
    simp only [specCall]
    split
    · simp only [List.cons_append, List.nil_append, walk]
      rw [walk_append, walk_specCalls c kids]
      simp [walk]
    · simp only [List.nil_append, List.append_nil]
      exact walk_specCalls c kids _ _ _ _
theorem walk_specCalls (c : Cfg α) : ∀ (ts : Calls α) (a b : Bool) (ld d : Nat),
    walk d (specCalls c a b ld ts) = some d
  | .nil, a, b, ld, d => by simp [specCalls, walk]
  | .cons x r, a, b, ld, d => by
    simp only [specCalls]
    rw [walk_append, walk_specCall c x]
    simpa using walk_specCalls c r a b ld d
end

theorem symsOf_prefix [BEq α] (evs : List (Ev α)) (syms : List α) : ∃ t, symsOf syms evs = syms ++ t := by
  induction evs generalizing syms with
  | nil => exact ⟨[], by simp [symsOf]⟩
  | cons e es ih =>
    obtain ⟨t, ht⟩ := ih (intern syms e.name)
    simp only [symsOf]
    rw [ht]
    simp only [intern]
    split
    · exact ⟨t, rfl⟩
    · exact ⟨e.name :: t, by simp⟩

@[simp] theorem entry_isEntry (k : CKind) : k.entry.isEntry = true := by cases k <;> rfl
@[simp] theorem exit_isEntry (k : CKind) : k.exit.isEntry = false := by cases k <;> rfl
@[simp] theorem entry_ne_other (k : CKind) : (k.entry != EvKind.other) = true := by cases k <;> rfl
@[simp] theorem exit_ne_other (k : CKind) : (k.exit != EvKind.other) = true := by cases k <;> rfl

/-- `filter_state.mode == NONE` only short-cuts: without filters the counters do not move anyway -/
theorem stepSt_eq (c : Cfg α) (s : St) (kd : EvKind) (n : α) :
    stepSt c s ⟨kd, n⟩ =
      ⟨cinAfter (firstMatch c.flist n) s.cin kd.isEntry, coutAfter (firstMatch c.flist n) s.cout kd.isEntry,
        if reaches c s ⟨kd, n⟩ then libAfter c s.lib kd.isEntry n else s.lib⟩ := by
  simp only [stepSt]
  by_cases hg : c.gmode = .none
  · simp [hg, firstMatch_of_gmode_none c n hg, cinAfter, coutAfter]
  · simp [hg]

/-- a lone exit event at program level (all counters 0, a function no filter names): the
    counters stay 0 (the clamp of `libcall_count`) -/
theorem stepSt_stray (c : Cfg α) (n : α) (k : CKind) (hm : firstMatch c.flist n = none) :
    stepSt c St.init ⟨k.exit, n⟩ = St.init := by
  simp [stepSt_eq, hm, cinAfter, coutAfter, libAfter, St.init]

theorem cinAfter_entry (m : Option FMode) (ci : Int) (h : 0 ≤ ci) :
    0 ≤ cinAfter m ci true ∧ (0 < cinAfter m ci true ↔ 0 < ci ∨ m = some .fin) ∧
    cinAfter m (cinAfter m ci true) false = ci := by
  unfold cinAfter
  by_cases hm : m = some .fin <;> simp [hm] <;> omega

theorem coutAfter_entry (m : Option FMode) (co : Int) (h : 0 ≤ co) :
    0 ≤ coutAfter m co true ∧ (0 < coutAfter m co true ↔ 0 < co ∨ m = some .fout) ∧
    coutAfter m (coutAfter m co true) false = co := by
  unfold coutAfter
  by_cases hm : m = some .fout <;> simp [hm] <;> omega

/-- `sel` of `specCall` for a call of `n` made in state `s` -/
abbrev selAt (c : Cfg α) (s : St) (n : α) : Bool :=
  selected c (envA s || firstMatch c.flist n == some .fin) (envB s || firstMatch c.flist n == some .fout)

/-- the entry event is judged by the counters after its increment, the exit event (repaired code) by those
    after its decrement, the caller's, plus its own match: both times the test is `selAt` -/
theorem reaches_frame (c : Cfg α) (hf : c.fixed = true) (s : St) (hw : WF c s) (n : α) (k : CKind) :
    reaches c s ⟨k.entry, n⟩ = selAt c s n ∧ reaches c (stepSt c s ⟨k.entry, n⟩) ⟨k.exit, n⟩ = selAt c s n := by
  obtain ⟨h1, h2, _, hn⟩ := hw
  obtain ⟨_, c2, c3⟩ := cinAfter_entry (firstMatch c.flist n) s.cin h1
  obtain ⟨_, o2, o3⟩ := coutAfter_entry (firstMatch c.flist n) s.cout h2
  simp only [reaches, stepSt_eq, selAt, envA, envB, entry_isEntry, exit_isEntry, entry_ne_other, exit_ne_other,
    Bool.and_true, c3, o3, hf]
  cases hg : c.gmode with
  | none => simp [selected, hg, firstMatch_of_gmode_none c n hg, hn hg]
  | fin => simp [skipDecision, selected, hg, c2, o2, bne, Bool.beq_eq_decide_eq, Bool.and_assoc]
  | fout => simp [skipDecision, selected, hg, o2, bne, Bool.beq_eq_decide_eq]

theorem lib_frame (c : Cfg α) (n : α) (lib : Int) (h : 0 ≤ lib) :
    0 ≤ libAfter c lib true n ∧
    (libAfter c lib true n).toNat = ldNext c true n lib.toNat ∧
    libAfter c (libAfter c lib true n) false n = lib ∧
    canTrace c lib true n = traced c true n lib.toNat ∧
    canTrace c (libAfter c lib true n) false n = traced c true n lib.toNat := by
  simp only [libAfter, canTrace, ldNext, traced, Bool.true_and]
  cases hi : c.isLib n
  · simp [h]
  · cases hl : c.lmode <;> simp [beq_false_of_ne, h]
    -- a library function in the default mode: the only case that counts
    refine ⟨by omega, by omega, by omega, ?_⟩
    rw [Bool.eq_iff_iff]
    simp

/-- one call `n` seen from its caller's state `s`: the callees run in a state `s'` that carries the
    environment of `specCall`; both events are recorded exactly when the call is `traced` -/
theorem node_step (c : Cfg α) (hf : c.fixed = true) (s : St) (hw : WF c s) (n : α) (k : CKind) :
    ∃ s', stepSt c s ⟨k.entry, n⟩ = s' ∧ stepSt c s' ⟨k.exit, n⟩ = s ∧ WF c s' ∧
      envA s' = (envA s || (firstMatch c.flist n == some .fin)) ∧
      envB s' = (envB s || (firstMatch c.flist n == some .fout)) ∧
      envL s' = ldNext c (selAt c s n) n (envL s) ∧
      stepOut c s ⟨k.entry, n⟩ = (if traced c (selAt c s n) n (envL s) then [.enter n] else []) ∧
      stepOut c s' ⟨k.exit, n⟩ = (if traced c (selAt c s n) n (envL s) then [.exit] else []) := by
  obtain ⟨hr1, hr2⟩ := reaches_frame c hf s hw n k
  obtain ⟨h1, h2, h3, hn⟩ := hw
  obtain ⟨c1, c2, c3⟩ := cinAfter_entry (firstMatch c.flist n) s.cin h1
  obtain ⟨o1, o2, o3⟩ := coutAfter_entry (firstMatch c.flist n) s.cout h2
  obtain ⟨l1, l2, l3, l4, l5⟩ := lib_frame c n s.lib h3
  have e1 := stepSt_eq c s k.entry n
  simp only [entry_isEntry, hr1] at e1
  rw [e1] at hr2
  generalize selAt c s n = sel at hr1 hr2 e1 ⊢
  refine ⟨_, e1, ?_, ⟨c1, o1, ?_, ?_⟩, ?_, ?_, ?_, ?_, ?_⟩
  · simp only [stepSt_eq, hr2, exit_isEntry, c3, o3]
    cases sel
    · rfl
    · simp only [l3, ↓reduceIte]
  · cases sel
    · exact h3
    · exact l1
  · intro hg
    simp only [firstMatch_of_gmode_none c n hg]
    exact hn hg
  · simp [envA, c2, Bool.beq_eq_decide_eq]
  · simp [envB, o2, Bool.beq_eq_decide_eq]
  · simp only [envL]
    cases sel
    · simp [ldNext]
    · exact l2
  · simp only [stepOut, hr1, entry_isEntry, l4, envL]
    cases sel <;> simp [traced]
  · simp only [stepOut, hr2, exit_isEntry, envL]
    cases sel
    · simp [traced]
    · simp [l5, traced]

/-- `fixed` is read in one place: opt-in mode, at a name the first matching entry opts out -/
theorem skipDecision_fixed (b : Bool) (g : GMode) (m : Option FMode) (ci co : Int) (ent : Bool)
    (h : g ≠ .fin ∨ m ≠ some .fout) :
    skipDecision b g m ci co ent = skipDecision true g m ci co ent := by
  rcases h with h | h
  · cases g with
    | fin => exact absurd rfl h
    | _ => rfl
  · simp [skipDecision, h]

/- the state machine on a call tree: state restored, output = documented selection -/
mutual
theorem run_call (c : Cfg α) (hf : c.fixed = true) : ∀ (t : Call α) (s : St), WF c s →
    run c s (events t) = (s, specCall c (envA s) (envB s) (envL s) t)
  | .node n k kids, s, hw => by
    obtain ⟨s', hs1, hs2, w1, ha, hb, hl, ho1, ho2⟩ := node_step c hf s hw n k
    simp only [events, run, specCall, hs1]
    rw [run_append, run_calls c hf kids s' w1]
    simp only [run, List.append_nil, hs2, ho1, ho2, ha, hb, hl]
theorem run_calls (c : Cfg α) (hf : c.fixed = true) : ∀ (ts : Calls α) (s : St), WF c s →
    run c s (eventsL ts) = (s, specCalls c (envA s) (envB s) (envL s) ts)
  | .nil, s, _ => by simp [eventsL, run, specCalls]
  | .cons x r, s, hw => by
    simp only [eventsL, specCalls]
    rw [run_append, run_call c hf x s hw]
    simp only
    rw [run_calls c hf r s hw]
end

end Uft.PyTrace

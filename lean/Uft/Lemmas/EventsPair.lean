import Uft.Lemmas.Events
/- C17: the read events of the entry hook and the diff events of the exit hook, exactly
   (existence, uniqueness, pairing) — repaired save_trigger_read (finding F17e, `fixPair`) -/
namespace Uft.Events
open Uft.Mcount

/-- the READ event the entry hook makes from the reading `v` of a source -/
def readEvOf (now midx : Nat) (src : ReadSrc) (v : List Nat) : Ev :=
  { id := src.idRead, time := now, idx := midx, dsize := src.dsize, data := v.map (· % u64) }

/-- the DIFF event the exit hook makes from the reading `vX` and the READ event `old` -/
def diffEvOf (now midx : Nat) (src : ReadSrc) (vX : List Nat) (old : Ev) : Ev :=
  { id := src.idDiff, time := now, idx := midx, dsize := src.dsize, data := zipSub vX old.data }

/-- the read events of an entry hook with room, oldest first: one per selected source whose reading
    succeeds, in table order -/
def specReads (now midx : Nat) (o : Obs) (mask : Nat) : List ReadSrc → List Ev
  | [] => []
  | s :: r =>
    (if mask &&& s.bit == 0 then [] else
      match o.reads s.bit with
      | none => []
      | some v => [readEvOf now midx s v]) ++ specReads now midx o mask r

/-- the diff events of the exit hook, oldest first: one per selected source that has a read event in
    `base` (the frame's events after the entry hook) and whose reading succeeds again -/
def specDiffs (now midx : Nat) (o : Obs) (mask : Nat) (base : List Ev) : List ReadSrc → List Ev
  | [] => []
  | s :: r =>
    (if mask &&& s.bit == 0 then [] else
      match base.find? (fun x => x.id == s.idRead) with
      | none => []
      | some old =>
        match o.reads s.bit with
        | none => []
        | some v => [diffEvOf now midx s v old]) ++ specDiffs now midx o mask base r

/-- the event a selected source contributes to `specReads` -/
def readOf (now midx : Nat) (o : Obs) (mask : Nat) (s : ReadSrc) : Option Ev :=
  if mask &&& s.bit == 0 then none else (o.reads s.bit).map (readEvOf now midx s)

/-- … and to `specDiffs` -/
def diffOf (now midx : Nat) (o : Obs) (mask : Nat) (base : List Ev) (s : ReadSrc) : Option Ev :=
  if mask &&& s.bit == 0 then none else
    (base.find? (fun x => x.id == s.idRead)).bind fun old => (o.reads s.bit).map fun v => diffEvOf now midx s v old

theorem specReads_eq (now midx : Nat) (o : Obs) (mask : Nat) (srcs : List ReadSrc) :
    specReads now midx o mask srcs = srcs.filterMap (readOf now midx o mask) := by
  induction srcs with
  | nil => rfl
  | cons s r ih =>
    rw [specReads, ih, List.filterMap_cons]
    unfold readOf
    split
    · rfl
    · cases o.reads s.bit <;> rfl

theorem specDiffs_eq (now midx : Nat) (o : Obs) (mask : Nat) (base : List Ev) (srcs : List ReadSrc) :
    specDiffs now midx o mask base srcs = srcs.filterMap (diffOf now midx o mask base) := by
  induction srcs with
  | nil => rfl
  | cons s r ih =>
    rw [specDiffs, ih, List.filterMap_cons]
    unfold diffOf
    split
    · rfl
    · cases base.find? (fun x => x.id == s.idRead) with
      | none => rfl
      | some old => cases o.reads s.bit <;> rfl

theorem readOf_eq_some (now midx : Nat) (o : Obs) (mask : Nat) (s : ReadSrc) (e : Ev) :
    readOf now midx o mask s = some e ↔
      (mask &&& s.bit == 0) = false ∧ ∃ v, o.reads s.bit = some v ∧ e = readEvOf now midx s v := by
  unfold readOf
  split
  · rename_i h
    simp [h]
  · rename_i h
    have h' : (mask &&& s.bit == 0) = false := by simpa using h
    simp only [h', true_and, Option.map_eq_some_iff, eq_comm (a := e)]

theorem diffOf_eq_some (now midx : Nat) (o : Obs) (mask : Nat) (base : List Ev) (s : ReadSrc) (e : Ev) :
    diffOf now midx o mask base s = some e ↔
      (mask &&& s.bit == 0) = false ∧ ∃ old, base.find? (fun x => x.id == s.idRead) = some old ∧
        ∃ v, o.reads s.bit = some v ∧ e = diffEvOf now midx s v old := by
  unfold diffOf
  split
  · rename_i h
    simp [h]
  · rename_i h
    have h' : (mask &&& s.bit == 0) = false := by simpa using h
    simp only [h', true_and, Option.bind_eq_some_iff, Option.map_eq_some_iff, eq_comm (a := e)]

theorem readNeed_cons (mask : Nat) (s : ReadSrc) (r : List ReadSrc) :
    readNeed mask (s :: r) = (if mask &&& s.bit == 0 then 0 else s.evsize) + readNeed mask r := rfl

/-! ### the entry hook's loop, exactly -/

theorem saveReadOne_entry (pair : Bool) (off now midx : Nat) (o : Obs) (mask : Nat) (f : EFrame) (s : ReadSrc)
    (hroom : off + (if mask &&& s.bit == 0 then 0 else s.evsize) ≤ f.eventIdx) :
    (saveReadOne pair off now midx false o mask f s).evs = (readOf now midx o mask s).toList ++ f.evs ∧
    f.eventIdx ≤ (saveReadOne pair off now midx false o mask f s).eventIdx + (if mask &&& s.bit == 0 then 0 else s.evsize) ∧
    (saveReadOne pair off now midx false o mask f s).eventIdx ≤ f.eventIdx := by
  unfold saveReadOne readOf
  by_cases h1 : (mask &&& s.bit == 0) = true
  · simp [h1]
  · have h1' : (mask &&& s.bit == 0) = false := by simpa using h1
    rw [h1'] at hroom
    have h2 : ¬ f.eventIdx < s.evsize + off := by
      simp only [Bool.false_eq_true, ↓reduceIte] at hroom
      omega
    cases h3 : o.reads s.bit with
    | none => simp [h1', h2]
    | some v =>
      simp only [h1', h2, Bool.false_eq_true, ↓reduceIte, Bool.and_false, Bool.false_and, mkReadEv, readEvOf,
        Option.map_some, Option.toList_some, List.singleton_append, true_and]
      omega

/-- with room for the events of all selected sources the loop stores exactly `specReads` -/
theorem saveReadL_entry_exact (pair : Bool) (off now midx : Nat) (o : Obs) (mask : Nat) (srcs : List ReadSrc) :
    ∀ f : EFrame, off + readNeed mask srcs ≤ f.eventIdx →
      (saveReadL pair off now midx false o mask srcs f).evs = (specReads now midx o mask srcs).reverse ++ f.evs ∧
      f.eventIdx ≤ (saveReadL pair off now midx false o mask srcs f).eventIdx + readNeed mask srcs ∧
      (saveReadL pair off now midx false o mask srcs f).eventIdx ≤ f.eventIdx := by
  induction srcs with
  | nil => intro f _; simp [saveReadL, specReads, readNeed]
  | cons s r ih =>
    intro f hroom
    rw [readNeed_cons] at hroom ⊢
    obtain ⟨a1, a2, a3⟩ := saveReadOne_entry pair off now midx o mask f s (by omega)
    obtain ⟨b1, b2, b3⟩ := ih (saveReadOne pair off now midx false o mask f s) (by omega)
    refine ⟨?_, by rw [saveReadL]; omega, by rw [saveReadL]; omega⟩
    rw [saveReadL, b1, a1, specReads_eq, specReads_eq, List.filterMap_cons]
    cases readOf now midx o mask s <;> simp

/-! ### the exit hook's loop (repaired), exactly -/

theorem find_append_pre (pre base : List Ev) (id : Nat) (h : ∀ e ∈ pre, e.id ≠ id) :
    (pre ++ base).find? (fun x => x.id == id) = base.find? (fun x => x.id == id) := by
  rw [List.find?_append, find_pre_none pre id h]
  simp

/-- a source without a read event in `base` is skipped whatever the room -/
theorem saveReadOne_exit (off now midx : Nat) (o : Obs) (mask : Nat) (base : List Ev) (f : EFrame) (s : ReadSrc)
    (hfind : f.evs.find? (fun x => x.id == s.idRead) = base.find? (fun x => x.id == s.idRead))
    (hroom : base ≠ [] → off + (if mask &&& s.bit == 0 then 0 else s.evsize) ≤ f.eventIdx) :
    (saveReadOne true off now midx true o mask f s).evs = (diffOf now midx o mask base s).toList ++ f.evs ∧
    f.eventIdx ≤ (saveReadOne true off now midx true o mask f s).eventIdx + (if mask &&& s.bit == 0 then 0 else s.evsize) ∧
    (saveReadOne true off now midx true o mask f s).eventIdx ≤ f.eventIdx := by
  unfold saveReadOne diffOf hasRead
  rw [hfind]
  by_cases h1 : (mask &&& s.bit == 0) = true
  · simp [h1]
  · have h1' : (mask &&& s.bit == 0) = false := by simpa using h1
    cases hb : base.find? (fun x => x.id == s.idRead) with
    | none => simp [h1']
    | some old =>
      have h2 : ¬ f.eventIdx < s.evsize + off := by
        have := hroom (fun h0 => by rw [h0] at hb; cases hb)
        simp only [h1', Bool.false_eq_true, ↓reduceIte] at this
        omega
      cases h3 : o.reads s.bit with
      | none => simp [h1', h2]
      | some v =>
        simp only [h1', h2, Bool.false_eq_true, ↓reduceIte, Option.isSome_some, Bool.not_true, Bool.and_false,
          mkReadEv, hfind, hb, diffEvOf, Option.bind_some, Option.map_some, Option.toList_some, List.singleton_append, true_and]
        omega

/-- the repaired loop of the exit hook stores exactly `specDiffs`; only the sources with a read event in `base`
    need room -/
theorem saveReadL_exit_exact (off now midx : Nat) (o : Obs) (mask : Nat) (base : List Ev) (srcs : List ReadSrc) :
    (srcs.map (·.idRead)).Nodup → (∀ s ∈ srcs, ∀ s' ∈ srcs, s.idDiff ≠ s'.idRead) →
    ∀ (f : EFrame) (pre : List Ev), f.evs = pre ++ base → (∀ e ∈ pre, ∀ s ∈ srcs, e.id ≠ s.idRead) →
      (base ≠ [] → off + readNeed mask srcs ≤ f.eventIdx) →
      (saveReadL true off now midx true o mask srcs f).evs = (specDiffs now midx o mask base srcs).reverse ++ f.evs := by
  induction srcs with
  | nil => intro _ _ f pre _ _ _; simp [saveReadL, specDiffs]
  | cons s r ih =>
    intro hnd hdr f pre hf hpre hroom
    rw [readNeed_cons] at hroom
    obtain ⟨a1, a2, a3⟩ := saveReadOne_exit off now midx o mask base f s
      (by rw [hf]; exact find_append_pre pre base s.idRead (fun e he => hpre e he s List.mem_cons_self))
      (fun hb => by have := hroom hb; omega)
    rw [saveReadL, ih (List.nodup_cons.mp hnd).2 (fun a ha b hb => hdr a (List.mem_cons_of_mem s ha) b (List.mem_cons_of_mem s hb))
      (saveReadOne true off now midx true o mask f s) ((diffOf now midx o mask base s).toList ++ pre)
      (by rw [a1, hf, List.append_assoc]) ?_ (fun hb => by have := hroom hb; omega),
      a1, specDiffs_eq, specDiffs_eq, List.filterMap_cons]
    · cases diffOf now midx o mask base s <;> simp
    · -- a new event is a diff event: its id is no source's read id
      intro e he s' hs'
      rcases List.mem_append.mp he with he | he
      · obtain ⟨_, old, _, v, _, rfl⟩ := (diffOf_eq_some _ _ _ _ _ _ _).mp (Option.mem_toList.mp he)
        exact hdr s List.mem_cons_self s' (List.mem_cons_of_mem s hs')
      · exact hpre e he s' (List.mem_cons_of_mem s hs')

/-! ### membership and order in the specified lists -/

theorem mem_specReads (now midx : Nat) (o : Obs) (mask : Nat) (srcs : List ReadSrc) (e : Ev) :
    e ∈ specReads now midx o mask srcs ↔
      ∃ s ∈ srcs, (mask &&& s.bit == 0) = false ∧ ∃ v, o.reads s.bit = some v ∧ e = readEvOf now midx s v := by
  simp only [specReads_eq, List.mem_filterMap, readOf_eq_some]

theorem mem_specDiffs (now midx : Nat) (o : Obs) (mask : Nat) (base : List Ev) (srcs : List ReadSrc) (e : Ev) :
    e ∈ specDiffs now midx o mask base srcs ↔
      ∃ s ∈ srcs, (mask &&& s.bit == 0) = false ∧ ∃ old, base.find? (fun x => x.id == s.idRead) = some old ∧
        ∃ v, o.reads s.bit = some v ∧ e = diffEvOf now midx s v old := by
  simp only [specDiffs_eq, List.mem_filterMap, diffOf_eq_some]

theorem filterMap_map_sublist {α β γ : Type} (g : α → Option β) (h : β → γ) (k : α → γ)
    (hk : ∀ a b, g a = some b → h b = k a) (l : List α) : ((l.filterMap g).map h).Sublist (l.map k) := by
  induction l with
  | nil => exact List.Sublist.slnil
  | cons a r ih =>
    rw [List.filterMap_cons, List.map_cons]
    cases hg : g a with
    | none => exact List.Sublist.cons _ ih
    | some b =>
      rw [List.map_cons, hk a b hg]
      exact List.Sublist.cons_cons _ ih

theorem specReads_ids_sublist (now midx : Nat) (o : Obs) (mask : Nat) (srcs : List ReadSrc) :
    ((specReads now midx o mask srcs).map (·.id)).Sublist (srcs.map (·.idRead)) := by
  rw [specReads_eq]
  apply filterMap_map_sublist
  intro s e he
  obtain ⟨_, v, _, rfl⟩ := (readOf_eq_some _ _ _ _ _ _).mp he
  rfl

theorem specDiffs_ids_sublist (now midx : Nat) (o : Obs) (mask : Nat) (base : List Ev) (srcs : List ReadSrc) :
    ((specDiffs now midx o mask base srcs).map (·.id)).Sublist (srcs.map (·.idDiff)) := by
  rw [specDiffs_eq]
  apply filterMap_map_sublist
  intro s e he
  obtain ⟨_, old, _, v, _, rfl⟩ := (diffOf_eq_some _ _ _ _ _ _ _).mp he
  rfl

theorem specReads_mask0 (now midx : Nat) (o : Obs) (srcs : List ReadSrc) : specReads now midx o 0 srcs = [] := by
  rw [specReads_eq]
  exact List.filterMap_eq_nil_iff.mpr fun s _ => by simp [readOf]

theorem specDiffs_mask0 (now midx : Nat) (o : Obs) (base : List Ev) (srcs : List ReadSrc) :
    specDiffs now midx o 0 base srcs = [] := by
  rw [specDiffs_eq]
  exact List.filterMap_eq_nil_iff.mpr fun s _ => by simp [diffOf]

theorem specDiffs_base_nil (now midx : Nat) (o : Obs) (mask : Nat) (srcs : List ReadSrc) :
    specDiffs now midx o mask [] srcs = [] := by
  rw [specDiffs_eq]
  exact List.filterMap_eq_nil_iff.mpr fun s _ => by simp [diffOf]

/-! ### the frame after the entry hook and after the exit hook (repaired F17c and F17e) -/

/-- where the argument data of a call of `f` ends in its slice: 4 + size when -A applies -/
def argOff (cfg : ECfg) (k : Kind) (f : Nat) : Nat :=
  match argPayload cfg k f with
  | some n => 4 + n
  | none => 0

/-- the frame's slice has room for the read events and the diff events of all selected sources
    above the argument data (the test of the repaired save_trigger_read at entry) -/
def ReadRoom (cfg : ECfg) (k : Kind) (f : Nat) : Prop :=
  2 * readNeed (cfg.read f) readEvents + argOff cfg k f ≤ ARGBUF_SIZE

instance (cfg : ECfg) (k : Kind) (f : Nat) : Decidable (ReadRoom cfg k f) := by unfold ReadRoom; infer_instance

/-- the frame save_trigger_read sees at entry -/
def argFrame (cfg : ECfg) (k : Kind) (f t0 d : Nat) : EFrame :=
  if (k == .pg) then saveArgument cfg (freshFrame cfg k f t0 d) else freshFrame cfg k f t0 d

theorem argFrame_facts (cfg : ECfg) (hfa : cfg.fixArg = true) (k : Kind) (f t0 d probe : Nat) :
    (argFrame cfg k f t0 d).evs = [] ∧ (argFrame cfg k f t0 d).eventIdx = ARGBUF_SIZE ∧
    (argFrame cfg k f t0 d).b = plainFrame k f t0 d ∧
    argDataOff cfg (argFrame cfg k f t0 d) probe = argOff cfg k f := by
  unfold argFrame argOff argPayload argDataOff
  cases k
  · have haddr : (freshFrame cfg Kind.pg f t0 d).b.addr = f := rfl
    simp only [beq_self_eq_true, ↓reduceIte, hfa, saveArgument, haddr]
    cases hs : cfg.argSize f with
    | none => simp [freshFrame]
    | some n => by_cases h : n ≤ ARG_MAX <;> simp [h, freshFrame]
  · simp [hfa, freshFrame, show (Kind.cyg == Kind.pg) = false from rfl]

theorem entryFrame_eq (cfg : ECfg) (k : Kind) (f t0 d : Nat) (o : Obs) :
    entryFrame cfg k f t0 d o =
      (if cfg.read f != 0 then setReadFl (saveRead cfg (argFrame cfg k f t0 d) (cfg.read f) (d + 1) false o)
       else argFrame cfg k f t0 d) := by
  unfold entryFrame entryArea argFrame
  have : (freshFrame cfg k f t0 d).b.addr = f := rfl
  simp only [this, ↓reduceIte]

/-- the event area after the entry hook: the specified read events if there is room for them and
    their diff events, nothing otherwise -/
theorem entryFrame_exact (cfg : ECfg) (hfa : cfg.fixArg = true) (hfp : cfg.fixPair = true) (k : Kind) (f t0 d : Nat)
    (o : Obs) :
    (entryFrame cfg k f t0 d o).evs =
      (if ReadRoom cfg k f then (specReads t0 (d + 1) o (cfg.read f) readEvents).reverse else []) ∧
    (ReadRoom cfg k f → ARGBUF_SIZE ≤ (entryFrame cfg k f t0 d o).eventIdx + readNeed (cfg.read f) readEvents) ∧
    (entryFrame cfg k f t0 d o).readFl = (cfg.read f != 0) ∧
    (∀ probe, argDataOff cfg (entryFrame cfg k f t0 d o) probe = argOff cfg k f) := by
  obtain ⟨a1, a2, a3, _⟩ := argFrame_facts cfg hfa k f t0 d 0
  have a4 : ∀ probe, argDataOff cfg (argFrame cfg k f t0 d) probe = argOff cfg k f :=
    fun probe => (argFrame_facts cfg hfa k f t0 d probe).2.2.2
  have hfl : (argFrame cfg k f t0 d).readFl = false := by
    unfold argFrame
    split
    · rw [(saveArgument_b cfg _).2.2.2]; rfl
    · rfl
  have hht : hookTime (argFrame cfg k f t0 d).b = t0 := by rw [a3]; simp [hookTime, plainFrame]
  rw [entryFrame_eq]
  generalize argFrame cfg k f t0 d = A at *
  have hoff : ∀ (g : EFrame) probe, g.argFl = A.argFl → g.argSz = A.argSz →
      argDataOff cfg g probe = argOff cfg k f := by
    intro g probe h1 h2
    rw [← a4 probe]
    simp [argDataOff, hfa, h1, h2]
  by_cases hm : (cfg.read f != 0) = true
  · simp only [hm, ↓reduceIte]
    have hsb := saveRead_b cfg A (cfg.read f) (d + 1) false o
    by_cases hr : ReadRoom cfg k f
    · have hnr : ¬ (A.eventIdx < 2 * readNeed (cfg.read f) readEvents + argOff cfg k f) := by
        rw [a2]; unfold ReadRoom at hr; omega
      have hsr : saveRead cfg A (cfg.read f) (d + 1) false o =
          saveReadL true (argOff cfg k f) t0 (d + 1) false o (cfg.read f) readEvents A := by
        simp only [saveRead, hfp, hnr, a4, hht, Bool.not_false, Bool.and_true, Bool.true_and, decide_false,
          Bool.false_eq_true, ↓reduceIte]
      obtain ⟨e1, e2, e3⟩ := saveReadL_entry_exact true (argOff cfg k f) t0 (d + 1) o (cfg.read f) readEvents
        A (by rw [a2]; unfold ReadRoom at hr; omega)
      refine ⟨?_, ?_, rfl, ?_⟩
      · simp only [setReadFl, hsr, e1, a1, hr, ↓reduceIte, List.append_nil]
      · intro _
        simp only [setReadFl, hsr]
        rw [a2] at e2
        exact e2
      · intro probe
        exact hoff _ probe hsb.2.1 hsb.2.2.1
    · have hlt : A.eventIdx < 2 * readNeed (cfg.read f) readEvents + argOff cfg k f := by
        rw [a2]; unfold ReadRoom at hr; omega
      have hsr : saveRead cfg A (cfg.read f) (d + 1) false o = A := by
        simp only [saveRead, hfp, a4, hlt, Bool.not_false, Bool.and_true, decide_true, ↓reduceIte]
      refine ⟨?_, fun h => absurd h hr, rfl, ?_⟩
      · simp only [setReadFl, hsr, a1, hr, ↓reduceIte]
      · intro probe
        exact hoff _ probe (by rw [hsr]; rfl) (by rw [hsr]; rfl)
  · have hm0 : cfg.read f = 0 := by simpa using hm
    simp only [hm, Bool.false_eq_true, ↓reduceIte]
    refine ⟨?_, ?_, ?_, a4⟩
    · rw [a1, hm0, specReads_mask0]; simp
    · intro _; rw [a2]; omega
    · rw [hfl]

/-- the event area after the exit hook: the specified diff events on top of the entry hook's events -/
theorem exitFrame_exact (cfg : ECfg) (hfa : cfg.fixArg = true) (hfp : cfg.fixPair = true) (k : Kind) (f t0 t1 d : Nat)
    (oE oX : Obs) (ht1 : t1 ≠ 0) :
    (exitFrame cfg (entryFrame cfg k f t0 d oE) t1 d oX).evs =
      (specDiffs t1 (d + 1) oX (cfg.read f) (entryFrame cfg k f t0 d oE).evs readEvents).reverse ++
        (entryFrame cfg k f t0 d oE).evs := by
  obtain ⟨e1, e2, e3, e4⟩ := entryFrame_exact cfg hfa hfp k f t0 d oE
  have hb := entryFrame_b cfg k f t0 d oE
  generalize entryFrame cfg k f t0 d oE = F at *
  have haddr : (setEnd F t1).b.addr = f := by simp [hb, plainFrame]
  unfold exitFrame exitArea
  simp only [setEnd_readFl, e3, haddr]
  by_cases hm : (cfg.read f != 0) = true
  · simp only [hm, ↓reduceIte]
    rw [saveRead_exit, hfp]
    have hoff : argDataOff cfg (setEnd F t1) oX.probe = argOff cfg k f := by
      rw [← e4 oX.probe]; simp only [argDataOff, hfa, ↓reduceIte, setEnd_argFl, setEnd_argSz]; rfl
    rw [hoff, hookTime_setEnd _ t1 ht1]
    have := saveReadL_exit_exact (argOff cfg k f) t1 (d + 1) oX (cfg.read f) F.evs readEvents
      readEvents_distinct.1 readEvents_distinct.2 (setEnd F t1) [] (by simp) (by simp)
      (by
        intro hne
        have hr : ReadRoom cfg k f := by
          by_cases hr : ReadRoom cfg k f
          · exact hr
          · rw [e1] at hne; simp [hr] at hne
        have := e2 hr
        unfold ReadRoom at hr
        show argOff cfg k f + readNeed (cfg.read f) readEvents ≤ F.eventIdx
        omega)
    rw [this]; rfl
  · have hm0 : cfg.read f = 0 := by simpa using hm
    simp only [hm, Bool.false_eq_true, ↓reduceIte]
    rw [hm0, specDiffs_mask0]; simp

end Uft.Events

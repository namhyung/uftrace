/- C08 helper lemmas: the merged stream (`read_user_stack`) is an interleaving of the
   per-task streams. -/
import Uft.Lemmas.ReportStats
namespace Uft.Report

theorem foldl_length (ss : List (List Rec)) (a : Nat) :
    ss.foldl (fun n l => n + l.length) a = a + ss.flatten.length := by
  induction ss generalizing a with
  | nil => rfl
  | cons l ss ih =>
    simp only [List.foldl_cons, ih, List.flatten_cons, List.length_append]
    omega

/-- a non-empty stream either becomes the candidate or leaves the candidate as it is -/
theorem pickMin_cons_cons (r : Rec) (rs : List Rec) (ss : List (List Rec)) (i : Nat) (best : Option (Nat × Nat)) :
    ∃ b, pickMin ((r :: rs) :: ss) i best = pickMin ss (i + 1) (some b) ∧ (b.1 = i ∨ best = some b) := by
  cases best with
  | none => exact ⟨_, rfl, Or.inl rfl⟩
  | some b =>
    obtain ⟨bi, bt⟩ := b
    by_cases hlt : r.time < bt
    · exact ⟨(i, r.time), by simp only [pickMin, hlt, if_true], Or.inl rfl⟩
    · exact ⟨(bi, bt), by simp only [pickMin, hlt, if_false], Or.inr rfl⟩

/-- `pickMin` over the streams from index `i` on, when the candidate is the index of a non-empty
    stream: it finds such an index, or there was no candidate and nothing is left -/
theorem pickMin_spec (all : List (List Rec)) : ∀ (ss : List (List Rec)) (i : Nat) (best : Option (Nat × Nat)),
    all.drop i = ss → (∀ b, best = some b → ∃ r rest, all[b.1]? = some (r :: rest)) →
    (∀ j, pickMin ss i best = some j → ∃ r rest, all[j]? = some (r :: rest)) ∧
    (pickMin ss i best = none → best = none ∧ ∀ l ∈ ss, l = [])
  | [], i, best, _, hb => by
    cases best with
    | none => exact ⟨fun j h => (nomatch h), fun _ => ⟨rfl, fun _ hl => (nomatch hl)⟩⟩
    | some b => exact ⟨fun j h => Option.some.inj h ▸ hb b rfl, fun h => (nomatch h)⟩
  | l :: ss, i, best, hd, hb => by
    have hi : all[i]? = some l := by
      rw [← Nat.add_zero i, ← List.getElem?_drop, hd]
      rfl
    have hd' : all.drop (i + 1) = ss := by
      rw [← List.drop_drop, hd]
      rfl
    cases l with
    | nil =>
      obtain ⟨h1, h2⟩ := pickMin_spec all ss (i + 1) best hd' hb
      exact ⟨h1, fun h => ⟨(h2 h).1, fun l hl => (List.mem_cons.mp hl).elim id ((h2 h).2 l)⟩⟩
    | cons r rs =>
      obtain ⟨b, e, hbi⟩ := pickMin_cons_cons r rs ss i best
      rw [e]
      obtain ⟨h1, h2⟩ := pickMin_spec all ss (i + 1) (some b) hd' (fun b' e' => by
        cases e'
        rcases hbi with h | h
        · exact ⟨r, rs, h ▸ hi⟩
        · exact hb b h)
      exact ⟨h1, fun h => (nomatch (h2 h).1)⟩

theorem popAt_some (ss : List (List Rec)) : ∀ (j : Nat) (r : Rec) (rest : List Rec),
    ss[j]? = some (r :: rest) → popAt ss j = (some r, ss.set j rest) := by
  induction ss with
  | nil =>
    intro j r rest h
    simp at h
  | cons l ss ih =>
    intro j r rest h
    cases j with
    | zero =>
      simp at h
      subst h
      simp [popAt]
    | succ j =>
      simp at h
      simp [popAt, ih j r rest h]

theorem length_flatten_set (ss : List (List Rec)) : ∀ (j : Nat) (r : Rec) (rest : List Rec),
    ss[j]? = some (r :: rest) → (ss.set j rest).flatten.length + 1 = ss.flatten.length := by
  induction ss with
  | nil =>
    intro j r rest h
    simp at h
  | cons l ss ih =>
    intro j r rest h
    cases j with
    | zero =>
      simp at h
      subst h
      simp
    | succ j =>
      simp at h
      have := ih j r rest h
      simp only [List.set_cons_succ, List.flatten_cons, List.length_append] at this ⊢
      omega

theorem getD_of_all_nil (ss : List (List Rec)) (h : ∀ l ∈ ss, l = []) (i : Nat) : ss.getD i [] = [] := by
  simp only [List.getD_eq_getElem?_getD]
  cases hg : ss[i]? with
  | none => rfl
  | some l => exact h l (List.mem_of_getElem? hg)

/-- the merged stream restricted to task `i` is task `i`'s stream; only existing tasks occur -/
theorem merge_proj : ∀ (fuel : Nat) (ss : List (List Rec)), ss.flatten.length ≤ fuel →
    (∀ i, proj i (merge fuel ss) = ss.getD i []) ∧ (∀ e ∈ merge fuel ss, e.1 < ss.length) := by
  intro fuel
  induction fuel with
  | zero =>
    intro ss h
    have hz := List.flatten_eq_nil_iff.mp (List.length_eq_zero_iff.mp (Nat.le_zero.mp h))
    exact ⟨fun i => by rw [getD_of_all_nil ss hz i]; simp [merge, proj], by simp [merge]⟩
  | succ fuel ih =>
    intro ss h
    obtain ⟨hsome, hnone⟩ := pickMin_spec ss ss 0 none rfl (fun _ h => (nomatch h))
    cases hp : pickMin ss 0 none with
    | none =>
      have hz := (hnone hp).2
      exact ⟨fun i => by rw [getD_of_all_nil ss hz i]; simp [merge, hp, proj], by simp [merge, hp]⟩
    | some j =>
      obtain ⟨r, rest, hj⟩ := hsome j hp
      have hpop := popAt_some ss j r rest hj
      have htot := length_flatten_set ss j r rest hj
      have hjlt : j < ss.length := (List.getElem?_eq_some_iff.mp hj).1
      obtain ⟨ih1, ih2⟩ := ih (ss.set j rest) (by omega)
      have hm : merge (fuel + 1) ss = (j, r) :: merge fuel (ss.set j rest) := by
        simp [merge, hp, hpop]
      rw [hm]
      refine ⟨fun i => ?_, ?_⟩
      · by_cases hij : i = j
        · subst hij
          have := proj_cons_eq (i, r) (merge fuel (ss.set i rest))
          simp only at this
          rw [this, ih1 i]
          simp only [List.getD_eq_getElem?_getD, hj, List.getElem?_set, if_true, hjlt, Option.getD_some]
        · have := proj_cons_ne i (j, r) (merge fuel (ss.set j rest)) hij
          rw [this, ih1 i]
          have hji : ¬ j = i := fun e => hij e.symm
          simp [List.getD_eq_getElem?_getD, hji]
      · intro e he
        rcases List.mem_cons.mp he with h1 | h1
        · subst h1
          exact hjlt
        · have := ih2 e h1
          simpa using this

theorem mergeAll_proj (ss : List (List Rec)) :
    (∀ i, proj i (mergeAll ss) = ss.getD i []) ∧ (∀ e ∈ mergeAll ss, e.1 < ss.length) := by
  unfold mergeAll
  apply merge_proj
  rw [foldl_length]
  omega

/-! ### the whole report over any per-task streams -/

theorem foldl_upds_flatMap (l : List Nat) (g : Nat → List Upd) (ns : Nodes) :
    l.foldl (fun ns i => Nodes.upds ns (g i)) ns = ns.upds (l.flatMap g) :=
  List.foldl_flatMap.symm

theorem flatMap_range_getD {α β : Type} (l : List α) (d : α) (g : α → List β) :
    (List.range l.length).flatMap (fun i => g (l.getD i d)) = l.flatMap g := by
  induction l with
  | nil => rfl
  | cons a l ih =>
    rw [List.length_cons, List.range_succ_eq_map, List.flatMap_cons, List.flatMap_map, List.flatMap_cons, ← ih]
    rfl

/-- the report over any per-task streams: every task's stream run by itself, then every task finished -/
theorem reportG (stp : Task → Rec → Task × List Upd) (fin : Task → List Upd) (m : Nat) (ss : List (List Rec)) :
    finishG (fun _ => fin) ss.length (runG (fun _ => stp) (St.init m) (mergeAll ss)) =
      Nodes.upds (fun _ => {}) (ss.flatMap (fun rs => (runTG stp (Task.init m) rs).2) ++
        ss.flatMap (fun rs => fin (runTG stp (Task.init m) rs).1)) := by
  obtain ⟨hproj, hlt⟩ := mergeAll_proj ss
  unfold finishG
  rw [foldl_upds_flatMap, runG_nodes _ _ _ _ hlt, ← Nodes.upds_append]
  simp only [blocksG, runG_tasks, hproj, St.init]
  rw [flatMap_range_getD ss [] (fun rs => (runTG stp (Task.init m) rs).2),
    flatMap_range_getD ss [] (fun rs => fin (runTG stp (Task.init m) rs).1)]

theorem reportNodes_false (m : Nat) (ss : List (List Rec)) : reportNodes false m ss =
    finishG (fun _ => finishF) ss.length (runG (fun _ => stepF) (St.init m) (mergeAll ss)) := rfl

end Uft.Report

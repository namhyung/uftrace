import Uft.Model.Patch
/- C14 lemmas: what mcount_patch_func / mcount_unpatch_func do to the bytes of one function, how the
   per-module loop composes them over disjoint windows, the page permissions around it, and the
   arithmetic of the call displacement. -/
namespace Uft.Patch
open Uft.Gen.PatchTables

/-! ### reads and writes -/

theorem rd_eq (c : Code) (i : Nat) : rd c i = (c[i]?).getD 0 := by
  simp [rd, List.getD_eq_getElem?_getD]

theorem rd_congr (c1 c2 : Code) (i : Nat) (h : c1[i]? = c2[i]?) : rd c1 i = rd c2 i := by
  rw [rd_eq, rd_eq, h]

theorem length_writeAt (c : Code) (o : Nat) (bs : List UInt8) :
    (writeAt c o bs).length = c.length := by
  induction bs generalizing c o with
  | nil => rfl
  | cons b bs ih => simp [writeAt, ih]

theorem getElem?_writeAt (c : Code) (o : Nat) (bs : List UInt8) (i : Nat) :
    (writeAt c o bs)[i]? =
      if o ≤ i ∧ i < o + bs.length ∧ i < c.length then bs[i - o]? else c[i]? := by
  induction bs generalizing c o with
  | nil =>
    rw [if_neg (by rw [List.length_nil]; omega)]
    rfl
  | cons b bs ih =>
    rw [writeAt, ih, List.length_set, List.getElem?_set, List.length_cons]
    rcases Nat.lt_trichotomy i o with h | rfl | h
    · rw [if_neg (by omega), if_neg (by omega), if_neg (by omega)]
    · rw [if_neg (by omega), if_pos rfl]
      split
      · rw [if_pos (by omega), Nat.sub_self]
        rfl
      · rw [if_neg (by omega), List.getElem?_eq_none (by omega)]
    · rw [if_neg (by omega : ¬ o = i), show i - o = i - (o + 1) + 1 by omega, List.getElem?_cons_succ]
      exact ite_congr (propext (by omega)) (fun _ => rfl) (fun _ => rfl)

theorem getElem?_writeAt_outside (c : Code) (o : Nat) (bs : List UInt8) (i : Nat)
    (h : i < o ∨ o + bs.length ≤ i) : (writeAt c o bs)[i]? = c[i]? := by
  rw [getElem?_writeAt, if_neg (by omega)]

theorem getElem?_writeAt_inside (c : Code) (o : Nat) (bs : List UInt8) (k : Nat)
    (hk : k < bs.length) (hin : o + bs.length ≤ c.length) :
    (writeAt c o bs)[o + k]? = bs[k]? := by
  rw [getElem?_writeAt, if_pos (by omega), Nat.add_sub_cancel_left]

theorem rd_writeAt_inside (c : Code) (o : Nat) (bs : List UInt8) (k : Nat)
    (hk : k < bs.length) (hin : o + bs.length ≤ c.length) :
    rd (writeAt c o bs) (o + k) = bs.getD k 0 := by
  rw [rd_eq, getElem?_writeAt_inside c o bs k hk hin, List.getD_eq_getElem?_getD]

theorem rd_writeAt_head (c : Code) (o : Nat) (b : UInt8) (bs : List UInt8)
    (hin : o + (b :: bs).length ≤ c.length) : rd (writeAt c o (b :: bs)) o = b :=
  rd_writeAt_inside c o (b :: bs) 0 (Nat.zero_lt_succ _) hin

theorem getElem?_writeAt_congr {c1 c2 : Code} (hl : c1.length = c2.length) (o : Nat) (bs : List UInt8)
    {i : Nat} (h : c1[i]? = c2[i]?) : (writeAt c1 o bs)[i]? = (writeAt c2 o bs)[i]? := by
  rw [getElem?_writeAt, getElem?_writeAt, hl, h]

theorem matchAt_iff (c : Code) (o : Nat) (p : List UInt8) :
    matchAt c o p = true ↔ ∀ k, k < p.length → rd c (o + k) = p.getD k 0 := by
  induction p generalizing o with
  | nil => exact ⟨fun _ _ hk => absurd hk (Nat.not_lt_zero _), fun _ => rfl⟩
  | cons b bs ih =>
    rw [matchAt, Bool.and_eq_true, beq_iff_eq, ih, List.length_cons, Nat.forall_lt_succ_left]
    simp only [Nat.add_assoc, Nat.add_comm 1, Nat.add_zero, List.getD_cons_zero, List.getD_cons_succ]

theorem matchAt_congr (c1 c2 : Code) (o : Nat) (p : List UInt8)
    (h : ∀ i, o ≤ i → i < o + p.length → c1[i]? = c2[i]?) : matchAt c1 o p = matchAt c2 o p := by
  rw [Bool.eq_iff_iff, matchAt_iff, matchAt_iff]
  exact forall_congr' fun k => imp_congr_right fun hk => by
    rw [rd_congr c1 c2 _ (h _ (Nat.le_add_right _ _) (Nat.add_lt_add_left hk _))]

theorem matchAt_append (pre p rest : List UInt8) : matchAt (pre ++ (p ++ rest)) pre.length p = true := by
  rw [matchAt_iff]
  intro k hk
  rw [rd_eq, List.getElem?_append_right (Nat.le_add_right _ _), Nat.add_sub_cancel_left,
    List.getElem?_append_left hk, List.getD_eq_getElem?_getD]

theorem writeAt_of_matchAt (c : Code) (o : Nat) (p : List UInt8) (h : matchAt c o p = true) :
    writeAt c o p = c := by
  induction p generalizing o with
  | nil => rfl
  | cons b bs ih =>
    rw [matchAt, Bool.and_eq_true, beq_iff_eq, rd_eq] at h
    have hs : c.set o b = c := by
      by_cases ho : o < c.length
      · rw [List.getElem?_eq_getElem ho] at h
        rw [← h.1]
        exact List.set_getElem_self ho
      · exact List.set_eq_of_length_le (Nat.le_of_not_lt ho)
    rw [writeAt, hs, ih (o + 1) h.2]

theorem writeAt_writeAt (c : Code) (o : Nat) (a b : List UInt8) (h : a.length = b.length) :
    writeAt (writeAt c o a) o b = writeAt c o b := by
  apply List.ext_getElem?
  intro i
  simp only [getElem?_writeAt, length_writeAt, h]
  split <;> rfl

/-! ### the patch site -/

theorem prologueOff_congr (c1 c2 : Code) (a : Nat)
    (h : ∀ i, a ≤ i → i < a + 4 → c1[i]? = c2[i]?) : prologueOff c1 a = prologueOff c2 a := by
  unfold prologueOff
  rw [matchAt_congr c1 c2 a endbr64 h]

theorem prologueOff_mem (c : Code) (a : Nat) : a ≤ prologueOff c a ∧ prologueOff c a ≤ a + 4 := by
  unfold prologueOff
  split
  · exact ⟨Nat.le_add_right _ _, Nat.le_refl _⟩
  · exact ⟨Nat.le_refl _, Nat.le_add_right _ _⟩

theorem prologueOff_of_endbr (c : Code) (a : Nat) (h : matchAt c a endbr64 = true) :
    prologueOff c a = a + 4 := by
  unfold prologueOff
  rw [if_pos h]
  rfl

theorem prologueOff_of_not_endbr (c : Code) (a : Nat) (h : matchAt c a endbr64 = false) :
    prologueOff c a = a := by
  unfold prologueOff
  rw [h]
  rfl

theorem matchAt_endbr_first (c : Code) (a : Nat) (h : matchAt c a endbr64 = true) : rd c a = 0xf3 := by
  have := (matchAt_iff c a endbr64).1 h 0 (by decide)
  simpa [endbr64] using this

theorem not_endbr_of_first (c : Code) (a : Nat) (h : rd c a ≠ 0xf3) : matchAt c a endbr64 = false :=
  Bool.eq_false_iff.2 (mt (matchAt_endbr_first c a) h)

/-- a `memcpy` to the patch site neither touches an endbr64 in front of it nor, unless it begins
    with f3, makes one appear -/
theorem prologueOff_writeAt (c : Code) (a : Nat) (b : UInt8) (bs : List UInt8) (hb : b ≠ 0xf3)
    (hin : prologueOff c a + (b :: bs).length ≤ c.length) :
    prologueOff (writeAt c (prologueOff c a) (b :: bs)) a = prologueOff c a := by
  cases he : matchAt c a endbr64
  · rw [prologueOff_of_not_endbr c a he] at hin ⊢
    exact prologueOff_of_not_endbr _ a (not_endbr_of_first _ a (by rw [rd_writeAt_head c a b bs hin]; exact hb))
  · rw [prologueOff_of_endbr c a he]
    apply prologueOff_of_endbr
    rw [matchAt_congr _ c a endbr64 (fun i _ y => getElem?_writeAt_outside c (a + 4) (b :: bs) i (Or.inl y))]
    exact he

/-! ### the patcher: when it succeeds and what it writes -/

theorem effMinSize_eq (m : Nat) : effMinSize m = max m 6 := by
  unfold effMinSize
  by_cases h : m < CALL_INSN_SIZE + 1
  · rw [if_pos h]
    exact (Nat.max_eq_right (Nat.le_of_lt h)).symm
  · rw [if_neg h]
    exact (Nat.max_eq_left (Nat.not_lt.1 h)).symm

theorem patchFunc_cases (ty : DynType) (ms ss : Nat) (c : Code) (start a tramp : Nat) :
    ((patchFunc ty ms ss c start a tramp).1 = c ∧ (patchFunc ty ms ss c start a tramp).2 ≠ .success ∧
      ¬ (max ms 6 ≤ ss ∧ (ty = .fentryNop ∨ ty = .patchable) ∧
        isNopPrologue c (prologueOff c a) = true ∧ targetAddr tramp (start + prologueOff c a) ≠ 0)) ∨
    (patchFunc ty ms ss c start a tramp =
        (writeAt c (prologueOff c a) (callInsn (targetAddr tramp (start + prologueOff c a))), .success) ∧
      max ms 6 ≤ ss ∧ (ty = .fentryNop ∨ ty = .patchable) ∧
        isNopPrologue c (prologueOff c a) = true ∧ targetAddr tramp (start + prologueOff c a) ≠ 0) := by
  unfold patchFunc
  rw [effMinSize_eq]
  by_cases hs : ss < max ms 6
  · left
    rw [if_pos hs]
    exact ⟨rfl, Res.noConfusion, fun h => absurd h.1 (Nat.not_le.2 hs)⟩
  · rw [if_neg hs]
    cases ty
    case fentryNop | patchable =>
      dsimp only [patchFentry]
      cases isNopPrologue c (prologueOff c a)
      · exact Or.inl ⟨rfl, Res.noConfusion, fun hc => Bool.noConfusion hc.2.2.1⟩
      · by_cases h2 : targetAddr tramp (start + prologueOff c a) = 0
        · rw [if_neg Bool.noConfusion, if_pos h2]
          exact Or.inl ⟨rfl, Res.noConfusion, fun hc => hc.2.2.2 h2⟩
        · rw [if_neg Bool.noConfusion, if_neg h2]
          exact Or.inr ⟨rfl, Nat.not_lt.1 hs, by decide, rfl, h2⟩
    all_goals exact Or.inl ⟨rfl, Res.noConfusion, fun h => h.2.1.elim DynType.noConfusion DynType.noConfusion⟩

theorem patchFunc_success_iff (ty : DynType) (ms ss : Nat) (c : Code) (start a tramp : Nat) :
    (patchFunc ty ms ss c start a tramp).2 = .success ↔
      (max ms 6 ≤ ss ∧ (ty = .fentryNop ∨ ty = .patchable) ∧
        isNopPrologue c (prologueOff c a) = true ∧ targetAddr tramp (start + prologueOff c a) ≠ 0) := by
  rcases patchFunc_cases ty ms ss c start a tramp with ⟨_, h2, h3⟩ | ⟨h1, h2⟩
  · exact ⟨fun h => absurd h h2, fun h => absurd h h3⟩
  · exact ⟨fun _ => h2, fun _ => by rw [h1]⟩

theorem patchFunc_fst (ty : DynType) (ms ss : Nat) (c : Code) (start a tramp : Nat) :
    (patchFunc ty ms ss c start a tramp).1 =
      if (patchFunc ty ms ss c start a tramp).2 = .success then
        writeAt c (prologueOff c a) (callInsn (targetAddr tramp (start + prologueOff c a)))
      else c := by
  rcases patchFunc_cases ty ms ss c start a tramp with ⟨h1, h2, _⟩ | ⟨h1, _⟩
  · rw [if_neg h2, h1]
  · rw [h1]
    exact (if_pos rfl).symm

theorem length_patchFunc (ty : DynType) (ms ss : Nat) (c : Code) (start a tramp : Nat) :
    (patchFunc ty ms ss c start a tramp).1.length = c.length := by
  rw [patchFunc_fst]
  split
  · exact length_writeAt _ _ _
  · rfl

theorem patchFunc_frame (ty : DynType) (ms ss : Nat) (c : Code) (start a tramp i : Nat)
    (h : i < prologueOff c a ∨ prologueOff c a + 5 ≤ i) :
    (patchFunc ty ms ss c start a tramp).1[i]? = c[i]? := by
  rw [patchFunc_fst]
  split
  · exact getElem?_writeAt_outside _ _ _ _ h
  · rfl

/-! ### unpatch_func as it is: any `e8` / `ff 15` becomes the NOP of its length -/

theorem unpatchAt_cases (c : Code) (o : Nat) :
    (rd c o = 0xe8 ∧ unpatchAt c o = (writeAt c o unpatch_nop5, .success)) ∨
    (rd c o = 0xff ∧ rd c (o + 1) = 0x15 ∧ unpatchAt c o = (writeAt c o unpatch_nop6, .success)) ∨
    unpatchAt c o = (c, .skipped) := by
  unfold unpatchAt
  split
  · rename_i h
    exact Or.inl ⟨beq_iff_eq.1 h, rfl⟩
  · split
    · rename_i h
      rw [Bool.and_eq_true, beq_iff_eq, beq_iff_eq] at h
      exact Or.inr (Or.inl ⟨h.1, h.2, rfl⟩)
    · exact Or.inr (Or.inr rfl)

theorem length_unpatchAt (c : Code) (o : Nat) : (unpatchAt c o).1.length = c.length := by
  rcases unpatchAt_cases c o with ⟨_, e⟩ | ⟨_, _, e⟩ | e <;> rw [e]
  · exact length_writeAt _ _ _
  · exact length_writeAt _ _ _

theorem length_unpatchFunc (ty : DynType) (c : Code) (a : Nat) (loc : Option Nat) :
    (unpatchFunc ty c a loc).1.length = c.length := by
  unfold unpatchFunc
  cases ty <;> simp only [length_unpatchAt]
  cases loc <;> simp only [length_unpatchAt]

theorem unpatchFunc_nopg (ty : DynType) (hty : ty ≠ .pg) (c : Code) (a : Nat) (loc : Option Nat) :
    (unpatchFunc ty c a loc).1 = c ∨ (unpatchFunc ty c a loc).1 = (unpatchAt c a).1 := by
  unfold unpatchFunc
  cases ty
  case pg => exact absurd rfl hty
  case fentry | patchable => exact Or.inr rfl
  all_goals exact Or.inl rfl

theorem unpatchAt_congr (c1 c2 : Code) (a : Nat) (hl : c1.length = c2.length)
    (h : ∀ i, a ≤ i → i < a + 10 → c1[i]? = c2[i]?) :
    ∀ i, a ≤ i → i < a + 10 → (unpatchAt c1 a).1[i]? = (unpatchAt c2 a).1[i]? := by
  intro i x y
  unfold unpatchAt
  rw [rd_congr c1 c2 a (h a (Nat.le_refl _) (Nat.lt_add_of_pos_right (by decide))),
    rd_congr c1 c2 (a + 1) (h (a + 1) (Nat.le_add_right a 1) (Nat.add_lt_add_left (by decide) a))]
  split
  · exact getElem?_writeAt_congr hl _ _ (h i x y)
  · split
    · exact getElem?_writeAt_congr hl _ _ (h i x y)
    · exact h i x y

/-! ### unpatch with the call-target test -/

/-- "the instruction at offset `o` is a call that enters the tracer", as the repaired
    unpatch_func decides it -/
def entersTracer (cfg : Cfg) (c : Code) (o : Nat) : Prop :=
  (rd c o = 0xe8 ∧ callsEntryDirect cfg c o = true) ∨
  (rd c o = 0xff ∧ rd c (o + 1) = 0x15 ∧ callsEntryGot cfg c o = true)

theorem callsEntryDirect_iff (cfg : Cfg) (c : Code) (o : Nat) :
    callsEntryDirect cfg c o = true ↔
      ((cfg.tramp ≠ 0 ∧ callTarget cfg c o = cfg.tramp) ∨
       ∃ s, findSym cfg.symtab ((callTarget cfg c o + 2 ^ 64 - cfg.start % 2 ^ 64) % 2 ^ 64) = some s ∧
         s.isPlt = true ∧ s.name ∈ entryNames) := by
  unfold callsEntryDirect
  simp only [Bool.or_eq_true, Bool.and_eq_true, bne_iff_ne, ne_eq, beq_iff_eq]
  cases hf : findSym cfg.symtab ((callTarget cfg c o + 2 ^ 64 - cfg.start % 2 ^ 64) % 2 ^ 64) with
  | none => simp
  | some s => simp

theorem callsEntryGot_iff (cfg : Cfg) (c : Code) (o : Nat) :
    callsEntryGot cfg c o = true ↔
      (cfg.start ≤ gotSlot cfg c o ∧ gotSlot cfg c o + 8 ≤ cfg.start + cfg.mapLen ∧
       (gotSlot cfg c o - cfg.start + 8 ≤ cfg.textLo ∨ cfg.textHi ≤ gotSlot cfg c o - cfg.start) ∧
       rd64 c (gotSlot cfg c o - cfg.start) ∈ cfg.entryFuncs) := by
  unfold callsEntryGot
  simp only
  split
  · rename_i h
    constructor
    · intro hc; cases hc
    · rintro ⟨h1, h2, _, _⟩; omega
  · rename_i h
    split
    · rename_i h2
      constructor
      · intro hc; cases hc
      · rintro ⟨_, _, h3, _⟩; omega
    · rename_i h2
      rw [List.contains_iff_mem]
      constructor
      · intro hm; exact ⟨by omega, by omega, by omega, hm⟩
      · rintro ⟨_, _, _, hm⟩; exact hm

theorem unpatchAtG_eq_unpatchAt (cfg : Cfg) (c : Code) (o : Nat)
    (h : cfg.fixed = false ∨ entersTracer cfg c o) : unpatchAtG cfg c o = unpatchAt c o := by
  unfold unpatchAtG unpatchAt
  rcases h with h | ⟨h1, h2⟩ | ⟨h1, h2, h3⟩
  · simp only [h, Bool.false_and, Bool.false_eq_true, if_false]
  · simp only [h1, h2, beq_self_eq_true, Bool.not_true, Bool.and_false, Bool.false_eq_true, if_true, if_false]
  · have hne : ((0xff : UInt8) == 0xe8) = false := by decide
    simp only [h1, h2, h3, hne, Bool.not_true, Bool.and_false, Bool.false_eq_true, if_false]

theorem unpatchAtG_false (cfg : Cfg) (h : cfg.fixed = false) (c : Code) (o : Nat) :
    unpatchAtG cfg c o = unpatchAt c o :=
  unpatchAtG_eq_unpatchAt cfg c o (.inl h)

theorem unpatchAtG_of_not_enters (cfg : Cfg) (hfx : cfg.fixed = true) (c : Code) (o : Nat)
    (h : ¬ entersTracer cfg c o) : unpatchAtG cfg c o = (c, .skipped) := by
  unfold unpatchAtG
  rw [hfx]
  split
  · rename_i h1
    cases hc : callsEntryDirect cfg c o
    · rfl
    · exact absurd (Or.inl ⟨beq_iff_eq.1 h1, hc⟩) h
  · split
    · rename_i h2
      rw [Bool.and_eq_true, beq_iff_eq, beq_iff_eq] at h2
      cases hc : callsEntryGot cfg c o
      · rfl
      · exact absurd (Or.inr ⟨h2.1, h2.2, hc⟩) h
    · rfl

theorem unpatchAtG_changes (cfg : Cfg) (hfx : cfg.fixed = true) (c : Code) (o : Nat)
    (h : (unpatchAtG cfg c o).1 ≠ c) : entersTracer cfg c o :=
  Classical.byContradiction fun hn => h (by rw [unpatchAtG_of_not_enters cfg hfx c o hn])

theorem unpatchAtG_of_direct (cfg : Cfg) (c : Code) (o : Nat) (h1 : rd c o = 0xe8)
    (h2 : callsEntryDirect cfg c o = true) : unpatchAtG cfg c o = (writeAt c o unpatch_nop5, .success) :=
  (unpatchAtG_eq_unpatchAt cfg c o (Or.inr (Or.inl ⟨h1, h2⟩))).trans (by unfold unpatchAt; rw [h1]; rfl)

theorem unpatchAtG_of_got (cfg : Cfg) (c : Code) (o : Nat) (h1 : rd c o = 0xff) (h2 : rd c (o + 1) = 0x15)
    (h3 : callsEntryGot cfg c o = true) : unpatchAtG cfg c o = (writeAt c o unpatch_nop6, .success) :=
  (unpatchAtG_eq_unpatchAt cfg c o (Or.inr (Or.inr ⟨h1, h2, h3⟩))).trans (by unfold unpatchAt; rw [h1, h2]; rfl)

theorem unpatchAtG_shape (cfg : Cfg) (c : Code) (o : Nat) :
    (rd c o = 0xe8 ∧ unpatchAtG cfg c o = (writeAt c o unpatch_nop5, .success)) ∨
    (rd c o = 0xff ∧ rd c (o + 1) = 0x15 ∧ unpatchAtG cfg c o = (writeAt c o unpatch_nop6, .success)) ∨
    unpatchAtG cfg c o = (c, .skipped) := by
  by_cases h : cfg.fixed = false ∨ entersTracer cfg c o
  · rw [unpatchAtG_eq_unpatchAt cfg c o h]
    exact unpatchAt_cases c o
  · exact Or.inr (Or.inr (unpatchAtG_of_not_enters cfg (Bool.of_not_eq_false (mt Or.inl h)) c o (mt Or.inr h)))

theorem unpatchAtG_frame (cfg : Cfg) (c : Code) (o i : Nat) (h : i < o ∨ o + 6 ≤ i) :
    (unpatchAtG cfg c o).1[i]? = c[i]? := by
  rcases unpatchAtG_shape cfg c o with ⟨_, e⟩ | ⟨_, _, e⟩ | e <;> rw [e]
  · exact getElem?_writeAt_outside _ _ _ _ (by show _ ∨ _ + 5 ≤ _; omega)
  · exact getElem?_writeAt_outside _ _ _ _ (by show _ ∨ _ + 6 ≤ _; omega)

theorem unpatchAtG_of_endbr (cfg : Cfg) (c : Code) (o : Nat) (h : matchAt c o endbr64 = true) :
    unpatchAtG cfg c o = (c, .skipped) := by
  have h0 := matchAt_endbr_first c o h
  rcases unpatchAtG_shape cfg c o with ⟨h1, _⟩ | ⟨h1, _, _⟩ | e
  · exact absurd (h0.symm.trans h1) (by decide)
  · exact absurd (h0.symm.trans h1) (by decide)
  · exact e

theorem unpatchSite_mem (cfg : Cfg) (c : Code) (a : Nat) :
    a ≤ unpatchSite cfg c a ∧ unpatchSite cfg c a ≤ a + 4 := by
  unfold unpatchSite
  split
  · exact prologueOff_mem c a
  · exact ⟨Nat.le_refl _, Nat.le_add_right _ _⟩

theorem unpatchSite_cases (cfg : Cfg) (c : Code) (a : Nat) :
    unpatchSite cfg c a = prologueOff c a ∨ (unpatchSite cfg c a = a ∧ matchAt c a endbr64 = true) := by
  unfold unpatchSite
  split
  · exact Or.inl rfl
  · cases he : matchAt c a endbr64
    · exact Or.inl (prologueOff_of_not_endbr c a he).symm
    · exact Or.inr ⟨rfl, rfl⟩

/-- with `fixed` and `skipEndbr` both off, `unpatchFuncG` is mcount_unpatch_func as it is -/
theorem unpatchFuncG_false (cfg : Cfg) (h : cfg.fixed = false) (he : cfg.skipEndbr = false) (c : Code) (a : Nat)
    (loc : Option Nat) : unpatchFuncG cfg c a loc = unpatchFunc cfg.ty c a loc := by
  unfold unpatchFuncG unpatchFunc
  cases cfg.ty <;> simp only [unpatchAtG_eq_unpatchAt cfg c _ (Or.inl h), unpatchSite, he, Bool.false_eq_true, if_false]

theorem unpatchFuncG_of_fentry (cfg : Cfg) (hty : cfg.ty = .fentry ∨ cfg.ty = .patchable) (c : Code) (a : Nat)
    (loc : Option Nat) : unpatchFuncG cfg c a loc = unpatchAtG cfg c (unpatchSite cfg c a) := by
  unfold unpatchFuncG
  rcases hty with e | e <;> rw [e]

/-- mcount_unpatch_func either does nothing or is unpatch_func at the symbol's unpatch site
    (DYNAMIC_FENTRY / DYNAMIC_PATCHABLE) or at its `__mcount_loc` entry (DYNAMIC_PG) -/
theorem unpatchFuncG_shape (cfg : Cfg) (c : Code) (a : Nat) (loc : Option Nat) :
    unpatchFuncG cfg c a loc = (c, .skipped) ∨
    ∃ o, (((cfg.ty = .fentry ∨ cfg.ty = .patchable) ∧ o = unpatchSite cfg c a) ∨ (cfg.ty = .pg ∧ loc = some o)) ∧
      unpatchFuncG cfg c a loc = unpatchAtG cfg c o := by
  unfold unpatchFuncG
  cases hty : cfg.ty
  case fentry => right; exact ⟨_, Or.inl ⟨Or.inl rfl, rfl⟩, rfl⟩
  case patchable => right; exact ⟨_, Or.inl ⟨Or.inr rfl, rfl⟩, rfl⟩
  case pg =>
    cases loc with
    | none => left; rfl
    | some l => right; exact ⟨l, Or.inr ⟨rfl, rfl⟩, rfl⟩
  all_goals (left; rfl)

/-! ### congruence: the decision and the written bytes depend only on the window -/

theorem patchFunc_congr (ty : DynType) (ms ss : Nat) (c1 c2 : Code) (start a tramp : Nat)
    (hl : c1.length = c2.length) (h : ∀ i, a ≤ i → i < a + 10 → c1[i]? = c2[i]?)
    {i : Nat} (hi : c1[i]? = c2[i]?) :
    (patchFunc ty ms ss c1 start a tramp).1[i]? = (patchFunc ty ms ss c2 start a tramp).1[i]? := by
  have ho : prologueOff c1 a = prologueOff c2 a :=
    prologueOff_congr c1 c2 a (fun i x y => h i x (by omega))
  have hm := prologueOff_mem c1 a
  have hw : ∀ i, prologueOff c1 a ≤ i → i < prologueOff c1 a + 5 → c1[i]? = c2[i]? :=
    fun i x y => h i (by omega) (by omega)
  have hn : isNopPrologue c1 (prologueOff c1 a) = isNopPrologue c2 (prologueOff c1 a) := by
    unfold isNopPrologue
    rw [matchAt_congr c1 c2 _ patchable_gcc_nop hw, matchAt_congr c1 c2 _ patchable_clang_nop hw,
      matchAt_congr c1 c2 _ fentry_nop_patt1 hw, matchAt_congr c1 c2 _ fentry_nop_patt2 hw]
  simp only [patchFunc_fst, patchFunc_success_iff, ← ho, hn]
  split
  · exact getElem?_writeAt_congr hl _ _ hi
  · exact hi

theorem rd32_congr (c1 c2 : Code) (o : Nat) (h : ∀ k, k < 4 → c1[o + k]? = c2[o + k]?) :
    rd32 c1 o = rd32 c2 o := by
  unfold rd32
  rw [rd_congr c1 c2 o (h 0 (by decide)), rd_congr c1 c2 (o + 1) (h 1 (by decide)),
    rd_congr c1 c2 (o + 2) (h 2 (by decide)), rd_congr c1 c2 (o + 3) (h 3 (by decide))]

/-- unpatch_func reads the instruction at `o` and, for `call *disp32(%rip)`, eight bytes that lie outside
    the code segment -/
theorem unpatchAtG_congr (cfg : Cfg) (c1 c2 : Code) (o : Nat) (hl : c1.length = c2.length)
    (hw : ∀ k, k < 6 → c1[o + k]? = c2[o + k]?)
    (hout : ∀ i, i < cfg.textLo ∨ cfg.textHi ≤ i → c1[i]? = c2[i]?)
    {i : Nat} (hi : c1[i]? = c2[i]?) : (unpatchAtG cfg c1 o).1[i]? = (unpatchAtG cfg c2 o).1[i]? := by
  have hd : callsEntryDirect cfg c1 o = callsEntryDirect cfg c2 o := by
    unfold callsEntryDirect callTarget
    rw [rd32_congr c1 c2 (o + 1) (fun k hk => by rw [Nat.add_assoc]; exact hw (1 + k) (by omega))]
  have hs : gotSlot cfg c1 o = gotSlot cfg c2 o := by
    unfold gotSlot
    rw [rd32_congr c1 c2 (o + 2) (fun k hk => by rw [Nat.add_assoc]; exact hw (2 + k) (by omega))]
  have hg : callsEntryGot cfg c1 o = callsEntryGot cfg c2 o := by
    unfold callsEntryGot
    simp only [hs]
    split
    · rfl
    · split
      · rfl
      · unfold rd64
        rw [rd32_congr c1 c2 _ (fun k hk => hout _ (by omega)),
          rd32_congr c1 c2 _ (fun k hk => hout _ (by omega))]
  unfold unpatchAtG
  rw [rd_congr c1 c2 o (hw 0 (by decide)), rd_congr c1 c2 (o + 1) (hw 1 (by decide)), hd, hg]
  by_cases h5 : (rd c2 o == 0xe8) = true
  · rw [if_pos h5, if_pos h5]
    by_cases hf : (cfg.fixed && !callsEntryDirect cfg c2 o) = true
    · rw [if_pos hf, if_pos hf]
      exact hi
    · rw [if_neg hf, if_neg hf]
      exact getElem?_writeAt_congr hl _ _ hi
  · rw [if_neg h5, if_neg h5]
    by_cases h6 : (rd c2 o == 0xff && rd c2 (o + 1) == 0x15) = true
    · rw [if_pos h6, if_pos h6]
      by_cases hf : (cfg.fixed && !callsEntryGot cfg c2 o) = true
      · rw [if_pos hf, if_pos hf]
        exact hi
      · rw [if_neg hf, if_neg hf]
        exact getElem?_writeAt_congr hl _ _ hi
    · rw [if_neg h6, if_neg h6]
      exact hi

/-! ### one loop iteration -/

theorem length_stepCode (cfg : Cfg) (v : Option Bool) (c : Code) (s : Sym) :
    (stepCode cfg v c s).1.length = c.length := by
  unfold stepCode
  cases v with
  | none => rfl
  | some b =>
    cases b
    · dsimp only
      rcases unpatchFuncG_shape cfg c s.addr (findLoc cfg.locs s) with e | ⟨o, _, e⟩ <;> rw [e]
      rcases unpatchAtG_shape cfg c o with ⟨_, e⟩ | ⟨_, _, e⟩ | e <;> rw [e]
      · exact length_writeAt _ _ _
      · exact length_writeAt _ _ _
    · exact length_patchFunc _ _ _ _ _ _ _

/-- What one iteration can change: a successful patch the five bytes at the patch site, an unpatch
    the six bytes at the site it looks at. -/
theorem stepCode_changed (cfg : Cfg) (v : Option Bool) (c : Code) (s : Sym) (i : Nat)
    (h : (stepCode cfg v c s).1[i]? ≠ c[i]?) :
    (v = some true ∧ (patchFunc cfg.ty cfg.minSize s.size c cfg.start s.addr cfg.tramp).2 = .success ∧
      prologueOff c s.addr ≤ i ∧ i < prologueOff c s.addr + 5) ∨
    (v = some false ∧
      ∃ o, (((cfg.ty = .fentry ∨ cfg.ty = .patchable) ∧ o = unpatchSite cfg c s.addr) ∨
          (cfg.ty = .pg ∧ findLoc cfg.locs s = some o)) ∧
        (unpatchAtG cfg c o).1 ≠ c ∧ o ≤ i ∧ i < o + 6) := by
  unfold stepCode at h
  cases v with
  | none => exact absurd rfl h
  | some b =>
    cases b
    · right
      dsimp only at h
      rcases unpatchFuncG_shape cfg c s.addr (findLoc cfg.locs s) with e | ⟨o, ho, e⟩ <;> rw [e] at h
      · exact absurd rfl h
      · refine ⟨rfl, o, ho, fun hc => h (by rw [hc]), ?_⟩
        by_cases hout : i < o ∨ o + 6 ≤ i
        · exact absurd (unpatchAtG_frame cfg c o i hout) h
        · omega
    · left
      dsimp only at h
      have hs : (patchFunc cfg.ty cfg.minSize s.size c cfg.start s.addr cfg.tramp).2 = .success :=
        Classical.byContradiction fun hns => h (by rw [patchFunc_fst, if_neg hns])
      refine ⟨rfl, hs, ?_⟩
      by_cases hout : i < prologueOff c s.addr ∨ prologueOff c s.addr + 5 ≤ i
      · exact absurd (patchFunc_frame _ _ _ _ _ _ _ i hout) h
      · omega

theorem stepCode_frame (cfg : Cfg) (hty : cfg.ty ≠ .pg) (v : Option Bool) (c : Code) (s : Sym) (i : Nat)
    (h : i < s.addr ∨ s.addr + 10 ≤ i) : (stepCode cfg v c s).1[i]? = c[i]? := by
  have hp := prologueOff_mem c s.addr
  have hu := unpatchSite_mem cfg c s.addr
  apply Classical.byContradiction
  intro hne
  rcases stepCode_changed cfg v c s i hne with ⟨_, _, _, _⟩ | ⟨_, o, ⟨_, rfl⟩ | ⟨hpg, _⟩, _, _, _⟩
  · omega
  · omega
  · exact hty hpg

theorem stepCode_congr (cfg : Cfg) (hty : cfg.ty ≠ .pg) (v : Option Bool) (c1 c2 : Code) (s : Sym)
    (hl : c1.length = c2.length) (h : ∀ i, s.addr ≤ i → i < s.addr + 10 → c1[i]? = c2[i]?)
    (hout : ∀ i, i < cfg.textLo ∨ cfg.textHi ≤ i → c1[i]? = c2[i]?) :
    ∀ i, s.addr ≤ i → i < s.addr + 10 → (stepCode cfg v c1 s).1[i]? = (stepCode cfg v c2 s).1[i]? := by
  unfold stepCode
  cases v with
  | none => exact h
  | some b =>
    cases b
    · have hsite : unpatchSite cfg c1 s.addr = unpatchSite cfg c2 s.addr := by
        unfold unpatchSite
        rw [prologueOff_congr c1 c2 s.addr (fun i x y => h i x (by omega))]
      have hm := unpatchSite_mem cfg c1 s.addr
      have site := fun i x y => unpatchAtG_congr cfg c1 c2 (unpatchSite cfg c1 s.addr) hl
        (fun k hk => h _ (by omega) (by omega)) hout (h i x y)
      unfold unpatchFuncG
      rw [← hsite]
      cases hc : cfg.ty
      case pg => exact absurd hc hty
      case fentry | patchable => exact site
      all_goals exact h
    · exact fun i x y => patchFunc_congr cfg.ty cfg.minSize s.size c1 c2 cfg.start s.addr cfg.tramp hl h (h i x y)

/-! ### the loop -/

/-- symbols' 10-byte windows are pairwise disjoint -/
def Disjoint (syms : List Sym) : Prop :=
  syms.Pairwise fun s t => s.addr + 10 ≤ t.addr ∨ t.addr + 10 ≤ s.addr

/-- the symbols' windows lie in the module's code segment [text_addr, text_addr + text_size)
    (what the GOT test of the repaired unpatch_func relies on: a GOT slot is never there) -/
def InText (cfg : Cfg) (syms : List Sym) : Prop :=
  ∀ s ∈ syms, cfg.textLo ≤ s.addr ∧ s.addr + 10 ≤ cfg.textHi

theorem runSyms_cons (cfg : Cfg) (verdict : String → Option Bool) (st : LoopSt) (s : Sym) (rest : List Sym) :
    runSyms cfg verdict st (s :: rest) = runSyms cfg verdict (stepSym cfg verdict st s) rest :=
  rfl

theorem runSyms_outside (cfg : Cfg) (hty : cfg.ty ≠ .pg) (verdict : String → Option Bool)
    (syms : List Sym) (st : LoopSt) (i : Nat)
    (h : ∀ s ∈ syms, i < s.addr ∨ s.addr + 10 ≤ i) :
    (runSyms cfg verdict st syms).code[i]? = st.code[i]? := by
  induction syms generalizing st with
  | nil => rfl
  | cons s rest ih =>
    rw [runSyms_cons, ih _ (fun t ht => h t (List.mem_cons_of_mem _ ht))]
    exact stepCode_frame cfg hty _ _ _ _ (h s List.mem_cons_self)

/-- With disjoint windows inside the code segment, what the loop leaves in a symbol's window is
    what that symbol's own iteration makes of the initial image: the earlier iterations change
    nothing it reads, the later ones nothing it wrote. -/
theorem runSyms_window (cfg : Cfg) (hty : cfg.ty ≠ .pg) (verdict : String → Option Bool)
    (syms : List Sym) (hd : Disjoint syms) (ht : InText cfg syms) (st : LoopSt) :
    ∀ s ∈ syms, ∀ i, s.addr ≤ i → i < s.addr + 10 →
      (runSyms cfg verdict st syms).code[i]? = (stepCode cfg (verdict s.name) st.code s).1[i]? := by
  induction syms generalizing st with
  | nil => intro s hs; cases hs
  | cons t rest ih =>
    intro s hs i h1 h2
    have hd' := List.pairwise_cons.1 hd
    rw [runSyms_cons]
    rcases List.mem_cons.1 hs with e | hm
    · subst e
      rw [runSyms_outside cfg hty verdict rest _ i (fun u hu => by have := hd'.1 u hu; omega)]
      rfl
    · rw [ih hd'.2 (fun u hu => ht u (List.mem_cons_of_mem _ hu)) _ s hm i h1 h2]
      have hdis := hd'.1 s hm
      have htt := ht t List.mem_cons_self
      refine stepCode_congr cfg hty (verdict s.name) _ _ s (length_stepCode _ _ _ _) ?_ ?_ i h1 h2
      · intro j j1 j2
        exact stepCode_frame cfg hty _ _ _ _ (by omega)
      · intro j hj
        exact stepCode_frame cfg hty _ _ _ _ (by omega)

theorem runSyms_changed (cfg : Cfg) (hty : cfg.ty ≠ .pg) (verdict : String → Option Bool)
    (syms : List Sym) (hd : Disjoint syms) (ht : InText cfg syms) (st : LoopSt) (i : Nat)
    (h : (runSyms cfg verdict st syms).code[i]? ≠ st.code[i]?) :
    ∃ s ∈ syms, s.addr ≤ i ∧ i < s.addr + 10 ∧
      (stepCode cfg (verdict s.name) st.code s).1[i]? ≠ st.code[i]? := by
  apply Classical.byContradiction
  intro hno
  apply h
  by_cases hw : ∃ s ∈ syms, s.addr ≤ i ∧ i < s.addr + 10
  · obtain ⟨s, hs, h1, h2⟩ := hw
    rw [runSyms_window cfg hty verdict syms hd ht st s hs i h1 h2]
    exact Classical.byContradiction fun hne => hno ⟨s, hs, h1, h2, hne⟩
  · exact runSyms_outside cfg hty verdict syms st i (fun s hs =>
      (Nat.lt_or_ge i s.addr).imp_right fun h1 =>
        Nat.le_of_not_lt fun h2 => hw ⟨s, hs, h1, h2⟩)

/-! ### which functions call the tracer afterwards -/

theorem instrumented_congr (c1 c2 : Code) (s : Sym)
    (h : ∀ i, s.addr ≤ i → i < s.addr + 10 → c1[i]? = c2[i]?) :
    instrumented c1 s = instrumented c2 s := by
  have hm := prologueOff_mem c1 s.addr
  unfold instrumented
  rw [← prologueOff_congr c1 c2 s.addr (fun i x y => h i x (by omega)),
    rd_congr c1 c2 _ (h _ (by omega) (by omega))]

theorem instrumented_writeAt (c : Code) (s : Sym) (b : UInt8) (bs : List UInt8) (hb : b ≠ 0xf3)
    (hin : prologueOff c s.addr + (b :: bs).length ≤ c.length) :
    instrumented (writeAt c (prologueOff c s.addr) (b :: bs)) s = (b == 0xe8) := by
  unfold instrumented
  rw [prologueOff_writeAt c s.addr b bs hb hin, rd_writeAt_head c _ b bs hin]

theorem instrumented_stepCode (cfg : Cfg) (hty : cfg.ty ≠ .pg) (v : Option Bool) (c : Code) (s : Sym)
    (hin : s.addr + 10 ≤ c.length) (h0 : instrumented c s = false) :
    instrumented (stepCode cfg v c s).1 s = true ↔
      (v = some true ∧
        (patchFunc cfg.ty cfg.minSize s.size c cfg.start s.addr cfg.tramp).2 = .success) := by
  have hm := prologueOff_mem c s.addr
  unfold stepCode
  cases v with
  | none => simp [h0]
  | some b =>
    cases b
    · dsimp only
      rcases unpatchFuncG_shape cfg c s.addr (findLoc cfg.locs s) with e | ⟨o, ho, e⟩ <;> rw [e]
      · simp [h0]
      · rcases ho with ⟨_, rfl⟩ | ⟨hpg, _⟩
        · -- an unpatch never makes a function instrumented: it writes a NOP or nothing
          have hun : instrumented (unpatchAtG cfg c (unpatchSite cfg c s.addr)).1 s = false := by
            rcases unpatchSite_cases cfg c s.addr with es | ⟨es, he⟩ <;> rw [es]
            · rcases unpatchAtG_shape cfg c (prologueOff c s.addr) with ⟨h1, _⟩ | ⟨_, _, e⟩ | e
              · exact absurd h1 (beq_eq_false_iff_ne.1 h0)
              · rw [e]
                exact instrumented_writeAt c s 0x66 _ (by decide) (by show _ + 6 ≤ _; omega)
              · rw [e]
                exact h0
            · rw [unpatchAtG_of_endbr cfg c s.addr he]
              exact h0
          simp [hun]
        · exact absurd hpg hty
    · rcases patchFunc_cases cfg.ty cfg.minSize s.size c cfg.start s.addr cfg.tramp with ⟨h1, h2, _⟩ | ⟨h1, _⟩
      · simp [h1, h0, h2]
      · have hi := instrumented_writeAt c s 0xe8 (le32 (targetAddr cfg.tramp (cfg.start + prologueOff c s.addr)))
          (by decide) (by show _ + 5 ≤ _; omega)
        rw [h1]
        exact ⟨fun _ => ⟨rfl, rfl⟩, fun _ => hi⟩

/-! ### page permissions -/

/-- page `p` belongs to the range that mprotect is given for module `m` -/
def inText (m : Module) (p : Nat) : Prop :=
  firstPage m.textAddr ≤ p ∧ p < endPage m.textAddr m.textSize

theorem setRange_ne (pg : Pages) (lo hi : Nat) (q : Perm) (p : Nat) (h : setRange pg lo hi q p ≠ pg p) :
    lo ≤ p ∧ p < hi :=
  Classical.byContradiction fun hc => h (if_neg hc)

theorem setup_fields (fa : Nat) (m : Module) (pg : Pages) :
    (setupTrampoline fa m pg).1.textAddr = m.textAddr ∧
    (setupTrampoline fa m pg).1.textSize =
      (if alignUp (m.textAddr + m.textSize) PAGE_SIZE - TRAMPOLINE_SIZE < m.textAddr + m.textSize
        then m.textSize + PAGE_SIZE else m.textSize) := by
  cases hf : m.setupFails
  · simp only [setupTrampoline, hf, Bool.false_eq_true, if_false, and_self]
  · simp only [setupTrampoline, hf, if_true, and_self]

/-- the page mapped for a trampoline that does not fit behind the text belongs to the text range
    grown by that page -/
theorem tramp_page_in_text (ta ts : Nat)
    (hg : alignUp (ta + ts) PAGE_SIZE - TRAMPOLINE_SIZE < ta + ts) :
    firstPage ta ≤ (alignUp (ta + ts) PAGE_SIZE - TRAMPOLINE_SIZE + TRAMPOLINE_SIZE) / PAGE_SIZE ∧
    (alignUp (ta + ts) PAGE_SIZE - TRAMPOLINE_SIZE + TRAMPOLINE_SIZE) / PAGE_SIZE <
      endPage ta (ts + PAGE_SIZE) := by
  have hP : PAGE_SIZE = 4096 := rfl
  have hT : TRAMPOLINE_SIZE = 16 := rfl
  simp only [firstPage, endPage, alignUp, hP, hT] at hg ⊢
  omega

/-- every page whose protection mcount_setup_trampoline changes lies in the
    (possibly grown) text range recorded in the mdi -/
theorem setup_changes_in_text (fa : Nat) (m : Module) (pg : Pages) (p : Nat)
    (h : (setupTrampoline fa m pg).2.1 p ≠ pg p) : inText (setupTrampoline fa m pg).1 p := by
  obtain ⟨ha, hs⟩ := setup_fields fa m pg
  unfold inText
  rw [ha, hs]
  by_cases hg : alignUp (m.textAddr + m.textSize) PAGE_SIZE - TRAMPOLINE_SIZE < m.textAddr + m.textSize
  · have hp := tramp_page_in_text m.textAddr m.textSize hg
    rw [if_pos hg]
    cases hf : m.setupFails
    · simp only [setupTrampoline, hf, hg, Bool.false_eq_true, if_false, if_true, mprotectText] at h
      apply Classical.byContradiction
      intro hout
      have := setRange_ne _ _ _ _ _ fun e => h ((if_neg hout).trans e)
      exact hout (by omega)
    · simp only [setupTrampoline, hf, hg, if_true] at h
      have := setRange_ne _ _ _ _ _ h
      omega
  · rw [if_neg hg]
    cases hf : m.setupFails
    · simp only [setupTrampoline, hf, hg, Bool.false_eq_true, if_false, mprotectText] at h
      exact setRange_ne _ _ _ _ _ h
    · simp only [setupTrampoline, hf, hg, if_true, if_false] at h
      exact absurd rfl h

theorem updateModule_changes_in_text (fa ms : Nat) (verdict : Module → String → Option Bool)
    (m : Module) (pg : Pages) (st : Stats) (p : Nat)
    (h : (updateModule fa ms verdict m pg st).2.1 p ≠ pg p) :
    inText (updateModule fa ms verdict m pg st).1 p := by
  unfold updateModule at h ⊢
  by_cases ht : m.trampoline = 0
  · simp only [ht, if_true] at h ⊢
    cases hok : (setupTrampoline fa m pg).2.2
    · simp only [hok, Bool.not_false, if_true] at h ⊢
      exact setup_changes_in_text fa m pg p h
    · simp only [hok, Bool.not_true, Bool.false_eq_true, if_false] at h ⊢
      exact setup_changes_in_text fa m pg p h
  · simp only [ht, if_false, Bool.not_true, Bool.false_eq_true] at h
    exact absurd rfl h

/-- after do_dynamic_update every page whose protection differs from the initial
    one lies in the text range of some mdi (with the size the mdi records afterwards) -/
theorem updateAll_changes_in_text (fa ms : Nat) (verdict : Module → String → Option Bool)
    (mods : List Module) (pg : Pages) (st : Stats) (p : Nat)
    (h : (updateAll fa ms verdict mods pg st).2.1 p ≠ pg p) :
    ∃ m ∈ (updateAll fa ms verdict mods pg st).1, inText m p := by
  induction mods generalizing pg st with
  | nil => exact absurd rfl h
  | cons m rest ih =>
    simp only [updateAll] at h ⊢
    by_cases h1 : (updateModule fa ms verdict m pg st).2.1 p = pg p
    · rw [← h1] at h
      obtain ⟨m', hm, hi⟩ := ih _ _ h
      exact ⟨m', List.mem_cons_of_mem _ hm, hi⟩
    · exact ⟨_, List.mem_cons_self, updateModule_changes_in_text fa ms verdict m pg st p h1⟩

theorem freezeAll_out (mods : List Module) (pg : Pages) (p : Nat) (h : ¬ ∃ m ∈ mods, inText m p) :
    freezeAll mods pg p = pg p := by
  induction mods generalizing pg with
  | nil => rfl
  | cons r rs ih =>
    simp only [freezeAll]
    rw [ih _ (fun ⟨x, hx, hxi⟩ => h ⟨x, List.mem_cons_of_mem _ hx, hxi⟩)]
    exact if_neg fun hc => h ⟨r, List.mem_cons_self, hc⟩

theorem freezeAll_in (mods : List Module) (pg : Pages) (p : Nat) (h : ∃ m ∈ mods, inText m p) :
    freezeAll mods pg p = Perm.rx := by
  induction mods generalizing pg with
  | nil => obtain ⟨m, hm, _⟩ := h; cases hm
  | cons m rest ih =>
    simp only [freezeAll]
    by_cases hr : ∃ m' ∈ rest, inText m' p
    · exact ih _ hr
    · obtain ⟨m', hm, hi⟩ := h
      rcases List.mem_cons.1 hm with e | e
      · subst e
        rw [freezeAll_out rest _ p hr]
        exact if_pos hi
      · exact absurd ⟨m', e, hi⟩ hr

/-! ### the call displacement -/

/-- little-endian value of the 4 displacement bytes -/
def dec32 (bs : List UInt8) : Nat :=
  (bs.getD 0 0).toNat + 256 * (bs.getD 1 0).toNat + 65536 * (bs.getD 2 0).toNat + 16777216 * (bs.getD 3 0).toNat

theorem dec32_le32 (t : Nat) (h : t < 2 ^ 32) : dec32 (le32 t) = t := by
  have h0 := Nat.mod_add_div t 256
  have h1 := Nat.mod_add_div (t / 256) 256
  have h2 := Nat.mod_add_div (t / 65536) 256
  rw [Nat.div_div_eq_div_mul] at h1 h2
  have h3 : t / 16777216 % 256 = t / 16777216 := Nat.mod_eq_of_lt (Nat.div_lt_of_lt_mul h)
  simp only [dec32, le32, List.getD_cons_zero, List.getD_cons_succ, UInt8.toNat_ofNat', Nat.reducePow,
    Nat.mod_mod, h3]
  -- with the quotients as atoms what is left is linear
  generalize t / 16777216 = q3 at *
  generalize t / (256 * 256) = q2 at *
  generalize t / 256 = q1 at *
  omega

/-- where a `call rel32` at address `site` with displacement field `t` lands -/
def callDest (site t : Nat) : Int :=
  (site : Int) + 5 + (if t < 2 ^ 31 then (t : Int) else (t : Int) - 2 ^ 32)

theorem targetAddr_lt (tramp insn : Nat) : targetAddr tramp insn < 2 ^ 32 :=
  Nat.mod_lt _ (Nat.two_pow_pos 32)

/-- `a - b` computed with wrap-around at width `W` and then truncated to a narrower width `m`:
    the difference itself when `b ≤ a`, its two's complement `m - (b - a)` when `a < b` -/
theorem wrapSub_of_le {a b W m k : Nat} (hW : W = m * k) (ha : a < W) (h : b ≤ a) (hd : a - b < m) :
    (a % W + W - b % W) % W % m = a - b := by
  subst hW
  rw [Nat.mod_mod_of_dvd _ ⟨k, rfl⟩, Nat.mod_eq_of_lt ha, Nat.mod_eq_of_lt (Nat.lt_of_le_of_lt h ha),
    Nat.sub_add_comm h, Nat.add_mul_mod_self_left]
  exact Nat.mod_eq_of_lt hd

theorem wrapSub_of_lt {a b W m k : Nat} (hW : W = m * (k + 1)) (hb : b < W) (h : a < b) (hd : b - a ≤ m) :
    (a % W + W - b % W) % W % m = m - (b - a) := by
  subst hW
  have hd' : b ≤ a + m := by omega
  rw [Nat.mod_mod_of_dvd _ ⟨k + 1, rfl⟩, Nat.mod_eq_of_lt (Nat.lt_trans h hb), Nat.mod_eq_of_lt hb,
    Nat.mul_succ, Nat.add_comm (m * k) m, ← Nat.add_assoc, Nat.sub_add_comm hd', Nat.add_mul_mod_self_left]
  rw [Nat.mod_eq_of_lt (by omega)]
  omega

/-- within ±2 GiB the displacement field is the signed distance from the end of the call -/
theorem targetAddr_near {tramp site : Nat} (ht : tramp < 2 ^ 64) (hs : site + 5 < 2 ^ 64)
    (hlo : site + 5 ≤ tramp + 2 ^ 31) (hhi : tramp < site + 5 + 2 ^ 31) :
    (targetAddr tramp site < 2 ^ 31 ∧ site + 5 + targetAddr tramp site = tramp) ∨
    (2 ^ 31 ≤ targetAddr tramp site ∧ site + 5 + targetAddr tramp site = tramp + 2 ^ 32) := by
  unfold targetAddr
  rw [show CALL_INSN_SIZE = 5 from rfl]
  by_cases h : site + 5 ≤ tramp
  · left
    rw [wrapSub_of_le (m := 2 ^ 32) (k := 2 ^ 32) (by decide) ht h (by omega)]
    omega
  · right
    rw [wrapSub_of_lt (m := 2 ^ 32) (k := 2 ^ 32 - 1) (by decide) hs (Nat.lt_of_not_le h) (by omega)]
    omega

/-- unpatch_func accepts what patch_fentry_code wrote -/
theorem callsEntryDirect_patched (cfg : Cfg) (c : Code) (o : Nat) (hin : o + 5 ≤ c.length)
    (ht0 : cfg.tramp ≠ 0) (ht : cfg.tramp < 2 ^ 64) (hs : cfg.start + o + 5 < 2 ^ 64)
    (hlo : ((cfg.start + o : Nat) : Int) + 5 - 2 ^ 31 ≤ cfg.tramp)
    (hhi : (cfg.tramp : Int) < ((cfg.start + o : Nat) : Int) + 5 + 2 ^ 31) :
    callsEntryDirect cfg (writeAt c o (callInsn (targetAddr cfg.tramp (cfg.start + o)))) o = true := by
  have hlt := targetAddr_lt cfg.tramp (cfg.start + o)
  have near := targetAddr_near ht hs (by omega) (by omega)
  rw [callsEntryDirect_iff]
  refine Or.inl ⟨ht0, ?_⟩
  generalize targetAddr cfg.tramp (cfg.start + o) = t at *
  have r := fun k (hk : k < 5) => rd_writeAt_inside c o (callInsn t) k hk hin
  have hrd : rd32 (writeAt c o (callInsn t)) (o + 1) = t := by
    unfold rd32
    rw [Nat.add_assoc o 1 1, Nat.add_assoc o 1 2, Nat.add_assoc o 1 3, r 1 (by decide), r (1 + 1) (by decide),
      r (1 + 2) (by decide), r (1 + 3) (by decide)]
    exact dec32_le32 t hlt
  unfold callTarget addS32
  rw [hrd, show CALL_INSN_SIZE = 5 from rfl, Nat.mod_eq_of_lt hs]
  rcases near with ⟨h1, h2⟩ | ⟨h1, h2⟩
  · rw [if_pos h1, h2]
    exact Nat.mod_eq_of_lt ht
  · rw [if_neg (Nat.not_lt.2 h1), show cfg.start + o + 5 + 2 ^ 64 - (2 ^ 32 - t) = cfg.tramp + 2 ^ 64 by omega,
      Nat.add_mod_right]
    exact Nat.mod_eq_of_lt ht

end Uft.Patch

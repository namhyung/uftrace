import Uft.Model.PyHook
import Uft.Lemmas.PyTrace
import Uft.Lemmas.McountOverflow
import Uft.Lemmas.StreamShape
/- Model/PyHook.lean: the symbol table and the written `.sym` file, the first-frame test, and libmcount's
   hooks behind the decision, for the end-to-end part of Props/C19. -/
namespace Uft.PyHook
open Uft.PyTrace

variable {β : Type} {cmp : β → β → Ordering} {isLib : β → Bool} {c : PCfg β}

/-- `strcmp(a, b) == 0` exactly for equal names — all the lookup needs of the comparison -/
def CmpEq (cmp : β → β → Ordering) : Prop := ∀ a b, cmp a b = .eq ↔ a = b

theorem find_link (hc : CmpEq cmp) (t : Tree β) (x : Sym β) (h : t.find cmp x.name = none) :
    (t.link cmp x).find cmp x.name = some x ∧
    ∀ n, n ≠ x.name → (t.link cmp x).find cmp n = t.find cmp n := by
  induction t with
  | leaf =>
    refine ⟨by simp [Tree.link, Tree.find, (hc x.name x.name).2 rfl], fun n hn => ?_⟩
    simp only [Tree.link, Tree.find]
    cases hcm : cmp x.name n with
    | eq => exact absurd ((hc _ _).1 hcm).symm hn
    | lt => rfl
    | gt => rfl
  | node l s r ihl ihr =>
    simp only [Tree.find] at h
    simp only [Tree.link]
    cases hcm : cmp s.name x.name with
    | eq => simp [hcm] at h
    | lt =>
      simp only [hcm] at h
      obtain ⟨h1, h2⟩ := ihl h
      refine ⟨by simp only [Tree.find, hcm, h1], fun n hn => ?_⟩
      simp only [Tree.find]
      cases cmp s.name n with
      | lt => exact h2 n hn
      | _ => rfl
    | gt =>
      simp only [hcm] at h
      obtain ⟨h1, h2⟩ := ihr h
      refine ⟨by simp only [Tree.find, hcm, h1], fun n hn => ?_⟩
      simp only [Tree.find]
      cases cmp s.name n with
      | gt => exact h2 n hn
      | _ => rfl

theorem find_convert (hc : CmpEq cmp) (t : Tree β) (shm : Shm β)
    (n : β) : (convert cmp isLib t shm n).1.find cmp n = some (convert cmp isLib t shm n).2.2 := by
  unfold convert
  cases h : t.find cmp n with
  | some s => simp [h]
  | none =>
    simp only
    exact (find_link hc t _ h).1

theorem convert_keeps (hc : CmpEq cmp) (t : Tree β) (shm : Shm β)
    (n m : β) (s : Sym β) (h : t.find cmp m = some s) :
    (convert cmp isLib t shm n).1.find cmp m = some s := by
  unfold convert
  cases hn : t.find cmp n with
  | some s' => simpa [hn] using h
  | none =>
    simp only
    have hne : m ≠ n := by
      intro e; subst e; simp [hn] at h
    rw [(find_link hc t _ hn).2 m hne]
    exact h

theorem convert_found (cmp : β → β → Ordering) (isLib : β → Bool) (t : Tree β) (shm : Shm β) (n : β) (s : Sym β)
    (h : t.find cmp n = some s) : convert cmp isLib t shm n = (t, shm, s) := by
  simp [convert, h]

structure ShmOk (shm : Shm β) : Prop where
  cnt : shm.count = shm.lines.length
  pos : ∀ (i : Nat) (h : i < shm.lines.length), (shm.lines[i]).addr = i + 1

/-- every entry of the tree is what the region says about its address -/
def TreeOk (cmp : β → β → Ordering) (isLib : β → Bool) (shm : Shm β) (t : Tree β) : Prop :=
  ∀ n s, t.find cmp n = some s →
    s.name = n ∧ s.lib = isLib n ∧ ∃ l ∈ shm.lines, l.addr = s.addr ∧ l.lib = s.lib ∧ l.name = n

theorem shmOk_empty : ShmOk (Shm.empty : Shm β) := ⟨rfl, fun i h => by simp [Shm.empty] at h⟩

theorem treeOk_leaf (shm : Shm β) : TreeOk cmp isLib shm .leaf := by
  intro n s h; simp [Tree.find] at h

theorem pos_snoc {γ : Type} (f : γ → Nat) (L : List γ) (x : γ)
    (hL : ∀ (i : Nat) (h : i < L.length), f L[i] = i + 1) (hx : f x = L.length + 1)
    (i : Nat) (h : i < (L ++ [x]).length) : f (L ++ [x])[i] = i + 1 := by
  rw [List.getElem_append]
  split
  · exact hL i _
  · have : i = L.length := by
      rw [List.length_append, List.length_singleton] at h
      omega
    simp only [this, Nat.sub_self, List.getElem_cons_zero, hx]

theorem convert_shm_mono (t : Tree β) (shm : Shm β) (n : β) :
    shm.lines ⊆ (convert cmp isLib t shm n).2.1.lines := by
  unfold convert
  cases h : t.find cmp n with
  | some s => exact List.Subset.refl _
  | none => exact List.subset_append_left _ _

theorem convert_shmOk (t : Tree β) (shm : Shm β) (n : β)
    (h : ShmOk shm) : ShmOk (convert cmp isLib t shm n).2.1 := by
  unfold convert
  cases hf : t.find cmp n with
  | some s => simpa using h
  | none => exact ⟨by simp [newSym, h.cnt], pos_snoc Line.addr shm.lines _ h.pos (by rw [h.cnt])⟩

theorem treeOk_mono {shm shm' : Shm β} {t : Tree β} (he : shm.lines ⊆ shm'.lines) (h : TreeOk cmp isLib shm t) :
    TreeOk cmp isLib shm' t := by
  intro n s hf
  obtain ⟨h1, h2, l, hl, h3⟩ := h n s hf
  exact ⟨h1, h2, l, he hl, h3⟩

theorem convert_treeOk (hc : CmpEq cmp) (t : Tree β) (shm : Shm β)
    (n : β) (h : TreeOk cmp isLib shm t) :
    TreeOk cmp isLib (convert cmp isLib t shm n).2.1 (convert cmp isLib t shm n).1 := by
  unfold convert
  cases hf : t.find cmp n with
  | some s => simpa using h
  | none =>
    simp only
    intro m s hm
    by_cases hmn : m = n
    · subst hmn
      rw [(find_link hc t ⟨m, (newSym shm m (isLib m)).2, isLib m⟩ hf).1] at hm
      cases hm
      exact ⟨rfl, rfl, ⟨shm.count + 1, isLib m, m⟩, by simp [newSym], rfl, rfl, rfl⟩
    · rw [(find_link hc t ⟨n, _, _⟩ hf).2 m hmn] at hm
      exact treeOk_mono (List.subset_append_left _ _) h m s hm

theorem resolve_consec (L : List (SymLine β)) (b j : Nat)
    (hc : ∀ (i : Nat) (h : i < L.length), (L[i]).addr = b + i) (hj : j + 1 < L.length) :
    resolve L (b + j) = (L[j]'(Nat.lt_of_succ_lt hj)).name := by
  induction L generalizing b j with
  | nil => exact absurd hj (Nat.not_lt_zero _)
  | cons x L ih =>
    cases L with
    | nil => exact absurd (Nat.lt_of_succ_lt_succ hj) (Nat.not_lt_zero _)
    | cons y rest =>
      have hx : x.addr = b := hc 0 (Nat.zero_lt_succ _)
      have hy : y.addr = b + 1 := hc 1 (Nat.succ_lt_succ (Nat.zero_lt_succ _))
      cases j with
      | zero => simp [resolve, hx, hy]
      | succ j =>
        have hnot : ¬ (x.addr ≤ b + (j + 1) ∧ b + (j + 1) < y.addr) := by omega
        rw [resolve, if_neg hnot, ← Nat.add_assoc b, Nat.add_right_comm b j 1]
        exact ih (b + 1) j (fun i h => by rw [Nat.add_right_comm, Nat.add_assoc]; exact hc (i + 1) (Nat.succ_lt_succ h))
          (Nat.lt_of_succ_lt_succ hj)

theorem symFile_consec (shm : Shm β) (h : ShmOk shm) (i : Nat) (hi : i < (symFile shm).length) :
    ((symFile shm)[i]).addr = 1 + i := by
  rw [Nat.add_comm]
  refine pos_snoc SymLine.addr _ _ (fun k hk => ?_) ?_ i hi
  · rw [List.getElem_map]
    exact h.pos k (by simpa using hk)
  · rw [List.length_map, h.cnt]

/-- whatever a tree says about a name resolves, through the written file, to that name -/
theorem treeOk_resolves {shm : Shm β} {t : Tree β} (hs : ShmOk shm) (ht : TreeOk cmp isLib shm t) {n : β} {s : Sym β}
    (h : t.find cmp n = some s) : resolve (symFile shm) s.addr = some n := by
  obtain ⟨_, _, l, hl, ha, _, hn⟩ := ht n s h
  obtain ⟨i, hi, rfl⟩ := List.getElem_of_mem hl
  have hlen : i + 1 < (symFile shm).length := by simp [symFile]; omega
  rw [← ha, ← hn, hs.pos i hi, Nat.add_comm,
    resolve_consec (symFile shm) 1 i (symFile_consec shm hs) hlen]
  simp only [symFile]
  rw [List.getElem_append_left (by simpa using hi)]
  simp

/-- … so two names with the same address, in whichever trees over one region, are the same name -/
theorem treeOk_addr_inj {shm : Shm β} {t1 t2 : Tree β} (hs : ShmOk shm) (h1 : TreeOk cmp isLib shm t1)
    (h2 : TreeOk cmp isLib shm t2) {a b : β} {sa sb : Sym β} (ha : t1.find cmp a = some sa)
    (hb : t2.find cmp b = some sb) (e : sa.addr = sb.addr) : a = b := by
  have ra := treeOk_resolves hs h1 ha
  rw [e, treeOk_resolves hs h2 hb] at ra
  exact (Option.some.inj ra).symm

structure WorldOk (cmp : β → β → Ordering) (isLib : β → Bool) (w : World β) : Prop where
  shm : ShmOk w.shm
  trees : ∀ p, TreeOk cmp isLib w.shm (w.trees p)

theorem worldOk_ops (hc : CmpEq cmp) (isLib : β → Bool) (ops : List (Op β)) :
    WorldOk cmp isLib (World.init.run cmp isLib ops) := by
  refine List.foldlRecOn ops _ ⟨shmOk_empty, fun _ => treeOk_leaf _⟩ fun w h op _ => ?_
  cases op with
  | lookup p n =>
    refine ⟨convert_shmOk _ _ n h.shm, fun q => ?_⟩
    simp only [World.step]
    by_cases hq : q = p
    · subst hq
      simpa using convert_treeOk hc (w.trees q) w.shm n (h.trees q)
    · -- the other processes' trees were fine for the region before it grew
      simp only [hq, ↓reduceIte]
      exact treeOk_mono (convert_shm_mono (w.trees p) w.shm n) (h.trees q)
  | fork p c =>
    refine ⟨h.shm, fun q => ?_⟩
    simp only [World.step]
    split
    · exact h.trees p
    · exact h.trees q

/-- the entry a process holds for a name survives everything that happens later, unless the
    pid is given to a new child -/
theorem world_keeps (hc : CmpEq cmp) (ops : List (Op β)) (w : World β) (p : Nat) (n : β) (s : Sym β)
    (hf : ∀ q c, Op.fork q c ∈ ops → c ≠ p) (h : (w.trees p).find cmp n = some s) :
    ((w.run cmp isLib ops).trees p).find cmp n = some s := by
  refine List.foldlRecOn (motive := fun w : World β => (w.trees p).find cmp n = some s) ops _ h fun w h op hm => ?_
  cases op with
  | lookup q m =>
    simp only [World.step]
    by_cases hq : p = q
    · subst hq
      simpa using convert_keeps hc (w.trees p) w.shm m n s h
    · simpa [hq] using h
  | fork q c =>
    have hpc : ¬ p = c := fun e => hf q c hm e.symm
    simpa [World.step, hpc] using h

/-- the shared model's reading of a hook call (its `exit` does nothing when no frame is open) -/
def mOut (cfg : Uft.Mcount.Cfg) (addr now : Nat) (m : Uft.Mcount.St) : Out (Node β) → Uft.Mcount.St
  | .enter _ => (Uft.Mcount.entry cfg .cyg m addr now).1
  | .exit => Uft.Mcount.exit cfg m now

theorem exit_idx_zero (cfg : Uft.Mcount.Cfg) (m : Uft.Mcount.St) (now : Nat) (h : m.idx = 0) :
    Uft.Mcount.exit cfg m now = m := by
  unfold Uft.Mcount.St.idx at h
  have h1 : m.over = 0 := by omega
  have h2 : m.frames = [] := List.eq_nil_of_length_eq_zero (by omega)
  simp [Uft.Mcount.exit, h1, h2]

/-- between hooks, libmcount's state `s` against the shared model's `m`: the same shadow stack, none on a
    thread that never entered a hook, nothing outside the array touched -/
def HSim (s : HSt) (m : Uft.Mcount.St) : Prop := s.m = m ∧ (s.prepared = false → m.idx = 0) ∧ s.oob = false

theorem hSim_init (h : HookCfg) : HSim (HSt.init h) (Uft.Mcount.St.init h.m) := by
  simp [HSim, HSt.init, Uft.Mcount.St.init, Uft.Mcount.St.idx]

theorem hookOut_guard (h : HookCfg) (hg : h.guard = true) (a t : Nat) (o : Out (Node β)) {s : HSt}
    {m : Uft.Mcount.St} (hi : HSim s m) : HSim (hookOut h a t s o) (mOut h.m a t m o) := by
  obtain ⟨rfl, hp, ho⟩ := hi
  cases o with
  | enter n => simp [hookOut, cygEnter, mOut, HSim, ho]
  | exit =>
    simp only [hookOut, mOut]
    by_cases hz : s.m.idx = 0
    · have : cygExit h s t = s := by simp [cygExit, hz, hg]
      rw [this, exit_idx_zero h.m s.m t hz]
      exact ⟨rfl, hp, ho⟩
    · -- a frame is open, so the thread has been through an entry hook
      have hp' : s.prepared = true := by simpa using mt hp hz
      simp [cygExit, hp', hz, HSim, ho]

/-- the decision and the shared hook model only -/
def mstepA (c : PCfg β) (addr : β → Nat) (s : St × Uft.Mcount.St) (e : Ev (Node β)) : St × Uft.Mcount.St :=
  (stepSt (liftCfg c.py) s.1 e,
   (stepOut (liftCfg c.py) s.1 e).foldl (mOut c.hk.m (addr e.name.name) (evTime e)) s.2)

def mrunA (c : PCfg β) (addr : β → Nat) (s : St × Uft.Mcount.St) (evs : List (Ev (Node β))) : St × Uft.Mcount.St :=
  evs.foldl (mstepA c addr) s

/-- with the guard libmcount's side of a run is the shared hook model -/
theorem prunA_guard (hg : c.hk.guard = true) (addr : β → Nat) (evs : List (Ev (Node β))) (p : St) (s : HSt)
    (m : Uft.Mcount.St) (hi : HSim s m) :
    (prunA c addr (p, s) evs).1 = (mrunA c addr (p, m) evs).1 ∧
    HSim (prunA c addr (p, s) evs).2 (mrunA c addr (p, m) evs).2 := by
  refine List.foldl_rel (r := fun (x : St × HSt) (y : St × Uft.Mcount.St) => x.1 = y.1 ∧ HSim x.2 y.2) ⟨rfl, hi⟩
    fun e _ x y ⟨h1, h2⟩ => ?_
  simp only [pstepA, mstepA, h1, true_and]
  exact List.foldl_rel h2 fun o _ _ _ => hookOut_guard c.hk hg _ _ o

theorem mrunA_append (addr : β → Nat) (s : St × Uft.Mcount.St) (a b : List (Ev (Node β))) :
    mrunA c addr s (a ++ b) = mrunA c addr (mrunA c addr s a) b := by
  simp [mrunA, List.foldl_append]

theorem mrunA_cons (addr : β → Nat) (s : St × Uft.Mcount.St) (e : Ev (Node β)) (es : List (Ev (Node β))) :
    mrunA c addr s (e :: es) = mrunA c addr (mstepA c addr s e) es := rfl

theorem liftCfg_fixed (c : Cfg β) : (liftCfg c).fixed = c.fixed := rfl

/- the composed machine on a call tree: the libmcount state after the events of a tree is the shared model's
   `runCalls` on the documented selection of that tree -/
mutual
theorem mrun_call (c : PCfg β) (hf : c.py.fixed = true) (addr : β → Nat) :
    ∀ (t : Call (Node β)) (s : St) (m : Uft.Mcount.St), WF (liftCfg c.py) s →
      (mrunA c addr (s, m) (events t)).1 = s ∧
      ∀ rest, Uft.Mcount.runCalls c.hk.m .cyg (mrunA c addr (s, m) (events t)).2 rest =
        Uft.Mcount.runCalls c.hk.m .cyg m (selCall (liftCfg c.py) addr (envA s) (envB s) (envL s) t rest)
  | .node n k kids, s, m, hw => by
    obtain ⟨s', hs1, hs2, w1, ha, hb, hl, ho1, ho2⟩ := node_step (liftCfg c.py) hf s hw n k
    simp only [events, mrunA_cons, mrunA_append, selCall]
    generalize traced (liftCfg c.py) _ n (envL s) = tr at ho1 ho2 ⊢
    rw [← hl, ← ha, ← hb]
    simp only [mrunA, List.foldl, mstepA, evTime, entry_isEntry, exit_isEntry, ↓reduceIte, Bool.false_eq_true,
      hs1, ho1]
    obtain ⟨k1, k2⟩ := mrun_calls c hf addr kids s'
      ((if tr then [Out.enter n] else []).foldl (mOut c.hk.m (addr n.name) n.t0) m) w1
    simp only [mrunA] at k1 k2
    rw [k1, hs2, ho2]
    refine ⟨rfl, fun rest => ?_⟩
    cases tr
    · exact k2 rest
    · -- recorded: entry hook, callees, exit hook = `runCall` of the shared model
      simp only [↓reduceIte, List.foldl, mOut, Uft.Mcount.runCalls, Uft.Mcount.runCall, Uft.Mcount.entry_cyg_took] at k2 ⊢
      rw [← k2 .nil]
      rfl
theorem mrun_calls (c : PCfg β) (hf : c.py.fixed = true) (addr : β → Nat) :
    ∀ (ts : Calls (Node β)) (s : St) (m : Uft.Mcount.St), WF (liftCfg c.py) s →
      (mrunA c addr (s, m) (eventsL ts)).1 = s ∧
      ∀ rest, Uft.Mcount.runCalls c.hk.m .cyg (mrunA c addr (s, m) (eventsL ts)).2 rest =
        Uft.Mcount.runCalls c.hk.m .cyg m (selCalls (liftCfg c.py) addr (envA s) (envB s) (envL s) ts rest)
  | .nil, s, m, _ => ⟨rfl, fun _ => rfl⟩
  | .cons x r, s, m, hw => by
    obtain ⟨c1, c2⟩ := mrun_call c hf addr x s m hw
    obtain ⟨r1, r2⟩ := mrun_calls c hf addr r s (mrunA c addr (s, m) (events x)).2 hw
    simp only [eventsL, mrunA_append, selCalls]
    rw [show mrunA c addr (s, m) (events x) = (s, (mrunA c addr (s, m) (events x)).2) from Prod.ext c1 rfl]
    exact ⟨r1, fun rest => by rw [r2 rest, c2]⟩
end

/-- the events that survive `skip_first_frame && frame == first_frame` once `first_frame = F` -/
def keepEv (F : Nat) (e : Ev (Node β)) : Bool := e.name.frame != F

theorem pstep_first (s : PSt β) (e : Ev (Node β)) (F : Nat) (hs : s.first = some F) :
    (pstep c s e).first = some F := by
  unfold pstep
  split <;> simp [firstOf, hs]

theorem pstep_skip (hk : c.skipFirst = true) (s : PSt β) (e : Ev (Node β)) (F : Nat)
    (hs : s.first = some F) (he : e.name.frame = F) : pstep c s e = s := by
  obtain ⟨first, tree, shm, py, hkst⟩ := s
  simp only at hs
  subst hs
  simp [pstep, skips, firstOf, hk, he]

/-- the very first event: its frame is remembered and the event is dropped -/
theorem pstep_init (hk : c.skipFirst = true) (e : Ev (Node β)) :
    pstep c (PSt.init c) e = { PSt.init c with first := some e.name.frame } := by
  simp [pstep, skips, firstOf, hk, PSt.init]

theorem prun_cons (s : PSt β) (e : Ev (Node β)) (es : List (Ev (Node β))) :
    prun c s (e :: es) = prun c (pstep c s e) es := rfl

theorem prun_append (c : PCfg β) (s : PSt β) (a b : List (Ev (Node β))) :
    prun c s (a ++ b) = prun c (prun c s a) b := by
  simp [prun, List.foldl_append]

/-- as coded: every event that carries the first frame's address is invisible -/
theorem prun_filter (hk : c.skipFirst = true) (F : Nat) (evs : List (Ev (Node β))) (s : PSt β)
    (hs : s.first = some F) : prun c s evs = prun c s (evs.filter (keepEv F)) := by
  induction evs generalizing s with
  | nil => rfl
  | cons e es ih =>
    by_cases he : e.name.frame = F
    · have : keepEv F e = false := by simp [keepEv, he]
      rw [List.filter_cons_of_neg (by simp [this]), prun_cons, pstep_skip hk s e F hs he]
      exact ih s hs
    · have : keepEv F e = true := by simp [keepEv, he]
      rw [List.filter_cons_of_pos this, prun_cons, prun_cons]
      exact ih _ (pstep_first s e F hs)

/- on a forest, dropping the events of frame `F` is dropping the calls whose frame object sits
   at `F` (and their direct C calls, which carry the caller's frame): the callees move up -/
mutual
theorem filter_events (F : Nat) : ∀ (t : Call (Node β)) (rest : Calls (Node β)),
    (events t).filter (keepEv F) ++ eventsL rest = eventsL (pruneCall F t rest)
  | .node n k kids, rest => by
    cases hp : n.frame == F
    · -- both events stay; the callees are pruned inside the call
      simp only [events, pruneCall, List.filter_cons, List.filter_append, List.filter_nil, keepEv, bne, hp,
        Bool.not_false, ↓reduceIte, Bool.false_eq_true, eventsL, ← filter_eventsL F kids .nil,
        List.append_nil, List.cons_append, List.append_assoc, List.nil_append]
    · -- both events go; the callees take the place of the call
      simp only [events, pruneCall, List.filter_cons, List.filter_append, List.filter_nil, keepEv, bne, hp,
        Bool.not_true, Bool.false_eq_true, ↓reduceIte, List.append_nil]
      exact filter_eventsL F kids rest
theorem filter_eventsL (F : Nat) : ∀ (ts : Calls (Node β)) (rest : Calls (Node β)),
    (eventsL ts).filter (keepEv F) ++ eventsL rest = eventsL (pruneCalls F ts rest)
  | .nil, rest => rfl
  | .cons x r, rest => by
    simp only [eventsL, pruneCalls, List.filter_append, List.append_assoc]
    rw [filter_eventsL F r rest]
    exact filter_events F x _
end

theorem prun_keeps (hc : CmpEq c.cmp) (evs : List (Ev (Node β))) (s : PSt β) (n : β) (sym : Sym β)
    (h : s.tree.find c.cmp n = some sym) : (prun c s evs).tree.find c.cmp n = some sym := by
  refine List.foldlRecOn (motive := fun s : PSt β => s.tree.find c.cmp n = some sym) evs _ h fun s h e _ => ?_
  unfold pstep
  split
  · exact h
  · exact convert_keeps hc s.tree s.shm e.name.name n sym h

structure TabOk (c : PCfg β) (s : PSt β) : Prop where
  shm : ShmOk s.shm
  tree : TreeOk c.cmp c.py.isLib s.shm s.tree

theorem tabOk_prun (hc : CmpEq c.cmp) (evs : List (Ev (Node β))) (s : PSt β) (h : TabOk c s) :
    TabOk c (prun c s evs) := by
  refine List.foldlRecOn evs _ h fun s h e _ => ?_
  unfold pstep
  split
  · exact ⟨h.shm, h.tree⟩
  · exact ⟨convert_shmOk _ _ _ h.shm, convert_treeOk hc _ _ _ h.tree⟩

theorem skips_false (F fr : Nat) (h : fr ≠ F) : skips c (some F) fr = false := by
  have : (F == fr) = false := by simp [Ne.symm h]
  simp [skips, firstOf, this]

/-- an event that is not dropped leaves its function in the table -/
theorem pstep_find (hc : CmpEq c.cmp) (s : PSt β) (e : Ev (Node β)) (F : Nat) (hs : s.first = some F)
    (hf : e.name.frame ≠ F) : (pstep c s e).tree.find c.cmp e.name.name =
      some (convert c.cmp c.py.isLib s.tree s.shm e.name.name).2.2 := by
  simp only [pstep, hs, skips_false F _ hf, Bool.false_eq_true, ↓reduceIte]
  exact find_convert hc s.tree s.shm e.name.name

theorem prun_seen (hc : CmpEq c.cmp) (F : Nat) (evs : List (Ev (Node β))) (s : PSt β) (e : Ev (Node β))
    (hs : s.first = some F) (hm : e ∈ evs) (hf : e.name.frame ≠ F) :
    ∃ sym, (prun c s evs).tree.find c.cmp e.name.name = some sym := by
  induction evs generalizing s with
  | nil => simp at hm
  | cons x xs ih =>
    rw [prun_cons]
    rcases List.mem_cons.mp hm with rfl | hm
    · exact ⟨_, prun_keeps hc xs _ _ _ (pstep_find hc s e F hs hf)⟩
    · exact ih _ (pstep_first s x F hs) hm

/-- two names with the same address are the same name -/
theorem tab_injective (c : PCfg β) (s : PSt β) (h : TabOk c s) (a b : β) (sa sb : Sym β)
    (ha : s.tree.find c.cmp a = some sa) (hb : s.tree.find c.cmp b = some sb) (e : sa.addr = sb.addr) : a = b :=
  treeOk_addr_inj h.shm h.tree h.tree ha hb e

/-- the hook calls of a run are those of the table-free machine with the addresses of the final
    tree -/
theorem prun_eq_prunA (hc : CmpEq c.cmp) (F : Nat) (addr : β → Nat) (evs : List (Ev (Node β))) (s : PSt β)
    (hs : s.first = some F) (hfr : ∀ e ∈ evs, e.name.frame ≠ F)
    (ha : ∀ n sym, (prun c s evs).tree.find c.cmp n = some sym → addr n = sym.addr) :
    ((prun c s evs).py, (prun c s evs).hk) = prunA c addr (s.py, s.hk) evs := by
  induction evs generalizing s with
  | nil => rfl
  | cons e es ih =>
    rw [prun_cons] at ha ⊢
    have hne := hfr e List.mem_cons_self
    rw [ih _ (pstep_first s e F hs) (fun x hx => hfr x (List.mem_cons_of_mem _ hx)) ha]
    have haddr := ha _ _ (prun_keeps hc es _ _ _ (pstep_find hc s e F hs hne))
    simp only [prunA, List.foldl, pstepA, pstep, hs, skips_false F _ hne, Bool.false_eq_true, ↓reduceIte, haddr]

mutual
  /-- libmcount reads 0 as "still running": no call ends at clock reading 0 -/
  def ClockOk : Call (Node β) → Prop
    | .node n _ kids => n.t1 ≠ 0 ∧ ClockOkL kids
  def ClockOkL : Calls (Node β) → Prop
    | .nil => True
    | .cons x r => ClockOk x ∧ ClockOkL r
end

mutual
theorem selCall_okFor (cfg : Uft.Mcount.Cfg) (hs4 : cfg.s4fixed = true) (c : Cfg (Node β)) (addr : β → Nat) :
    ∀ (t : Call (Node β)) (a b : Bool) (ld : Nat) (rest : Uft.Mcount.Calls), ClockOk t → rest.okFor cfg →
      (selCall c addr a b ld t rest).okFor cfg
  | .node n k kids, a, b, ld, rest, ht, hr => by
    simp only [ClockOk] at ht
    simp only [selCall]
    split
    · simp only [Uft.Mcount.Calls.okFor, Uft.Mcount.Call.okFor]
      exact ⟨⟨⟨Uft.Mcount.durOk_fixed cfg hs4 _, ht.1⟩, selCalls_okFor cfg hs4 c addr kids _ _ _ .nil ht.2 trivial⟩, hr⟩
    · exact selCalls_okFor cfg hs4 c addr kids _ _ _ rest ht.2 hr
theorem selCalls_okFor (cfg : Uft.Mcount.Cfg) (hs4 : cfg.s4fixed = true) (c : Cfg (Node β)) (addr : β → Nat) :
    ∀ (ts : Calls (Node β)) (a b : Bool) (ld : Nat) (rest : Uft.Mcount.Calls), ClockOkL ts → rest.okFor cfg →
      (selCalls c addr a b ld ts rest).okFor cfg
  | .nil, _, _, _, rest, _, hr => by simpa [selCalls] using hr
  | .cons x r, a, b, ld, rest, ht, hr => by
    simp only [ClockOkL] at ht
    simp only [selCalls]
    exact selCall_okFor cfg hs4 c addr x a b ld _ ht.1 (selCalls_okFor cfg hs4 c addr r a b ld rest ht.2 hr)
end

/- the eager trace of a selection followed by `rest` -/
mutual
theorem evB_selCall (c : Cfg (Node β)) (addr : β → Nat) : ∀ (t : Call (Node β)) (a b : Bool) (ld d bd : Nat)
    (rest : Uft.Mcount.Calls),
    Uft.Mcount.evCallsB d bd (selCall c addr a b ld t rest) =
      Uft.Mcount.evCallsB d bd (selCall c addr a b ld t .nil) ++ Uft.Mcount.evCallsB d bd rest
  | .node n k kids, a, b, ld, d, bd, rest => by
    simp only [selCall]
    split
    · simp [Uft.Mcount.evCallsB]
    · exact evB_selCalls c addr kids _ _ _ d bd rest
theorem evB_selCalls (c : Cfg (Node β)) (addr : β → Nat) : ∀ (ts : Calls (Node β)) (a b : Bool) (ld d bd : Nat)
    (rest : Uft.Mcount.Calls),
    Uft.Mcount.evCallsB d bd (selCalls c addr a b ld ts rest) =
      Uft.Mcount.evCallsB d bd (selCalls c addr a b ld ts .nil) ++ Uft.Mcount.evCallsB d bd rest
  | .nil, _, _, _, d, bd, rest => by simp [selCalls, Uft.Mcount.evCallsB]
  | .cons x r, a, b, ld, d, bd, rest => by
    simp only [selCalls]
    rw [evB_selCall c addr x a b ld d bd (selCalls c addr a b ld r rest),
      evB_selCall c addr x a b ld d bd (selCalls c addr a b ld r .nil),
      evB_selCalls c addr r a b ld d bd rest]
    simp
end

theorem firstMatch_liftCfg (c : Cfg β) (n : Node β) :
    firstMatch (liftCfg c).flist n = firstMatch c.flist n.name := by
  unfold liftCfg Cfg.flist
  cases c.filters with
  | none => rfl
  | some fs =>
    simp only [Option.map]
    induction fs with
    | nil => rfl
    | cons f fs ih => simp [firstMatch, ih]

/-- an exit event ends in at most one hook call, an exit: a state that an exit hook leaves alone is
    left alone by the event -/
theorem foldl_stepOut_exit {σ : Type} (cfg : Cfg (Node β)) (s : St) (n : Node β) (k : CKind)
    (f : σ → Out (Node β) → σ) (x : σ) (hx : f x .exit = x) : (stepOut cfg s ⟨k.exit, n⟩).foldl f x = x := by
  unfold stepOut
  split
  · simp [hx]
  · rfl

theorem mstep_stray (addr : β → Nat) (n : Node β) (k : CKind) (m : Uft.Mcount.St)
    (hm : firstMatch (liftCfg c.py).flist n = none) (hidx : m.idx = 0) :
    mstepA c addr (St.init, m) ⟨k.exit, n⟩ = (St.init, m) := by
  unfold mstepA
  rw [stepSt_stray (liftCfg c.py) n k hm, foldl_stepOut_exit _ _ n k _ m (exit_idx_zero _ _ _ hidx)]

theorem mrun_forest (hf : c.py.fixed = true) (hp : Uft.Mcount.Plain c.hk.m) (hs4 : c.hk.m.s4fixed = true)
    (hdo : c.hk.m.maxStack ≤ c.hk.m.depthOpt) (addr : β → Nat) (f0 : Calls (Node β)) (m : Uft.Mcount.St)
    (hg : Uft.Mcount.GoodW m 0) (hck : ClockOkL f0) :
    ∃ m', mrunA c addr (St.init, m) (eventsL f0) = (St.init, m') ∧
      Uft.Mcount.eager m' =
        Uft.Mcount.eager m ++ Uft.Mcount.evCallsB 0 c.hk.m.maxStack (selCalls (liftCfg c.py) addr false false 0 f0 .nil) ∧
      Uft.Mcount.GoodW m' 0 := by
  obtain ⟨h1, h2⟩ := mrun_calls c hf addr f0 St.init m (wf_init _)
  have hok := selCalls_okFor c.hk.m hs4 (liftCfg c.py) addr f0 false false 0 .nil hck trivial
  obtain ⟨o1, _, o3⟩ := Uft.Mcount.over_calls c.hk.m hp .cyg hdo _ m 0 hg (Nat.zero_le _) hok
  have h2' : _ = Uft.Mcount.runCalls c.hk.m .cyg m (selCalls (liftCfg c.py) addr false false 0 f0 .nil) := h2 .nil
  rw [← h2'] at o1 o3
  exact ⟨_, Prod.ext h1 rfl, o1, o3⟩

/-- the libmcount state after a whole run (program forest, then lone exits with whatever runs after each), from a
    state between hooks at depth 0 -/
theorem mrun_prog (hf : c.py.fixed = true) (hp : Uft.Mcount.Plain c.hk.m) (hs4 : c.hk.m.s4fixed = true)
    (hdo : c.hk.m.maxStack ≤ c.hk.m.depthOpt) (addr : β → Nat)
    (tl : List (CKind × Node β × Calls (Node β))) (f0 : Calls (Node β)) (m : Uft.Mcount.St)
    (hg : Uft.Mcount.GoodW m 0) (hck : ClockOkL f0) (hcl : ∀ x ∈ tl, ClockOkL x.2.2)
    (hnm : ∀ x ∈ tl, firstMatch (liftCfg c.py).flist x.2.1 = none) :
    ∃ m', mrunA c addr (St.init, m) (progEvents f0 tl) = (St.init, m') ∧
      Uft.Mcount.eager m' =
        Uft.Mcount.eager m ++ Uft.Mcount.evCallsB 0 c.hk.m.maxStack (selProg (liftCfg c.py) addr f0 tl) ∧
      Uft.Mcount.GoodW m' 0 := by
  induction tl generalizing f0 m with
  | nil =>
    rw [show progEvents f0 [] = eventsL f0 from List.append_nil _]
    exact mrun_forest hf hp hs4 hdo addr f0 m hg hck
  | cons x r ih =>
    obtain ⟨k, n, f1⟩ := x
    obtain ⟨m1, h1, h2, h3⟩ := mrun_forest hf hp hs4 hdo addr f0 m hg hck
    obtain ⟨m2, i1, i2, i3⟩ := ih f1 m1 h3 (hcl _ List.mem_cons_self) (fun x hx => hcl x (List.mem_cons_of_mem _ hx))
      (fun x hx => hnm x (List.mem_cons_of_mem _ hx))
    refine ⟨m2, ?_, ?_, i3⟩
    · rw [show progEvents f0 ((k, n, f1) :: r) = eventsL f0 ++ (⟨k.exit, n⟩ :: progEvents f1 r) from rfl,
        mrunA_append, h1, mrunA_cons,
        mstep_stray addr n k _ (hnm _ List.mem_cons_self) (by simp [Uft.Mcount.St.idx, h3.good.over, h3.good.len])]
      exact i1
    · rw [i2, h2, show selProg _ addr f0 ((k, n, f1) :: r) = selCalls _ addr false false 0 f0 (selProg _ addr f1 r) from rfl,
        evB_selCalls _ _ f0 _ _ _ _ _ (selProg _ _ f1 r), List.append_assoc]

/-- the final tables of a sequence of code-object events (Model/PyHook §6) -/
def runCodeTab (cmp : β → β → Ordering) (isLib : β → Bool) : Tree β → Shm β → List (CEv β) → Tree β × Shm β
  | t, shm, [] => (t, shm)
  | t, shm, e :: es =>
    let r := convertCode cmp isLib t shm e
    runCodeTab cmp isLib r.1 r.2.1 es

theorem convertCode_ok (hc : CmpEq cmp) (t : Tree β) (shm : Shm β)
    (e : CEv β) (hs : ShmOk shm) (ht : TreeOk cmp isLib shm t) :
    ShmOk (convertCode cmp isLib t shm e).2.1 ∧
    TreeOk cmp isLib (convertCode cmp isLib t shm e).2.1 (convertCode cmp isLib t shm e).1 := by
  unfold convertCode
  cases h : e.heap e.code with
  | none => exact ⟨hs, ht⟩
  | some n => exact ⟨convert_shmOk _ _ _ hs, convert_treeOk hc _ _ _ ht⟩

/-- the symbol of an event carries the name of the code object that lives at the event's
    address at that moment, and it is the table's entry for that name afterwards -/
theorem convertCode_name (hc : CmpEq cmp) (t : Tree β) (shm : Shm β)
    (e : CEv β) (ht : TreeOk cmp isLib shm t) :
    (convertCode cmp isLib t shm e).2.2.map Sym.name = e.heap e.code ∧
    ∀ s, (convertCode cmp isLib t shm e).2.2 = some s →
      (convertCode cmp isLib t shm e).1.find cmp s.name = some s := by
  unfold convertCode
  cases h : e.heap e.code with
  | none => simp
  | some n =>
    have hf := find_convert hc (isLib := isLib) t shm n
    have hn := (convert_treeOk hc t shm n ht) n _ hf
    constructor
    · simp [hn.1]
    · intro s hs
      simp only [Option.some.injEq] at hs
      subst hs
      rw [hn.1]; exact hf

theorem runCodeTab_keeps (hc : CmpEq cmp) (evs : List (CEv β)) (t : Tree β) (shm : Shm β) (m : β) (s : Sym β)
    (h : t.find cmp m = some s) : (runCodeTab cmp isLib t shm evs).1.find cmp m = some s := by
  induction evs generalizing t shm with
  | nil => exact h
  | cons e es ih =>
    refine ih _ _ ?_
    unfold convertCode
    cases e.heap e.code with
    | none => exact h
    | some n => exact convert_keeps hc t shm n m s h

theorem runCode_spec (hc : CmpEq cmp) (evs : List (CEv β)) (t : Tree β) (shm : Shm β) (hs : ShmOk shm)
    (ht : TreeOk cmp isLib shm t) :
    (runCode cmp isLib t shm evs).map (Option.map Sym.name) = evs.map (fun e => e.heap e.code) ∧
    (∀ s, some s ∈ runCode cmp isLib t shm evs → (runCodeTab cmp isLib t shm evs).1.find cmp s.name = some s) ∧
    ShmOk (runCodeTab cmp isLib t shm evs).2 ∧
    TreeOk cmp isLib (runCodeTab cmp isLib t shm evs).2 (runCodeTab cmp isLib t shm evs).1 := by
  induction evs generalizing t shm with
  | nil => exact ⟨rfl, fun s h => by simp [runCode] at h, hs, ht⟩
  | cons e es ih =>
    obtain ⟨hs', ht'⟩ := convertCode_ok hc t shm e hs ht
    obtain ⟨hn, hk⟩ := convertCode_name hc t shm e ht
    obtain ⟨i1, i2, i3⟩ := ih _ _ hs' ht'
    refine ⟨?_, fun s h => ?_, i3⟩
    · simp only [runCode, List.map_cons, hn]
      rw [i1]
    · simp only [runCode, List.mem_cons] at h
      rcases h with h | h
      · exact runCodeTab_keeps hc es _ _ _ _ (hk s h.symm)
      · exact i2 s h

end Uft.PyHook

import Uft.Model.Fstack
/- C07, the look-ahead of get_task_ustack: on the eager trace of a call forest it keeps exactly `pruneCalls`.
   An ENTRY is held back until its EXIT decides; once a call is kept, everything held is handed over. -/
namespace Uft.Fstack
open Uft.Mcount (Rec Trigger Call Calls evCall evCalls)

mutual
  /-- clock readings are ordered: every call returns no earlier than it was entered -/
  def Call.ordered : Call → Prop
    | .node _ t0 t1 kids => t0 ≤ t1 ∧ Calls.ordered kids
  def Calls.ordered : Calls → Prop
    | .nil => True
    | .cons x rest => Call.ordered x ∧ Calls.ordered rest
end

def NoRange (c : RCfg) : Prop := c.rangeStart = 0 ∧ c.rangeStop = 0

theorem inRange_of_noRange (c : RCfg) (h : NoRange c) (t : Nat) : inRange c t = true := by
  simp [inRange, h.1, h.2]

/-- an ENTRY record is held back; a time= trigger pushes its threshold -/
theorem laStep_entry (c : RCfg) (hr : NoRange c) (s : LA) (r : Rec) (ht : r.type = 0) :
    laStep c s r =
      { held := r :: s.held,
        stack := if (c.trig r.addr).time.isSome then
                   { depth := r.depth, thr := (c.trig r.addr).time.getD (curThr c s.stack) } :: s.stack
                 else s.stack,
        out := s.out } := by
  simp [laStep, inRange_of_noRange c hr, ht]

/-- the EXIT record of a call whose ENTRY is still the newest held record (nothing below it stayed): both
    are dropped if the call was too short or is no -C function, unless it has the trace trigger -/
theorem laStep_exit_held (c : RCfg) (hr : NoRange c) (e x : Rec) (held : List Rec) (stk : List TF) (out : List Rec)
    (he : e.type = 0) (hx : x.type = 1) (hle : e.time ≤ x.time) :
    laStep c { held := e :: held, stack := stk, out := out } x =
      (if (decide (x.time - e.time < (c.trig x.addr).time.getD (curThr c stk)) ||
            (c.callerMode && !(c.trig x.addr).caller)) && !(c.trig x.addr).trace then
         { held := held, stack := popTF x.depth stk, out := out }
       else { held := [], stack := popTF x.depth stk, out := out ++ (x :: e :: held).reverse }) := by
  have hd : delta x e = x.time - e.time := by simp [delta, hle]
  simp only [laStep, inRange_of_noRange c hr, hx, lastEntry, he, hd, LA.flush, dropToEntry, Bool.not_true,
    Bool.false_eq_true, ↓reduceIte, Nat.succ_ne_self, or_true]
  generalize (decide (x.time - e.time < (c.trig x.addr).time.getD (curThr c stk)) ||
    (c.callerMode && !(c.trig x.addr).caller)) = b
  cases b <;> cases (c.trig x.addr).trace <;> rfl

/-- … and when the list was handed over in between, the EXIT finds no ENTRY and is handed over too -/
theorem laStep_exit_flushed (c : RCfg) (hr : NoRange c) (x : Rec) (stk : List TF) (out : List Rec) (hx : x.type = 1) :
    laStep c { held := [], stack := stk, out := out } x =
      { held := [], stack := popTF x.depth stk, out := out ++ [x] } := by
  simp [laStep, inRange_of_noRange c hr, hx, lastEntry, LA.flush]

def laRun (c : RCfg) (s : LA) (rs : List Rec) : LA := rs.foldl (laStep c) s

theorem laRun_append (c : RCfg) (s : LA) (a b : List Rec) : laRun c s (a ++ b) = laRun c (laRun c s a) b := by
  simp [laRun, List.foldl_append]

theorem laRun_cons (c : RCfg) (s : LA) (r : Rec) (rs : List Rec) : laRun c s (r :: rs) = laRun c (laStep c s r) rs := rfl

theorem laRun_nil (c : RCfg) (s : LA) : laRun c s [] = s := rfl

/-- the state after a sub-forest: untouched if nothing of it stays, else everything held so far
    and the kept records have been handed over -/
def laAfter (s : LA) (nothing : Bool) (evs : List Rec) : LA :=
  if nothing then s else { held := [], stack := s.stack, out := s.out ++ s.held.reverse ++ evs }

theorem popTF_keep (d : Nat) (stk : List TF) (h : ∀ t ∈ stk, t.depth < d) : popTF d stk = stk := by
  cases stk with
  | nil => rfl
  | cons t rest =>
    have := h t (by simp)
    simp [popTF]; omega

theorem evCalls_isNil (d : Nat) (xs : Calls) (h : Calls.isNil xs = true) : evCalls d xs = [] := by
  cases xs with
  | nil => rfl
  | cons x r => simp [Calls.isNil] at h

theorem isNil_cons (a : Call) (b : Calls) : Calls.isNil (.cons a b) = false := rfl

/-- kept by `pruneCall` = not filtered by the look-ahead's EXIT test -/
theorem keepDur_not_filtered (dur thr : Nat) (cm cl : Bool) :
    (keepDur false dur thr && (!cm || cl)) = !(decide (dur < thr) || (cm && !cl)) := by
  have : decide (dur ≥ thr) = !decide (dur < thr) := by
    by_cases h : dur < thr <;> simp [h] <;> omega
  simp only [keepDur, Bool.false_eq_true, ↓reduceIte, this]
  cases decide (dur < thr) <;> cases cm <;> cases cl <;> rfl

mutual
theorem la_call (c : RCfg) (hr : NoRange c) : ∀ (x : Call) (d : Nat) (s : LA), Call.ordered x →
    (∀ t ∈ s.stack, t.depth < d) →
    laRun c s (evCall d x) =
      (match pruneCall c false (curThr c s.stack) x with
       | some x' => laAfter s false (evCall d x')
       | none => s)
  | .node f t0 t1 kids, d, s, ho, hst => by
    simp only [Call.ordered] at ho
    have hE := laStep_entry c hr s { time := t0, type := 0, depth := d, addr := f } rfl
    dsimp only at hE
    generalize hthr : (c.trig f).time.getD (curThr c s.stack) = thr' at hE
    generalize hstk : (if (c.trig f).time.isSome = true then { depth := d, thr := thr' } :: s.stack else s.stack) = stk1 at hE
    -- the threshold in force below this call, and what the EXIT pops
    have hcur : curThr c stk1 = thr' := by
      rw [← hstk]
      cases ht : (c.trig f).time with
      | none => simpa [ht] using hthr
      | some v => simp [curThr]
    have hst1 : ∀ t ∈ stk1, t.depth < d + 1 := by
      rw [← hstk]
      split
      · intro t ht
        simp only [List.mem_cons] at ht
        rcases ht with rfl | ht
        · simp
        · have := hst t ht; omega
      · intro t ht; have := hst t ht; omega
    have hpop : popTF d stk1 = s.stack := by
      rw [← hstk]
      split
      · simp [popTF]
      · exact popTF_keep d s.stack hst
    have hthr1 : (c.trig f).time.getD (curThr c stk1) = thr' := by
      rw [hcur]
      cases ht : (c.trig f).time with
      | none => rfl
      | some v =>
        rw [ht] at hthr
        exact hthr
    have hk := la_calls c hr kids (d + 1)
      { held := { time := t0, type := 0, depth := d, addr := f } :: s.held, stack := stk1, out := s.out } ho.2 hst1
    rw [hcur] at hk
    simp only [evCall, laRun_append, List.singleton_append, laRun_cons, laRun_nil, hE, hk, pruneCall, hthr]
    generalize pruneCalls c false thr' kids = ks
    cases hnil : Calls.isNil ks with
    | true =>
      -- nothing below stays: the ENTRY is still the newest held record
      have hev : evCalls (d + 1) ks = [] := evCalls_isNil _ _ hnil
      simp only [laAfter, ↓reduceIte, Bool.not_true, Bool.or_false]
      rw [laStep_exit_held c hr _ { time := t1, type := 1, depth := d, addr := f } _ _ _ rfl rfl ho.1]
      dsimp only
      rw [hthr1, hpop, keepDur_not_filtered]
      generalize (decide (t1 - t0 < thr') || (c.callerMode && !(c.trig f).caller)) = b
      cases b <;> cases (c.trig f).trace <;> simp [evCall, hev, List.append_assoc]
    | false =>
      -- something below stayed: the list was handed over, the EXIT finds no ENTRY in it
      simp only [laAfter, Bool.false_eq_true, ↓reduceIte, Bool.not_false, Bool.or_true]
      rw [laStep_exit_flushed c hr _ _ _ rfl]
      simp [hpop, evCall, List.append_assoc]
theorem la_calls (c : RCfg) (hr : NoRange c) : ∀ (xs : Calls) (d : Nat) (s : LA), Calls.ordered xs →
    (∀ t ∈ s.stack, t.depth < d) →
    laRun c s (evCalls d xs) =
      laAfter s (Calls.isNil (pruneCalls c false (curThr c s.stack) xs))
        (evCalls d (pruneCalls c false (curThr c s.stack) xs))
  | .nil, d, s, _, _ => by simp [evCalls, laRun_nil, pruneCalls, Calls.isNil, laAfter]
  | .cons x rest, d, s, ho, hst => by
    simp only [Calls.ordered] at ho
    have hx := la_call c hr x d s ho.1 hst
    simp only [evCalls, laRun_append, hx, pruneCalls]
    cases hp : pruneCall c false (curThr c s.stack) x with
    | none =>
      simp only
      exact la_calls c hr rest d s ho.2 hst
    | some x' =>
      simp only
      have hr' := la_calls c hr rest d (laAfter s false (evCall d x')) ho.2 (by simpa [laAfter] using hst)
      rw [hr']
      have hstk : (laAfter s false (evCall d x')).stack = s.stack := by simp [laAfter]
      rw [hstk]
      rcases Bool.eq_false_or_eq_true (Calls.isNil (pruneCalls c false (curThr c s.stack) rest)) with hn | hn
      · have := evCalls_isNil d _ hn
        simp [laAfter, hn, isNil_cons, evCalls, this]
      · simp [laAfter, hn, isNil_cons, evCalls, List.append_assoc]
end

theorem lookahead_forest (c : RCfg) (hr : NoRange c) (xs : Calls) (ho : Calls.ordered xs) :
    lookahead c (evCalls 0 xs) = evCalls 0 (pruneCalls c false c.threshold xs) := by
  have h := la_calls c hr xs 0 {} ho (by simp)
  simp only [lookahead]
  change (laRun c {} (evCalls 0 xs)).out ++ (laRun c {} (evCalls 0 xs)).held.reverse = _
  rw [h]
  simp only [curThr]
  rcases Bool.eq_false_or_eq_true (Calls.isNil (pruneCalls c false c.threshold xs)) with hn | hn
  · simp [laAfter, hn, evCalls_isNil _ _ hn]
  · simp [laAfter, hn]

end Uft.Fstack

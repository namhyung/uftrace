/- C08 helper lemmas: the reader's stack machine on the record stream of a call tree, under any
   keying of the nodes (`stepFK`): the updates it makes are the tree's (`updsK`). -/
import Uft.Lemmas.ReportTree
namespace Uft.Report
open Uft.Mcount (Call Calls)

theorem runTG_append (stp : Task → Rec → Task × List Upd) (t : Task) (a b : List Rec) :
    runTG stp t (a ++ b) =
      ((runTG stp (runTG stp t a).1 b).1, (runTG stp t a).2 ++ (runTG stp (runTG stp t a).1 b).2) := by
  induction a generalizing t with
  | nil => simp [runTG]
  | cons r rs ih => simp [runTG, ih, List.append_assoc]

@[simp] theorem slot?_natCast (stk : List Fs) (n : Nat) : slot? stk (n : Int) = stk[n]? := by
  have h : ¬ ((n : Int) < 0) := by omega
  simp [slot?, h]

/-- the reader is in step with the stream at stack depth `n`: no LOST pending, and `stack_count`
    set, or about to be set to 0 by a first record of depth `d = 0` -/
structure Ready (t : Task) (n d : Nat) : Prop where
  sc : t.sc = n
  lost : t.lost = false
  fset : t.fset = true ∨ (n = 0 ∧ d = 0)

theorem acctInit_ready (t : Task) (n : Nat) (r : Rec) (hr : Ready t n r.depth) (hty : r.typ = 0) :
    acctInit t r = { t with fset := true } := by
  obtain ⟨hs, _, hf⟩ := hr
  cases t with
  | mk sc usc fset lost stk tsLast lastTime =>
    rcases hf with h | ⟨h1, h2⟩
    · simp only at h
      subst h
      simp [acctInit]
    · simp only [h1] at hs
      subst hs
      cases fset <;> simp [acctInit, depthCount, h2, hty, initSlots]

/-- the reader after an ENTRY record taken at stack depth `n` -/
def entryTask (t : Task) (n : Nat) (r : Rec) : Task :=
  { t with fset := true, sc := ((n + 1 : Nat) : Int), usc := t.usc + 1,
           stk := t.stk.set n { addr := r.addr, total := r.time, child := 0, valid := true },
           tsLast := r.time, lastTime := r.time }

theorem stepFK_entry (ky : Keying) (t : Task) (n : Nat) (r : Rec) (hr : Ready t n r.depth)
    (hty : r.typ = 0) (hn : n < t.stk.length) :
    stepFK ky t r = (entryTask t n r, []) := by
  unfold entryTask
  have hi := acctInit_ready t n r hr hty
  have hget : t.stk[n]? = some t.stk[n] := List.getElem?_eq_getElem hn
  simp [stepFK, consume, account, hty, hi, hr.lost, acctResync, acctEntry, hr.sc, hget, updCount]

def Fs.addChild (d : Nat) (fs : Fs) : Fs := { fs with child := add64 fs.child d }

@[simp] theorem bump_length (stk : List Fs) (i d : Nat) : (bump stk i d).length = stk.length := by
  unfold bump
  split <;> simp

theorem bump_getElem? (stk : List Fs) (i d k : Nat) :
    (bump stk i d)[k]? = if k = i then (stk[k]?).map (Fs.addChild d) else stk[k]? := by
  unfold bump
  by_cases hk : k = i
  · subst hk
    cases h : stk[k]? with
    | none => simp [h]
    | some fs => simp [Fs.addChild, (List.getElem?_eq_some_iff.mp h).1]
  · cases stk[i]? <;> simp [hk, Ne.symm hk]

/-! ### closing a frame: EXIT (fstack.c:1994-2015) and `add_remaining_fstack` do the same to the stack -/

/-- `func_stack` after the frame of slot `n` is closed: the slot becomes `v` and the caller's
    `child_time` grows by `δ` -/
def closeStk (stk : List Fs) (n δ : Nat) (v : Fs) : List Fs :=
  if n > 0 then bump (stk.set n v) (n - 1) δ else stk.set n v

@[simp] theorem closeStk_length (stk : List Fs) (n δ : Nat) (v : Fs) : (closeStk stk n δ v).length = stk.length := by
  unfold closeStk
  split <;> simp

theorem closeStk_below (stk : List Fs) (n δ : Nat) (v : Fs) (k : Nat) (hk : k < n) :
    (closeStk stk n δ v)[k]? = if k + 1 = n then (stk[k]?).map (Fs.addChild δ) else stk[k]? := by
  have hne : ¬ (n = k) := by omega
  have hn1 : n > 0 := by omega
  unfold closeStk
  simp only [hn1, if_true, bump_getElem?, List.getElem?_set, hne, if_false]
  by_cases h : k + 1 = n
  · subst h
    simp
  · have : ¬ (k = n - 1) := by omega
    simp [h, this]

def ctxOf (stk : List Fs) (n : Nat) : List Nat := (stk.take n).map (·.addr)

theorem isRec_eq (stk : List Fs) (n a : Nat) : isRec stk n a = (ctxOf stk n).any (· == a) := by
  unfold isRec ctxOf
  rw [List.any_map]
  rfl

theorem isRecK_eq (ky : Keying) (stk : List Fs) (n a k : Nat) :
    isRecK ky stk n a k = recK ky (ctxOf stk n) a k := by
  unfold isRecK recK ctxOf
  rw [List.any_map]
  rfl

theorem ctxOf_congr (l l' : List Fs) (n : Nat)
    (h : ∀ k, k < n → (l'[k]?).map (·.addr) = (l[k]?).map (·.addr)) : ctxOf l' n = ctxOf l n := by
  apply List.ext_getElem?
  intro k
  simp only [ctxOf, List.getElem?_map, List.getElem?_take]
  by_cases hk : k < n
  · simp [hk, h k hk]
  · simp [hk]

theorem ctxOf_set_succ (l : List Fs) (n : Nat) (v : Fs) (h : n < l.length) :
    ctxOf (l.set n v) (n + 1) = ctxOf l n ++ [v.addr] := by
  have h' : n < (l.set n v).length := by simp [h]
  simp only [ctxOf, ← List.take_append_getElem h', List.map_append, List.take_set_of_le (Nat.le_refl n)]
  simp

theorem ctxOf_closeStk (stk : List Fs) (n δ : Nat) (v : Fs) : ctxOf (closeStk stk n δ v) n = ctxOf stk n := by
  apply ctxOf_congr
  intro k hk
  rw [closeStk_below _ _ _ _ _ hk]
  split
  · cases stk[k]? <;> rfl
  · rfl

/-- `find_insert_node` + `report_update_node` for the frame just closed: the recursion test sees the open callers -/
theorem updOfK_closeStk (ky : Keying) (stk : List Fs) (n δ : Nat) (v : Fs) (a : Nat) :
    updOfK ky (closeStk stk n δ v) n v a =
      { key := ky.name a, total := v.total, self := sub64 v.total v.child, recursive := recK ky (ctxOf stk n) v.addr a } := by
  simp only [updOfK, isRecK_eq, ctxOf_closeStk]

/-- where a well-nested piece of the stream leaves the stack: the slots below depth `n` untouched
    except that the caller's slot went through `f` (its `child_time` grew) -/
structure Below (s s' : List Fs) (n : Nat) (f : Fs → Fs) : Prop where
  len : s'.length = s.length
  get : ∀ k, k < n → s'[k]? = if k + 1 = n then (s[k]?).map f else s[k]?

theorem Below.ctx {s s' : List Fs} {n : Nat} {f : Fs → Fs} (h : Below s s' n f)
    (hf : ∀ fs, (f fs).addr = fs.addr) : ctxOf s' n = ctxOf s n := by
  apply ctxOf_congr
  intro k hk
  rw [h.get k hk]
  split
  · cases s[k]? <;> simp [hf]
  · rfl

theorem Below.trans {s s1 s2 : List Fs} {n : Nat} {f g : Fs → Fs} (h1 : Below s s1 n f) (h2 : Below s1 s2 n g) :
    Below s s2 n (g ∘ f) := by
  refine ⟨h2.len.trans h1.len, fun k hk => ?_⟩
  rw [h2.get k hk, h1.get k hk]
  split
  · rw [Option.map_map]
  · rfl

/-- inside a call entered at depth `n`: its own slot, and the slots below it -/
theorem Below.frame {s s' : List Fs} {n : Nat} {v : Fs} {g : Fs → Fs} (h : Below (s.set n v) s' (n + 1) g)
    (hn : n < s.length) : s'[n]? = some (g v) ∧ ∀ k, k < n → s'[k]? = s[k]? := by
  refine ⟨by simp [h.get n (Nat.lt_succ_self n), hn], fun k hk => ?_⟩
  have hne : ¬ (k = n) := by omega
  have hne2 : ¬ (n = k) := by omega
  rw [h.get k (by omega)]
  simp [hne, hne2]

theorem Below.close {s s1 : List Fs} {n : Nat} (δ : Nat) (v : Fs) (hlen : s1.length = s.length)
    (hb : ∀ k, k < n → s1[k]? = s[k]?) : Below s (closeStk s1 n δ v) n (Fs.addChild δ) := by
  refine ⟨by rw [closeStk_length, hlen], fun k hk => ?_⟩
  rw [closeStk_below _ _ _ _ _ hk, hb k hk]

/-- where a well-nested piece of the stream leaves the reader: at the same depth -/
structure Post (t t' : Task) (n d : Nat) (f : Fs → Fs) : Prop where
  ready : Ready t' n d
  stk : Below t.stk t'.stk n f

/-- the slot of a frame that has returned at `time` -/
def Fs.exit (time : Nat) (fs : Fs) : Fs :=
  let delta := sub64 time fs.total
  { fs with total := delta, child := if fs.child > delta then delta else fs.child, valid := false }

def exitTask (t : Task) (n : Nat) (r : Rec) (fs : Fs) : Task :=
  { t with sc := n, usc := t.usc - 1, stk := closeStk t.stk n (sub64 r.time fs.total) (fs.exit r.time),
           tsLast := r.time, lastTime := r.time }

theorem stepFK_exit (ky : Keying) (t : Task) (n : Nat) (r : Rec) (fs : Fs) (hs : t.sc = ((n + 1 : Nat) : Int))
    (hl : t.lost = false) (hf : t.fset = true) (hty : r.typ = 1) (hget : t.stk[n]? = some fs)
    (hv : fs.valid = true) :
    stepFK ky t r = (exitTask t n r fs, [updOfK ky (exitTask t n r fs).stk n (fs.exit r.time) r.addr]) := by
  have hi : acctInit t r = t := by simp [acctInit, hf]
  have hn : n < t.stk.length := (List.getElem?_eq_some_iff.mp hget).1
  have h1 : t.sc - 1 = (n : Int) := by omega
  have h3 : t.sc > 0 := by omega
  have hset : ∀ v : Fs, (t.stk.set n v)[n]? = some v := fun v => by simp [hn]
  unfold exitTask closeStk Fs.exit
  by_cases hn1 : n > 0
  · have h2 : 1 < t.sc := by omega
    have h4 : ¬ (n = n - 1) := by omega
    simp [stepFK, consume, account, hty, hi, hl, acctResync, acctExit, h1, hget, hv, updCount, h3, h2, hn1,
      bump_getElem?, h4, hset, updOfK]
  · have h2 : ¬ (1 < t.sc) := by omega
    simp [stepFK, consume, account, hty, hi, hl, acctResync, acctExit, h1, hget, hv, updCount, h3, h2, hn1,
      hset, updOfK]

def Fs.kidsDone (cs : Calls) (fs : Fs) : Fs := { fs with child := childTime fs.child cs }

mutual
theorem runK_call (ky : Keying) : ∀ (c : Call) (t : Task) (n d : Nat), Ready t n d → n + c.height ≤ t.stk.length →
    (runTG (stepFK ky) t (evCall d c)).2 = updsK ky (ctxOf t.stk n) c ∧
    Post t (runTG (stepFK ky) t (evCall d c)).1 n d (Fs.addChild (dur c))
  | .node f t0 t1 kids, t, n, d, hr, hh => by
    have hh' : n + (kids.height + 1) ≤ t.stk.length := by simpa [Call.height] using hh
    have hn : n < t.stk.length := by omega
    have hE := stepFK_entry ky t n { time := t0, typ := 0, depth := d, addr := f } hr rfl hn
    simp only [evCall, runTG, hE, runTG_append, List.nil_append, List.append_nil]
    obtain ⟨ihU, ihP⟩ := runK_calls ky kids (entryTask t n { time := t0, typ := 0, depth := d, addr := f })
      (n + 1) (d + 1) ⟨rfl, hr.lost, Or.inl rfl⟩ (by simp only [entryTask, List.length_set]; omega)
    generalize runTG (stepFK ky) (entryTask t n { time := t0, typ := 0, depth := d, addr := f })
      (evCalls (d + 1) kids) = rk at ihU ihP ⊢
    obtain ⟨hslot, hbelow⟩ := ihP.stk.frame hn
    have hKf : rk.1.fset = true := ihP.ready.fset.resolve_right (by omega)
    rw [stepFK_exit ky rk.1 n { time := t1, typ := 1, depth := d, addr := f } _ ihP.ready.sc ihP.ready.lost hKf rfl
      hslot rfl]
    have hP : Below t.stk (exitTask rk.1 n { time := t1, typ := 1, depth := d, addr := f }
        (Fs.kidsDone kids { addr := f, total := t0, child := 0, valid := true })).stk n (Fs.addChild (sub64 t1 t0)) :=
      Below.close _ _ (ihP.stk.len.trans (List.length_set ..)) hbelow
    refine ⟨?_, ⟨rfl, ihP.ready.lost, Or.inl hKf⟩, hP⟩
    have hc : ctxOf rk.1.stk n = ctxOf t.stk n := ctxOf_congr _ _ _ (fun k hk => by rw [hbelow k hk])
    simp only [ihU, entryTask, exitTask, ctxOf_set_succ _ _ _ hn, updsK, updOfK_closeStk, hc, Fs.exit, Fs.kidsDone]
    -- what is left differs in the `Decidable` instance of the clamp, which still mentions the slot
    rfl

theorem runK_calls (ky : Keying) : ∀ (cs : Calls) (t : Task) (n d : Nat), Ready t n d → n + cs.height ≤ t.stk.length →
    (runTG (stepFK ky) t (evCalls d cs)).2 = updsLK ky (ctxOf t.stk n) cs ∧
    Post t (runTG (stepFK ky) t (evCalls d cs)).1 n d (Fs.kidsDone cs)
  | .nil, t, n, d, hr, hh => by
    refine ⟨rfl, hr, rfl, fun k _ => ?_⟩
    show t.stk[k]? = _
    cases t.stk[k]? <;> simp [Fs.kidsDone, childTime]
  | .cons c rest, t, n, d, hr, hh => by
    have hm : max c.height rest.height = (Calls.cons c rest).height := by simp [Calls.height]
    simp only [evCalls, runTG_append]
    obtain ⟨h1U, h1P⟩ := runK_call ky c t n d hr (by omega)
    generalize runTG (stepFK ky) t (evCall d c) = r1 at h1U h1P ⊢
    obtain ⟨h2U, h2P⟩ := runK_calls ky rest r1.1 n d h1P.ready (by rw [h1P.stk.len]; omega)
    exact ⟨by simp only [h1U, h2U, h1P.stk.ctx (fun _ => rfl), updsLK], h2P.ready, h1P.stk.trans h2P.stk⟩
end

theorem run_callK (ky : Keying) : ∀ (c : Call) (t : Task) (n d : Nat), t.sc = n → t.lost = false →
    (t.fset = true ∨ (n = 0 ∧ d = 0)) → n + c.height ≤ t.stk.length →
    (runTG (stepFK ky) t (evCall d c)).2 = updsK ky (ctxOf t.stk n) c :=
  fun c t n d hs hl hf hh => (runK_call ky c t n d ⟨hs, hl, hf⟩ hh).1

end Uft.Report

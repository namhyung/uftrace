import Uft.Model.Argbuf
/-
Lemmas for C09 (model `Argbuf`): little-endian bytes, memory reads and writes, the closed form of
the string copy loop, one packer step = one chunk, the readers on chunks, records and streams of
records, the bounds of the slice, the writer's and the reader's spec lists.
-/
namespace Uft.Argbuf

/-! ## little endian -/

@[simp] theorem leBytes_length (n v : Nat) : (leBytes n v).length = n := by
  induction n generalizing v with
  | zero => rfl
  | succ n ih => simp [leBytes, ih]

theorem toNat_ofNat_mod (v : Nat) : (UInt8.ofNat (v % 256)).toNat = v % 256 := by
  simp [UInt8.toNat_ofNat']

theorem ofLe_leBytes (n v : Nat) : ofLe (leBytes n v) = v % 256 ^ n := by
  induction n generalizing v with
  | zero => simp [leBytes, ofLe, Nat.mod_one]
  | succ n ih =>
    simp only [leBytes, ofLe, ih, toNat_ofNat_mod]
    rw [Nat.pow_succ, Nat.mul_comm (256 ^ n) 256, Nat.mod_mul]

theorem ofLe_leBytes_lt (n v : Nat) (h : v < 256 ^ n) : ofLe (leBytes n v) = v := by
  rw [ofLe_leBytes, Nat.mod_eq_of_lt h]

theorem leBytes_take : ∀ (k n v : Nat), k ≤ n → (leBytes n v).take k = leBytes k v := by
  intro k
  induction k with
  | zero => intro n v _; simp [leBytes]
  | succ k ih =>
    intro n v h
    cases n with
    | zero => omega
    | succ n => simp [leBytes, ih n (v / 256) (by omega)]

theorem ofLe_take_leBytes {n k : Nat} (h : n ≤ k) (v : Nat) (rest : List Byte) :
    ofLe ((leBytes k v ++ rest).take n) = v % 256 ^ n := by
  rw [List.take_append_of_le_length (by rw [leBytes_length]; exact h), leBytes_take _ _ _ h, ofLe_leBytes]

theorem leBytes_two (n : Nat) : leBytes 2 n = [UInt8.ofNat (n % 256), UInt8.ofNat (n / 256 % 256)] := rfl

/-! ## alignment -/

theorem le_align4 (n : Nat) : n ≤ align4 n := by
  unfold align4
  omega

theorem align4_le {n k : Nat} (h : n ≤ 4 * k) : align4 n ≤ 4 * k := by
  unfold align4
  omega

theorem align4_mod (n : Nat) : align4 n % 4 = 0 := by
  unfold align4
  omega

theorem align4_pad (n : Nat) :
    (if n % 4 ≠ 0 then n + (4 - n % 4) else n) = align4 n := by
  unfold align4; split <;> omega

/-- read_task_arg pads by the position `d + n` in args.data; the position `d` before a value is aligned, so
    the padding is that of the value's own length `n` (`m` = the part of it still to be read) -/
theorem pad_size (d n m : Nat) (hd : d % 4 = 0) :
    (if (d + n) % 4 ≠ 0 then m + (4 - (d + n) % 4) else m) = m + (align4 n - n) := by
  rw [Nat.add_mod, hd, Nat.zero_add, Nat.mod_mod, ← align4_pad n]
  split <;> omega

/-! ## lists -/

theorem getD_append_lt {l r : List Byte} {i : Nat} (h : i < l.length) : (l ++ r).getD i 0 = l.getD i 0 := by
  simp [List.getD_eq_getElem?_getD, List.getElem?_append_left h]

theorem getD_append_ge {l r : List Byte} {i : Nat} (h : l.length ≤ i) :
    (l ++ r).getD i 0 = r.getD (i - l.length) 0 := by
  simp [List.getD_eq_getElem?_getD, List.getElem?_append_right h]

/-! ## memory -/

@[simp] theorem rd_length (m : Mem) (a n : Nat) : (m.rd a n).length = n := by
  induction n generalizing a with
  | zero => rfl
  | succ n ih => simp [Mem.rd, ih]

theorem rd_append (m : Mem) (a n k : Nat) : m.rd a (n + k) = m.rd a n ++ m.rd (a + n) k := by
  induction n generalizing a with
  | zero => simp [Mem.rd]
  | succ n ih =>
    have : n + 1 + k = (n + k) + 1 := by omega
    rw [this]
    have e : a + 1 + n = a + (n + 1) := by omega
    simp only [Mem.rd, List.cons_append, ih (a + 1), e]

theorem rd_congr (m m' : Mem) (a n : Nat) (h : ∀ j, a ≤ j → j < a + n → m.get j = m'.get j) :
    m.rd a n = m'.rd a n := by
  induction n generalizing a with
  | zero => rfl
  | succ n ih =>
    simp only [Mem.rd]
    rw [h a (by omega) (by omega), ih (a + 1) (fun j h1 h2 => h j (by omega) (by omega))]

theorem rd_eq_of_get (m : Mem) (a : Nat) (l : List Byte)
    (h : ∀ k, k < l.length → m.get (a + k) = l.getD k 0) : m.rd a l.length = l := by
  induction l generalizing a with
  | nil => rfl
  | cons x r ih =>
    simp only [List.length_cons, Mem.rd]
    have h0 := h 0 (by simp)
    simp at h0
    rw [h0, ih (a + 1)]
    intro k hk
    have := h (k + 1) (by simp; omega)
    simpa [Nat.add_assoc, Nat.add_comm 1 k] using this

theorem Mem.ext {a b : Mem} (hg : ∀ j, a.get j = b.get j) (hh : a.hi = b.hi) : a = b := by
  cases a
  cases b
  simp only [Mem.mk.injEq]
  exact ⟨funext hg, hh⟩

@[simp] theorem get_wr (m : Mem) (i j : Nat) (b : Byte) :
    (m.wr i b).get j = if j = i then b else m.get j := rfl

@[simp] theorem hi_wr (m : Mem) (i : Nat) (b : Byte) : (m.wr i b).hi = max m.hi (i + 1) := rfl

@[simp] theorem get_blit (m : Mem) (off j : Nat) (bs : List Byte) :
    (m.blit off bs).get j = if off ≤ j ∧ j < off + bs.length then bs.getD (j - off) 0 else m.get j := rfl

theorem hi_blit (m : Mem) (off : Nat) (bs : List Byte) :
    (m.blit off bs).hi = if bs.length = 0 then m.hi else max m.hi (off + bs.length) := rfl

theorem hi_blit_le (m : Mem) (off : Nat) (bs : List Byte) {B : Nat} (h : m.hi ≤ B) (hb : off + bs.length ≤ B) :
    (m.blit off bs).hi ≤ B := by
  rw [hi_blit]
  split
  · exact h
  · exact Nat.max_le.mpr ⟨h, hb⟩

theorem get_blit_below (m : Mem) (off : Nat) (bs : List Byte) {j : Nat} (h : j < off) :
    (m.blit off bs).get j = m.get j := by
  rw [get_blit, if_neg (by omega)]

theorem rd_blit_prefix (m : Mem) (off : Nat) (l r : List Byte) {n : Nat} (hn : l.length = n) :
    (m.blit off (l ++ r)).rd off n = l := by
  subst hn
  apply rd_eq_of_get
  intro k hk
  rw [get_blit, if_pos (by rw [List.length_append]; omega), Nat.add_sub_cancel_left, getD_append_lt hk]

theorem rd_blit_same (m : Mem) (off : Nat) (bs : List Byte) {n : Nat} (hn : bs.length = n) :
    (m.blit off bs).rd off n = bs := by
  have h := rd_blit_prefix m off bs [] hn
  rwa [List.append_nil] at h

theorem rd_blit_disjoint (m : Mem) (off a n : Nat) (bs : List Byte) (h : a + n ≤ off ∨ off + bs.length ≤ a) :
    (m.blit off bs).rd a n = m.rd a n := by
  apply rd_congr
  intro j h1 h2
  rw [get_blit, if_neg (by omega)]

theorem blit_nil (m : Mem) (off : Nat) : m.blit off [] = m := by
  apply Mem.ext
  · intro j
    rw [get_blit, if_neg (by simp)]
  · rfl

theorem wr_blit_snoc (m : Mem) (off : Nat) (bs : List Byte) (b : Byte) :
    (m.blit off bs).wr (off + bs.length) b = m.blit off (bs ++ [b]) := by
  apply Mem.ext
  · intro j
    simp only [get_wr, get_blit, List.length_append, List.length_singleton]
    by_cases h1 : j = off + bs.length
    · subst h1
      rw [if_pos rfl, if_pos (by omega), getD_append_ge (by omega)]
      simp
    · rw [if_neg h1]
      by_cases h2 : off ≤ j ∧ j < off + bs.length
      · rw [if_pos h2, if_pos (by omega), getD_append_lt (by omega)]
      · rw [if_neg h2, if_neg (by omega)]
  · rw [hi_wr, hi_blit, hi_blit, List.length_append, List.length_singleton, if_neg (Nat.succ_ne_zero _)]
    split <;> omega

theorem wr_blit_set (m : Mem) (off k : Nat) (bs : List Byte) (b : Byte) (hk : k < bs.length) :
    (m.blit off bs).wr (off + k) b = m.blit off (bs.set k b) := by
  apply Mem.ext
  · intro j
    simp only [get_wr, get_blit, List.length_set, List.getD_eq_getElem?_getD, List.getElem?_set]
    by_cases h1 : j = off + k
    · subst h1
      rw [if_pos rfl, if_pos (by omega), if_pos (by omega)]
      simp [hk]
    · rw [if_neg h1]
      by_cases h2 : off ≤ j ∧ j < off + bs.length
      · rw [if_pos h2, if_pos h2, if_neg (by omega)]
      · rw [if_neg h2, if_neg h2]
  · simp only [hi_wr, hi_blit, List.length_set]
    split <;> omega

theorem set4 (a b c e : Byte) : ∀ u : List Byte, u.length = 4 →
    (((u.set 0 a).set 1 b).set 2 c).set 3 e = [a, b, c, e]
  | [_, _, _, _], _ => rfl

theorem wr4_blit (m : Mem) (off n : Nat) (t u : List Byte) (a b c e : Byte) (ht : t.length = n) (hu : u.length = 4) :
    ((((m.blit off (t ++ u)).wr (off + n) a).wr (off + (n + 1)) b).wr (off + (n + 2)) c).wr (off + (n + 3)) e
      = m.blit off (t ++ [a, b, c, e]) := by
  subst ht
  have hl : (t ++ u).length = t.length + 4 := by
    rw [List.length_append, hu]
  rw [wr_blit_set _ _ _ _ _ (by omega), wr_blit_set _ _ _ _ _ (by rw [List.length_set]; omega),
    wr_blit_set _ _ _ _ _ (by rw [List.length_set, List.length_set]; omega),
    wr_blit_set _ _ _ _ _ (by rw [List.length_set, List.length_set, List.length_set]; omega)]
  simp only [List.set_append_right _ _ (Nat.le_add_right _ _), List.set_append_right _ _ (Nat.le_refl _),
    Nat.add_sub_cancel_left, Nat.sub_self]
  rw [set4 a b c e u hu]

/-! ## the copy loop -/

def NoNul (s : List Byte) : Prop := ∀ b ∈ s, b ≠ 0

theorem getD_ne_zero_of_lt {s : List Byte} (hs : NoNul s) {i : Nat} (h : i < s.length) : s.getD i 0 ≠ 0 := by
  have : s.getD i 0 = s[i] := by simp [List.getD, h]
  rw [this]
  exact hs _ (List.getElem_mem h)

theorem getD_zero_of_ge (s : List Byte) {i : Nat} (h : s.length ≤ i) : s.getD i 0 = 0 := by
  simp [List.getD, h]

theorem take_succ_getD (s : List Byte) {k : Nat} (h : k < s.length) : s.take (k + 1) = s.take k ++ [s.getD k 0] := by
  rw [List.take_succ_eq_append_getElem h, List.getD_eq_getElem?_getD, List.getElem?_eq_getElem h]
  rfl

theorem strObs_length (s : List Byte) : (strObs s).length = min s.length 98 := by
  unfold strObs
  split
  · omega
  · simp only [List.length_append, List.length_take, List.length_cons, List.length_nil]
    omega

theorem copyLoop_full (s : List Byte) (room d fuel i : Nat) (m : Mem) (h : room ≤ i) :
    copyLoop s room d fuel i m = (m, i) := by
  cases fuel with
  | zero => rfl
  | succ f => rw [copyLoop, if_neg (by omega)]

theorem copyLoop_plain (s : List Byte) (room d fuel i : Nat) (m : Mem) (h : i < room) (h98 : i ≠ 98) :
    copyLoop s room d (fuel + 1) i m =
      if s.getD i 0 = 0 then (m.wr (d + i) 0, i)
      else copyLoop s room d fuel (i + 1) (m.wr (d + i) (s.getD i 0)) := by
  rw [copyLoop, if_pos h]
  simp only [if_neg h98, get_wr, if_true]
  split
  · rename_i hz
    rw [hz]
  · rfl

theorem copyLoop_trunc (s : List Byte) (room d fuel : Nat) (m : Mem) (h : 98 < room) :
    copyLoop s room d (fuel + 1) 98 m =
      (((((m.wr (d + 98) (s.getD 98 0)).wr (d + 95) DOT).wr (d + 96) DOT).wr (d + 97) DOT).wr (d + 98) 0, 98) := by
  rw [copyLoop, if_pos h]
  simp only [if_true, get_wr]
  rfl

theorem copyLoop_prefix (s : List Byte) (room d : Nat) (m : Mem) (hs : NoNul s) :
    ∀ (k fuel : Nat), k ≤ s.length → k ≤ 98 → k ≤ room →
      copyLoop s room d (fuel + k) 0 m = copyLoop s room d fuel k (m.blit d (s.take k)) := by
  intro k
  induction k with
  | zero =>
    intro fuel _ _ _
    rw [List.take_zero, blit_nil]
    rfl
  | succ k ih =>
    intro fuel hn h98 hroom
    have hl : (s.take k).length = k := List.length_take_of_le (Nat.le_of_succ_le hn)
    have hw := wr_blit_snoc m d (s.take k) (s.getD k 0)
    rw [hl] at hw
    rw [← Nat.add_assoc, Nat.add_right_comm,
      ih (fuel + 1) (Nat.le_of_succ_le hn) (Nat.le_of_succ_le h98) (Nat.le_of_succ_le hroom),
      copyLoop_plain s room d fuel k _ hroom (Nat.ne_of_lt h98), if_neg (getD_ne_zero_of_lt hs hn), hw,
      ← take_succ_getD s hn]

/-- what the loop leaves at dst[0 ..]: the string as the reader will show it and a NUL when both fit,
    otherwise the first `room` bytes -/
def copyImg (s : List Byte) (room : Nat) : List Byte :=
  if (strObs s).length < room then strObs s ++ [0] else s.take room

theorem copyLoop_eq (s : List Byte) (room d : Nat) (m : Mem) (hs : NoNul s) :
    copyLoop s room d 100 0 m = (m.blit d (copyImg s room), min (strObs s).length room) := by
  have hlen := strObs_length s
  unfold copyImg
  by_cases hfit : (strObs s).length < room
  · rw [if_pos hfit, Nat.min_eq_left (Nat.le_of_lt hfit)]
    by_cases hn : s.length < 98
    · -- the whole string and its terminator
      have hobs : strObs s = s := by
        unfold strObs
        rw [if_pos hn]
      rw [hobs] at hfit ⊢
      obtain ⟨f, hf⟩ : ∃ f, 100 = f + 1 + s.length := ⟨99 - s.length, by omega⟩
      rw [hf, copyLoop_prefix s room d m hs s.length (f + 1) (Nat.le_refl _) (Nat.le_of_lt hn) (Nat.le_of_lt hfit),
        List.take_length, copyLoop_plain s room d f s.length _ hfit (Nat.ne_of_lt hn),
        if_pos (getD_zero_of_ge s (Nat.le_refl _)), wr_blit_snoc]
    · -- 98 bytes and byte 98; `dst[95 .. 98]` are then overwritten by "..." and the terminator
      have hobs : strObs s = s.take 95 ++ [DOT, DOT, DOT] := by
        unfold strObs
        rw [if_neg hn]
      have h : copyLoop s room d 100 0 m = _ := copyLoop_prefix s room d m hs 98 2 (by omega) (by omega) (by omega)
      have hl : (s.take 98).length = 98 := List.length_take_of_le (Nat.le_of_not_lt hn)
      have hw := wr_blit_snoc m d (s.take 98) (s.getD 98 0)
      rw [hl] at hw
      have hsplit : s.take 98 ++ [s.getD 98 0] = s.take 95 ++ ((s.drop 95).take 3 ++ [s.getD 98 0]) := by
        rw [← List.append_assoc, ← List.take_add]
      have hl95 : (s.take 95).length = 95 := List.length_take_of_le (by omega)
      have hu : ((s.drop 95).take 3 ++ [s.getD 98 0]).length = 4 := by
        rw [List.length_append, List.length_take, List.length_drop]
        simp only [List.length_singleton]
        omega
      rw [hlen, Nat.min_eq_right (Nat.le_of_not_lt hn), h, copyLoop_trunc s room d 1 _ (by omega), hw, hsplit, hobs,
        List.append_assoc]
      exact congrArg (·, 98) (wr4_blit m d 95 _ _ DOT DOT DOT 0 hl95 hu)
  · -- no room left before the string ends
    have hle : room ≤ min s.length 98 := by
      rw [← hlen]
      exact Nat.le_of_not_lt hfit
    obtain ⟨f, hf⟩ : ∃ f, 100 = f + room := ⟨100 - room, by omega⟩
    rw [if_neg hfit, hf, copyLoop_prefix s room d m hs room f (Nat.le_trans hle (Nat.min_le_left _ _))
        (Nat.le_trans hle (Nat.min_le_right _ _)) (Nat.le_refl _),
      copyLoop_full s room d _ room _ (Nat.le_refl _), Nat.min_eq_right (Nat.le_of_not_lt hfit)]

theorem copyImg_length_le (s : List Byte) (room : Nat) :
    (copyImg s room).length ≤ room ∧ (copyImg s room).length ≤ 99 := by
  have hlen := strObs_length s
  unfold copyImg
  split
  · rw [List.length_append, List.length_singleton]
    omega
  · rw [List.length_take]
    omega

/-! ## one packer step stores one chunk -/

/-- what parse_argspec can produce: strings have a non-zero size field, characters 1..4 bytes -/
def WF (sp : Spec) : Prop := (sp.isStr = true → sp.size ≠ 0) ∧ (sp.fmt = .chr → 1 ≤ sp.size ∧ sp.size ≤ 4)

/-- string sources are C strings -/
def ValOk (v : Val) : Prop := ∀ s, v.src = some s → NoNul s

def strBody (fx : Fix) (v : Val) : List Byte :=
  match v.src with
  | some s => strObs s
  | none => nullBytes fx

theorem nullBytes_length (fx : Fix) : (nullBytes fx).length = 4 := by
  unfold nullBytes
  split <;> rfl

theorem strBody_length_le (fx : Fix) (v : Val) : (strBody fx v).length ≤ 98 := by
  unfold strBody
  split
  · rw [strObs_length]
    omega
  · rw [nullBytes_length]
    omega

/-- what one packer step leaves for a value: the 2-byte length, the string as it will be shown and padding (the
    terminator, then whatever the slice held before); `align4 size` bytes for a struct; the low bytes of a word -/
inductive IsChunk (fx : Fix) (sp : Spec) (v : Val) : List Byte → Prop
  | str (junk : List Byte) : sp.isStr = true →
      (leBytes 2 (strBody fx v).length ++ strBody fx v ++ junk).length = align4 ((strBody fx v).length + 2) →
      IsChunk fx sp v (leBytes 2 (strBody fx v).length ++ strBody fx v ++ junk)
  | strct (c : List Byte) : ¬ sp.isStr = true → sp.fmt = .strct → c.length = align4 sp.size → IsChunk fx sp v c
  | word : ¬ sp.isStr = true → sp.fmt ≠ .strct → IsChunk fx sp v (leBytes (align4 sp.size) v.asWord)

theorem IsChunk.length_mod {fx sp v c} (h : IsChunk fx sp v c) : c.length % 4 = 0 := by
  cases h with
  | str _ _ hl => rw [hl, align4_mod]
  | strct _ _ _ hl => rw [hl, align4_mod]
  | word => rw [leBytes_length, align4_mod]

theorem rd_str_chunk (m : Mem) (p : Nat) (body : List Byte) (h1 : m.rd p 2 = leBytes 2 body.length)
    (h2 : m.rd (p + 2) body.length = body) :
    ∃ junk, m.rd p (align4 (body.length + 2)) = leBytes 2 body.length ++ body ++ junk := by
  have e : align4 (body.length + 2) = 2 + (body.length + (align4 (body.length + 2) - (body.length + 2))) := by
    have := le_align4 (body.length + 2)
    omega
  exact ⟨_, by rw [e, rd_append, rd_append, h1, h2, List.append_assoc]⟩

theorem roomOf_le {fx : Fix} {t : Nat} (h : t ≤ maxSize fx) : roomOf fx t = maxSize fx - t := by
  unfold roomOf
  rw [if_pos h]

theorem packStr_some (fx : Fix) (s : List Byte) (st : St) (hs : NoNul s) :
    packStr fx (some s) st =
      { mem := (st.mem.blit (4 + st.total + 2) (copyImg s (roomOf fx st.total))).blit (4 + st.total)
          (leBytes 2 (min (strObs s).length (roomOf fx st.total))),
        total := st.total + align4 (min (strObs s).length (roomOf fx st.total) + 2), stop := false } := by
  simp only [packStr]
  rw [copyLoop_eq s _ _ _ hs]

/-- a string value that leaves the total within the limit was stored whole -/
theorem packStr_chunk (fx : Fix) (v : Val) (st : St) (hv : ValOk v)
    (ht : st.total ≤ maxSize fx) (hle : (packStr fx v.src st).total ≤ maxSize fx) :
    (packStr fx v.src st).total = st.total + align4 ((strBody fx v).length + 2) ∧
    (∀ j, j < 4 + st.total → (packStr fx v.src st).mem.get j = st.mem.get j) ∧
    ∃ junk, (packStr fx v.src st).mem.rd (4 + st.total) (align4 ((strBody fx v).length + 2)) =
      leBytes 2 (strBody fx v).length ++ strBody fx v ++ junk := by
  unfold strBody
  cases hsrc : v.src with
  | some s =>
    rw [hsrc, packStr_some fx s st (hv s hsrc), roomOf_le ht] at hle
    rw [packStr_some fx s st (hv s hsrc), roomOf_le ht]
    simp only at hle ⊢
    have hfit : (strObs s).length < maxSize fx - st.total := by
      have := le_align4 (min (strObs s).length (maxSize fx - st.total) + 2)
      omega
    rw [Nat.min_eq_left (Nat.le_of_lt hfit)]
    unfold copyImg
    rw [if_pos hfit]
    refine ⟨rfl, ?_, ?_⟩
    · intro j hj
      rw [get_blit_below _ _ _ hj, get_blit_below _ _ _ (by omega)]
    · apply rd_str_chunk
      · exact rd_blit_same _ _ _ (leBytes_length _ _)
      · rw [rd_blit_disjoint _ _ _ _ _ (Or.inr (by rw [leBytes_length]; omega))]
        exact rd_blit_prefix _ _ _ _ rfl
  | none =>
    have hn := nullBytes_length fx
    simp only [packStr]
    refine ⟨by rw [hn], ?_, ?_⟩
    · intro j hj
      rw [get_blit_below _ _ _ (by omega), get_blit_below _ _ _ hj]
    · apply rd_str_chunk
      · rw [hn, rd_blit_disjoint _ _ _ _ _ (Or.inl (Nat.le_refl _))]
        exact rd_blit_same _ _ _ rfl
      · exact rd_blit_same _ _ _ rfl

theorem packStr_stop (fx : Fix) (src : Option (List Byte)) (st : St) : (packStr fx src st).stop = false := by
  unfold packStr
  split <;> rfl

theorem packStr_total_ge (fx : Fix) (src : Option (List Byte)) (st : St) : st.total ≤ (packStr fx src st).total := by
  unfold packStr
  split <;> exact Nat.le_add_right _ _

/-- an iteration ends in one of three ways: the repaired re-check of the total breaks off; a struct that does not
    fit is counted and breaks off; the value is stored -/
theorem packOne_cases (fx : Fix) (sp : Spec) (v : Val) (st : St) :
    (fx.bounds = true ∧ st.total > maxSize fx) ∧ packOne fx sp v st = { st with stop := true } ∨
    (sp.fmt = .strct ∧ st.total + sp.size > maxSize fx) ∧
      packOne fx sp v st = { st with total := st.total + sp.size, stop := true } ∨
    (¬ (fx.bounds = true ∧ st.total > maxSize fx) ∧ ¬ (sp.fmt = .strct ∧ st.total + sp.size > maxSize fx)) ∧
      packOne fx sp v st =
        if sp.isStr then packStr fx v.src st
        else if sp.fmt = .strct then
          { mem := st.mem.blit (4 + st.total) v.asBlob, total := st.total + align4 sp.size, stop := false }
        else
          { mem := st.mem.blit (4 + st.total) (leBytes (align4 sp.size) v.asWord),
            total := st.total + align4 sp.size, stop := false } := by
  unfold packOne
  by_cases h1 : fx.bounds = true ∧ st.total > maxSize fx
  · exact .inl ⟨h1, if_pos h1⟩
  · by_cases h2 : sp.fmt = .strct ∧ st.total + sp.size > maxSize fx
    · exact .inr (.inl ⟨h2, by rw [if_neg h1, if_pos h2]⟩)
    · exact .inr (.inr ⟨⟨h1, h2⟩, by rw [if_neg h1, if_neg h2]⟩)

theorem packOne_stop_total (fx : Fix) (sp : Spec) (v : Val) (st : St)
    (h : (packOne fx sp v st).stop = true) : (packOne fx sp v st).total > maxSize fx := by
  rcases packOne_cases fx sp v st with ⟨h1, e⟩ | ⟨h2, e⟩ | ⟨-, e⟩
  · rw [e]
    exact h1.2
  · rw [e]
    exact h2.2
  · rw [e] at h
    split at h
    · rw [packStr_stop] at h
      cases h
    · split at h <;> cases h

theorem packOne_total_ge (fx : Fix) (sp : Spec) (v : Val) (st : St) : st.total ≤ (packOne fx sp v st).total := by
  rcases packOne_cases fx sp v st with ⟨-, e⟩ | ⟨-, e⟩ | ⟨-, e⟩
  · rw [e]
    exact Nat.le_refl _
  · rw [e]
    exact Nat.le_add_right _ _
  · rw [e]
    split
    · exact packStr_total_ge fx v.src st
    · split <;> exact Nat.le_add_right _ _

theorem packOne_chunk (fx : Fix) (sp : Spec) (v : Val) (st : St) (hv : ValOk v)
    (ht : st.total ≤ maxSize fx) (hns : (packOne fx sp v st).stop = false)
    (hle : (packOne fx sp v st).total ≤ maxSize fx) :
    ∃ n, (packOne fx sp v st).total = st.total + n ∧
      (∀ j, j < 4 + st.total → (packOne fx sp v st).mem.get j = st.mem.get j) ∧
      IsChunk fx sp v ((packOne fx sp v st).mem.rd (4 + st.total) n) := by
  rcases packOne_cases fx sp v st with ⟨h1, -⟩ | ⟨-, e⟩ | ⟨-, e⟩
  · exact absurd h1.2 (Nat.not_lt.mpr ht)
  · rw [e] at hns
    cases hns
  · rw [e] at hle ⊢
    by_cases hstr : sp.isStr = true
    · rw [if_pos hstr] at hle ⊢
      obtain ⟨a1, a2, junk, a3⟩ := packStr_chunk fx v st hv ht hle
      refine ⟨_, a1, a2, ?_⟩
      have hl := rd_length (packStr fx v.src st).mem (4 + st.total) (align4 ((strBody fx v).length + 2))
      rw [a3] at hl ⊢
      exact .str junk hstr hl
    · rw [if_neg hstr]
      by_cases hst : sp.fmt = .strct
      · rw [if_pos hst]
        exact ⟨_, rfl, fun j hj => get_blit_below _ _ _ hj, .strct _ hstr hst (rd_length _ _ _)⟩
      · rw [if_neg hst]
        refine ⟨_, rfl, fun j hj => get_blit_below _ _ _ hj, ?_⟩
        rw [rd_blit_same _ _ _ (leBytes_length _ _)]
        exact .word hstr hst

/-! ## a whole run = a sequence of chunks -/

def Chunks (fx : Fix) : List Spec → List Val → List Byte → Prop
  | sp :: specs, v :: vals, cs => ∃ c cs', cs = c ++ cs' ∧ IsChunk fx sp v c ∧ Chunks fx specs vals cs'
  | [], _, cs => cs = []
  | _ :: _, [], _ => False

theorem packRun_total_ge (fx : Fix) : ∀ (specs : List Spec) (vals : List Val) (st : St),
    st.total ≤ (packRun fx specs vals st).total := by
  intro specs
  induction specs with
  | nil => intro vals st; simp [packRun]
  | cons sp specs ih =>
    intro vals st
    cases vals with
    | nil => simp [packRun]
    | cons v vals =>
      simp only [packRun]
      split
      · exact packOne_total_ge fx sp v st
      · exact Nat.le_trans (packOne_total_ge fx sp v st) (ih vals _)

theorem packRun_chunks (fx : Fix) : ∀ (specs : List Spec) (vals : List Val) (st : St),
    vals.length = specs.length → (∀ v ∈ vals, ValOk v) → st.total ≤ maxSize fx →
    (packRun fx specs vals st).total ≤ maxSize fx →
    ∃ cs, (packRun fx specs vals st).mem.rd 4 (packRun fx specs vals st).total = st.mem.rd 4 st.total ++ cs ∧
      Chunks fx specs vals cs := by
  intro specs
  induction specs with
  | nil =>
    intro vals st _ _ _ _
    exact ⟨[], by simp [packRun], by simp [Chunks]⟩
  | cons sp specs ih =>
    intro vals st hlen hv ht hfin
    cases vals with
    | nil => simp at hlen
    | cons v vals =>
      simp only [packRun] at hfin ⊢
      by_cases hstop : (packOne fx sp v st).stop = true
      · rw [if_pos hstop] at hfin
        have := packOne_stop_total fx sp v st hstop
        omega
      · rw [if_neg hstop] at hfin ⊢
        have hns : (packOne fx sp v st).stop = false := by simpa using hstop
        have hmid : (packOne fx sp v st).total ≤ maxSize fx :=
          Nat.le_trans (packRun_total_ge fx specs vals _) hfin
        obtain ⟨n, c1, c2, c3⟩ := packOne_chunk fx sp v st (hv v (by simp)) ht hns hmid
        obtain ⟨cs', d1, d2⟩ := ih vals (packOne fx sp v st) (by simpa using hlen)
          (fun w hw => hv w (by simp [hw])) hmid hfin
        refine ⟨_, ?_, _, _, rfl, c3, d2⟩
        rw [d1, c1, rd_append, List.append_assoc]
        congr 1
        apply rd_congr
        intro j _ hj
        exact c2 j (by omega)

/-! ## the readers on chunks -/

theorem readArg_str (sp : Spec) (hstr : sp.isStr = true) (hz : sp.size ≠ 0) (data body junk rest : List Byte)
    (hd : data.length % 4 = 0) (hb : body.length < 65536)
    (hlen : junk.length = align4 (2 + body.length) - (2 + body.length)) :
    readArg sp data (leBytes 2 body.length ++ body ++ junk ++ rest) =
      some (data ++ (leBytes 2 body.length ++ body ++ junk), rest) := by
  have hslen : (UInt8.ofNat (body.length % 256)).toNat + 256 * (UInt8.ofNat (body.length / 256 % 256)).toNat
      = body.length := by
    have h := ofLe_leBytes_lt 2 body.length hb
    rwa [leBytes_two, ofLe, ofLe, ofLe, Nat.mul_zero, Nat.add_zero] at h
  unfold readArg
  rw [if_neg hz, if_pos hstr, leBytes_two]
  simp only [List.cons_append, List.nil_append, List.append_assoc]
  rw [hslen, Nat.add_assoc, pad_size _ _ _ hd, ← hlen, ← List.append_assoc body,
    if_neg (by rw [List.length_append, List.length_append]; omega),
    List.take_left' List.length_append, List.drop_left' List.length_append]

theorem readArg_plain (sp : Spec) (hstr : ¬ sp.isStr = true) (data c rest : List Byte)
    (hd : data.length % 4 = 0) (hcl : c.length = align4 sp.size) :
    readArg sp data (c ++ rest) = some (data ++ c, rest) := by
  unfold readArg
  by_cases hz : sp.size = 0
  · have hnil : c = [] := by
      apply List.eq_nil_of_length_eq_zero
      rw [hcl, hz]
      rfl
    rw [if_pos hz, hnil, List.append_nil, List.nil_append]
  · rw [if_neg hz, if_neg hstr]
    simp only
    rw [pad_size _ _ _ hd, Nat.add_sub_of_le (le_align4 _), ← hcl, if_neg (by rw [List.length_append]; omega),
      List.take_left' rfl, List.drop_left' rfl]

theorem readArg_chunk (fx : Fix) (sp : Spec) (v : Val) (c data rest : List Byte)
    (hc : IsChunk fx sp v c) (hwf : WF sp) (hd : data.length % 4 = 0) :
    readArg sp data (c ++ rest) = some (data ++ c, rest) := by
  cases hc with
  | str junk hstr hl =>
    have hb := strBody_length_le fx v
    rw [List.length_append, List.length_append, leBytes_length, Nat.add_comm _ 2] at hl
    exact readArg_str sp hstr (hwf.1 hstr) data _ junk rest hd (by omega) (by omega)
  | strct c hstr _ hl => exact readArg_plain sp hstr data c rest hd hl
  | word hstr _ => exact readArg_plain sp hstr data _ rest hd (leBytes_length _ _)

theorem obs_str (fx : Fix) (sp : Spec) (v : Val) (h : sp.isStr = true) : obs fx sp v = .str (strBody fx v) := by
  unfold obs strBody
  rw [if_pos h]
  cases v.src <;> rfl

theorem decode_chunk (fx : Fix) (sp : Spec) (v : Val) (r : List Spec) (c more : List Byte)
    (hc : IsChunk fx sp v c) (hwf : WF sp) :
    decodeVals (sp :: r) (c ++ more) = obs fx sp v :: decodeVals r more := by
  simp only [decodeVals]
  cases hc with
  | str junk hstr hl =>
    rw [if_pos hstr, obs_str fx sp v hstr]
    have hb := strBody_length_le fx v
    generalize strBody fx v = body at hl hb
    have hof : ofLe (leBytes 2 body.length) = body.length := by
      rw [ofLe_leBytes]; omega
    rw [List.append_assoc, List.append_assoc, List.take_left' (leBytes_length _ _), hof,
      List.drop_left' (leBytes_length _ _), List.take_left' rfl, ← hl, ← List.append_assoc, ← List.append_assoc,
      List.drop_left' rfl]
  | strct c hstr hst hl =>
    have hchr : ¬ sp.fmt = .chr := by rw [hst]; decide
    unfold obs
    rw [if_neg hstr, if_neg hstr, if_neg hchr, if_neg hchr, if_pos hst, if_pos hst, ← hl, List.drop_left' rfl]
  | word hstr hst =>
    unfold obs
    rw [if_neg hstr, if_neg hstr]
    by_cases hchr : sp.fmt = .chr
    · obtain ⟨h1, h4⟩ := hwf.2 hchr
      have ha : align4 sp.size = 4 := by unfold align4; omega
      rw [if_pos hchr, if_pos hchr, ha]
      rfl
    · rw [if_neg hchr, if_neg hchr, if_neg hst, if_neg hst, ofLe_take_leBytes (le_align4 _),
        List.drop_left' (leBytes_length _ _)]

theorem read_chunks (fx : Fix) : ∀ (specs : List Spec) (vals : List Val) (cs : List Byte),
    (∀ sp ∈ specs, WF sp) → Chunks fx specs vals cs →
    (∀ data rest, data.length % 4 = 0 → readLoop specs data (cs ++ rest) = some (data ++ cs, rest)) ∧
    decodeVals specs cs = (specs.zip vals).map (fun p => obs fx p.1 p.2) := by
  intro specs
  induction specs with
  | nil =>
    intro vals cs _ hc
    simp only [Chunks] at hc
    subst hc
    simp [readLoop, decodeVals]
  | cons sp specs ih =>
    intro vals cs hwf hc
    cases vals with
    | nil => simp [Chunks] at hc
    | cons v vals =>
      simp only [Chunks] at hc
      obtain ⟨c, cs', rfl, h1, h2⟩ := hc
      obtain ⟨hsp, hrest⟩ := List.forall_mem_cons.mp hwf
      obtain ⟨ihr, ihd⟩ := ih vals cs' hrest h2
      refine ⟨fun data rest hd => ?_, ?_⟩
      · simp only [readLoop]
        rw [List.append_assoc, readArg_chunk fx sp v c data (cs' ++ rest) h1 hsp hd]
        simp only
        rw [ihr (data ++ c) rest (by have := h1.length_mod; rw [List.length_append]; omega), List.append_assoc]
      · rw [decode_chunk fx sp v specs c cs' h1 hsp, ihd]
        rfl

/-! ## run-level statements used by Props/C09 -/
open Uft.Gen.Layout

/-- the reader's final seek to the next multiple of 8 skips what record_ret_stack left out -/
theorem drop_padTo8 (n : Nat) (rest : List Byte) :
    (if n % 8 ≠ 0 then (padTo8 n ++ rest).drop (8 - n % 8) else padTo8 n ++ rest) = rest := by
  have hl : (padTo8 n).length = if n % 8 ≠ 0 then 8 - n % 8 else 0 := by
    unfold padTo8 align8
    rw [List.length_replicate]
    split <;> omega
  split
  · rename_i h
    rw [if_pos h] at hl
    exact List.drop_left' hl
  · rename_i h
    rw [if_neg h] at hl
    rw [List.eq_nil_of_length_eq_zero hl]
    rfl

theorem parse_accepted (fx : Fix) (specs : List Spec) (vals : List Val) (m0 : Mem)
    (payload rest : List Byte)
    (hlen : vals.length = specs.length) (hwf : ∀ sp ∈ specs, WF sp) (hv : ∀ v ∈ vals, ValOk v)
    (h : accepted fx specs vals m0 = some payload) :
    readArgs specs (payload ++ padTo8 payload.length ++ rest) = some (payload, rest) ∧
    decodeVals specs payload = (specs.zip vals).map (fun p => obs fx p.1 p.2) := by
  unfold accepted at h
  simp only at h
  split at h
  · cases h
  · rename_i htot
    injection h with h
    obtain ⟨cs, h1, h2⟩ := packRun_chunks fx specs vals (St.init m0) hlen hv (Nat.zero_le _) (by omega)
    have hp : payload = cs := by
      rw [← h]
      unfold St.payload
      rw [h1]
      rfl
    subst hp
    obtain ⟨hr, hd⟩ := read_chunks fx specs vals payload hwf h2
    refine ⟨?_, hd⟩
    unfold readArgs
    rw [List.append_assoc, hr [] (padTo8 payload.length ++ rest) rfl]
    simp only [List.nil_append]
    rw [drop_padTo8]

theorem accepted_of_ok {fx : Fix} {specs : List Spec} {vals : List Val} {m0 : Mem} {p : List Byte}
    (h : packArgs fx specs vals m0 = .ok p) : accepted fx specs vals m0 = some p := by
  unfold packArgs at h
  unfold accepted
  simp only at h ⊢
  split at h
  · cases h
  · split at h
    · cases h
    · rename_i _ ht
      rw [if_neg ht]
      injection h with h
      rw [h]

theorem parse_pack (fx : Fix) (specs : List Spec) (vals : List Val) (m0 : Mem)
    (payload rest : List Byte)
    (hlen : vals.length = specs.length) (hwf : ∀ sp ∈ specs, WF sp) (hv : ∀ v ∈ vals, ValOk v)
    (h : packArgs fx specs vals m0 = .ok payload) :
    readArgs specs (payload ++ padTo8 payload.length ++ rest) = some (payload, rest) ∧
    decodeVals specs payload = (specs.zip vals).map (fun p => obs fx p.1 p.2) :=
  parse_accepted fx specs vals m0 payload rest hlen hwf hv (accepted_of_ok h)

/-- one recorded ENTRY/EXIT with its fetched values -/
structure Call where
  time : Nat
  type : Nat
  depth : Nat
  addr : Nat
  specs : List Spec       -- all specs registered for `addr`
  vals : List Val         -- the fetched values of the selected specs
  m0 : Mem                -- the slice before the call

def Call.chosen (c : Call) : List Spec := Uft.Argbuf.sel (c.type == 1) c.specs

/-- save_argument / save_retval: data that is too big is dropped, the record has no payload -/
def Call.payload (fx : Fix) (c : Call) : Option (List Byte) := accepted fx c.chosen c.vals c.m0

def Call.bytes (fx : Fix) (c : Call) : List Byte := recordBytes c.time c.type c.depth c.addr (c.payload fx)

def Call.toRec (fx : Fix) (c : Call) : Rec := ⟨c.time, c.type, c.depth, c.addr, c.payload fx⟩

def CallOk (specOf : Nat → List Spec) (c : Call) : Prop :=
  c.type < 2 ∧ c.depth < 1024 ∧ c.addr < 2 ^ 48 ∧ c.time < 2 ^ 64 ∧ specOf c.addr = c.specs ∧
  c.vals.length = c.chosen.length ∧ (∀ sp ∈ c.specs, WF sp) ∧ ∀ v ∈ c.vals, ValOk v

theorem digit_mod {x k : Nat} (y : Nat) (h : x < k) : (x + k * y) % k = x := by
  rw [Nat.add_mul_mod_self_left, Nat.mod_eq_of_lt h]

theorem digit_div {x k : Nat} (y : Nat) (h : x < k) : (x + k * y) / k = y := by
  rw [Nat.add_mul_div_left _ _ (Nat.lt_of_le_of_lt (Nat.zero_le _) h), Nat.div_eq_of_lt h, Nat.zero_add]

/-- without carries the fields are the digits of the word in the mixed radix 4, 2, 8, 1024 -/
theorem packWord_eq (type depth addr : Nat) (more : Bool)
    (ht : type < 4) (hd : depth < 1024) (ha : addr < 2 ^ 48) :
    packWord type more depth addr = type + 4 * (more.toNat + 2 * (5 + 8 * (depth + 1024 * addr))) := by
  have hor : type ||| 40 = type + 40 := by
    have h : 40 + type = 40 ||| type := Nat.two_pow_add_eq_or_of_lt (i := 3) (by omega) 5
    rw [Nat.or_comm, ← h, Nat.add_comm]
  have hm : depth &&& 1023 = depth := by
    rw [Nat.and_two_pow_sub_one_eq_mod depth 10]
    exact Nat.mod_eq_of_lt hd
  have hb : (if more = true then 4 else 0) = 4 * more.toNat := by
    cases more <;> rfl
  have := Bool.toNat_lt more
  unfold packWord RECORD_MAGIC
  rw [Nat.shiftLeft_eq, Nat.shiftLeft_eq, Nat.shiftLeft_eq, hm, hor, hb, Nat.mod_eq_of_lt (by omega)]
  omega

theorem unpack_pack (type depth addr : Nat) (more : Bool)
    (ht : type < 4) (hd : depth < 1024) (ha : addr < 2 ^ 48) :
    unpackType (packWord type more depth addr) = type ∧
    unpackMore (packWord type more depth addr) = (if more then 1 else 0) ∧
    unpackMagic (packWord type more depth addr) = RECORD_MAGIC ∧
    unpackDepth (packWord type more depth addr) = depth ∧
    unpackAddr (packWord type more depth addr) = addr := by
  have hb : (if more = true then 1 else 0) = more.toNat := by
    cases more <;> rfl
  have hm := Bool.toNat_lt more
  rw [packWord_eq type depth addr more ht hd ha, hb]
  generalize more.toNat = b at hm
  generalize hw : type + 4 * (b + 2 * (5 + 8 * (depth + 1024 * addr))) = w
  have d2 : w / 2 ^ 2 = b + 2 * (5 + 8 * (depth + 1024 * addr)) := by
    rw [← hw]
    exact digit_div _ ht
  have d3 : w / 2 ^ 3 = 5 + 8 * (depth + 1024 * addr) := by
    rw [show 2 ^ 3 = 2 ^ 2 * 2 from rfl, ← Nat.div_div_eq_div_mul, d2]
    exact digit_div _ hm
  have d6 : w / 2 ^ 6 = depth + 1024 * addr := by
    rw [show 2 ^ 6 = 2 ^ 3 * 8 from rfl, ← Nat.div_div_eq_div_mul, d3]
    exact digit_div _ (by decide)
  have d16 : w / 2 ^ 16 = addr := by
    rw [show 2 ^ 16 = 2 ^ 6 * 1024 from rfl, ← Nat.div_div_eq_div_mul, d6]
    exact digit_div _ hd
  simp only [unpackType, unpackMore, unpackMagic, unpackDepth, unpackAddr, field, RECORD_MAGIC,
    typeShift, typeWidth, moreShift, moreWidth, magicShift, magicWidth,
    depthShift, depthWidth, addrShift, addrWidth, Nat.shiftRight_eq_div_pow]
  rw [d2, d3, d6, d16, Nat.pow_zero, Nat.div_one, ← hw]
  exact ⟨digit_mod _ ht, digit_mod _ hm, digit_mod _ (by decide), digit_mod _ hd, Nat.mod_eq_of_lt ha⟩

theorem packWord_lt (type depth addr : Nat) (more : Bool) : packWord type more depth addr < 2 ^ 64 := by
  unfold packWord; exact Nat.mod_lt _ (by decide)

theorem sel_wf {specs : List Spec} (b : Bool) (h : ∀ sp ∈ specs, WF sp) : ∀ sp ∈ sel b specs, WF sp := by
  intro sp hsp
  unfold sel at hsp
  exact h sp (List.mem_filter.mp hsp).1

theorem decodeAll_record (specOf : Nat → List Spec) (fuel time type depth addr : Nat) (more : Bool) (rest : List Byte)
    (ht : type < 2) (hd : depth < 1024) (ha : addr < 2 ^ 48) (htime : time < 2 ^ 64) :
    decodeAll specOf (fuel + 1) (hdrBytes time type more depth addr ++ rest) =
      if more then
        match readArgs (sel (type == 1) (specOf addr)) rest with
        | some (data, rest') => (decodeAll specOf fuel rest').map (⟨time, type, depth, addr, some data⟩ :: ·)
        | none => none
      else (decodeAll specOf fuel rest).map (⟨time, type, depth, addr, none⟩ :: ·) := by
  obtain ⟨u1, u2, u3, u4, u5⟩ := unpack_pack type depth addr more (by omega) hd ha
  have hl := leBytes_length 8 time
  have hw := leBytes_length 8 (packWord type more depth addr)
  have hl16 : (leBytes 8 time ++ leBytes 8 (packWord type more depth addr)).length = 16 := by
    rw [List.length_append, hl, hw]
  unfold hdrBytes
  rw [decodeAll, if_neg (by simp [leBytes]), if_neg (by rw [List.length_append, hl16]; omega),
    List.append_assoc, List.take_left' hl, List.drop_left' hl, List.take_left' hw, ← List.append_assoc,
    List.drop_left' hl16, ofLe_leBytes_lt 8 time htime, ofLe_leBytes_lt 8 _ (packWord_lt _ _ _ _)]
  simp only [u1, u2, u3, u4, u5, ne_eq, not_true_eq_false, if_false]
  cases more
  · simp only [Bool.false_eq_true, ↓reduceIte, Nat.zero_ne_one]
    cases decodeAll specOf fuel rest <;> rfl
  · simp only [↓reduceIte]
    rw [if_neg (by omega)]
    cases readArgs (sel (type == 1) (specOf addr)) rest with
    | none => rfl
    | some r =>
      obtain ⟨data, rest'⟩ := r
      dsimp only
      cases decodeAll specOf fuel rest' <;> rfl

theorem decode_step (fx : Fix) (specOf : Nat → List Spec) (c : Call) (hok : CallOk specOf c)
    (fuel : Nat) (tail : List Byte) :
    decodeAll specOf (fuel + 1) (c.bytes fx ++ tail) = (decodeAll specOf fuel tail).map (c.toRec fx :: ·) := by
  obtain ⟨ht, hd, ha, htime, hspec, hlen, hwf, hv⟩ := hok
  unfold Call.bytes Call.toRec recordBytes
  cases hp : c.payload fx with
  | none =>
    exact decodeAll_record specOf fuel c.time c.type c.depth c.addr false tail ht hd ha htime
  | some p =>
    have hr := (parse_accepted fx c.chosen c.vals c.m0 p tail hlen (sel_wf _ hwf) hv hp).1
    unfold Call.chosen at hr
    simp only
    rw [List.append_assoc _ p, List.append_assoc _ (p ++ _), decodeAll_record specOf fuel c.time c.type c.depth c.addr true _ ht hd ha htime,
      if_pos rfl, hspec, hr]

theorem decodeAll_calls (fx : Fix) (specOf : Nat → List Spec) :
    ∀ (cs : List Call) (fuel : Nat), (∀ c ∈ cs, CallOk specOf c) → cs.length ≤ fuel →
      decodeAll specOf fuel (cs.flatMap (Call.bytes fx)) = some (cs.map (Call.toRec fx)) := by
  intro cs
  induction cs with
  | nil =>
    intro fuel _ _
    cases fuel <;> simp [decodeAll]
  | cons c cs ih =>
    intro fuel hok hf
    cases fuel with
    | zero => simp at hf
    | succ fuel =>
      rw [List.flatMap_cons, decode_step fx specOf c (hok c (by simp)) fuel,
        ih fuel (fun x hx => hok x (by simp [hx])) (by simpa using hf)]
      rfl

theorem bytes_length_pos (fx : Fix) (c : Call) : 1 ≤ (c.bytes fx).length := by
  unfold Call.bytes recordBytes hdrBytes
  cases c.payload fx <;> simp <;> omega

theorem flatMap_length_ge (fx : Fix) : ∀ (cs : List Call), cs.length ≤ (cs.flatMap (Call.bytes fx)).length := by
  intro cs
  induction cs with
  | nil => simp
  | cons c cs ih =>
    rw [List.flatMap_cons, List.length_append, List.length_cons]
    have := bytes_length_pos fx c
    omega

/-- sizes parse_argspec can produce and the fetchers respect: scalars at most 32 bytes, a struct's
    stored bytes exceed its size by at most four registers -/
def Sized (sp : Spec) (v : Val) : Prop :=
  (sp.isStr = false → sp.fmt ≠ .strct → sp.size ≤ 32) ∧ (sp.fmt = .strct → v.asBlob.length ≤ sp.size + 32)

theorem maxSize_fixed {fx : Fix} (hb : fx.bounds = true) : maxSize fx = 988 := by
  unfold maxSize
  rw [if_pos hb]
  rfl

theorem maxSize_ge (fx : Fix) : 988 ≤ maxSize fx := by
  unfold maxSize SLICE
  split <;> omega

/-- a string value stores its 2-byte length and at most 99 bytes, not more than there is room for; the NULL
    marker is stored without looking at the room -/
theorem packStr_hi (fx : Fix) (src : Option (List Byte)) (st : St) (hv : ∀ s, src = some s → NoNul s) {B : Nat}
    (hhi : st.mem.hi ≤ B) (hnull : st.total + 10 ≤ B) (hstr : st.total + 6 + min 99 (roomOf fx st.total) ≤ B) :
    (packStr fx src st).mem.hi ≤ B := by
  cases src with
  | some s =>
    have h := copyImg_length_le s (roomOf fx st.total)
    rw [packStr_some fx s st (hv s rfl)]
    refine hi_blit_le _ _ _ (hi_blit_le _ _ _ hhi (by omega)) ?_
    rw [leBytes_length]
    omega
  | none =>
    refine hi_blit_le _ _ _ (hi_blit_le _ _ _ hhi ?_) ?_
    · rw [leBytes_length]
      omega
    · rw [nullBytes_length]
      omega

theorem packStr_total_le (fx : Fix) (src : Option (List Byte)) (st : St) (hv : ∀ s, src = some s → NoNul s) :
    (packStr fx src st).total ≤ st.total + 100 := by
  cases src with
  | some s =>
    rw [packStr_some fx s st (hv s rfl)]
    have := strObs_length s
    exact Nat.add_le_add_left (align4_le (k := 25) (by omega)) _
  | none =>
    exact Nat.add_le_add_left (align4_le (k := 25) (by decide)) _

theorem packOne_hi (fx : Fix) (hb : fx.bounds = true) (sp : Spec) (v : Val) (st : St)
    (hs : Sized sp v) (hv : ValOk v) (hhi : st.mem.hi ≤ SLICE) : (packOne fx sp v st).mem.hi ≤ SLICE := by
  have hmax := maxSize_fixed hb
  rcases packOne_cases fx sp v st with ⟨-, e⟩ | ⟨-, e⟩ | ⟨⟨h1, h2⟩, e⟩
  · rw [e]
    exact hhi
  · rw [e]
    exact hhi
  · have ht : st.total ≤ 988 := by
      rw [hmax] at h1
      exact Nat.le_of_not_lt fun h => h1 ⟨hb, h⟩
    rw [e]
    unfold SLICE at hhi ⊢
    by_cases hstr : sp.isStr = true
    · rw [if_pos hstr]
      exact packStr_hi fx v.src st hv hhi (by omega) (by rw [roomOf_le (by omega), hmax]; omega)
    · rw [if_neg hstr]
      by_cases hst : sp.fmt = .strct
      · have hsz : st.total + sp.size ≤ 988 := by
          rw [hmax] at h2
          exact Nat.le_of_not_lt fun h => h2 ⟨hst, h⟩
        have := hs.2 hst
        rw [if_pos hst]
        exact hi_blit_le _ _ _ hhi (by omega)
      · have := hs.1 (by simpa using hstr) hst
        have ha : align4 sp.size ≤ 32 := align4_le (k := 8) this
        rw [if_neg hst]
        exact hi_blit_le _ _ _ hhi (by rw [leBytes_length]; omega)

theorem packRun_hi (fx : Fix) (hb : fx.bounds = true) : ∀ (specs : List Spec) (vals : List Val) (st : St),
    (∀ p ∈ specs.zip vals, Sized p.1 p.2 ∧ ValOk p.2) → st.mem.hi ≤ SLICE →
    (packRun fx specs vals st).mem.hi ≤ SLICE := by
  intro specs
  induction specs with
  | nil => intro vals st _ h; simpa [packRun] using h
  | cons sp specs ih =>
    intro vals st hp h
    cases vals with
    | nil => simpa [packRun] using h
    | cons v vals =>
      simp only [packRun]
      have h0 := hp (sp, v) (by simp)
      have h1 := packOne_hi fx hb sp v st h0.1 h0.2 h
      split
      · exact h1
      · exact ih vals _ (fun p hpm => hp p (by simp [List.zip_cons_cons, hpm])) h1

def w18 : List Byte := [65, 65, 65, 65, 65, 65, 65, 65, 65, 65, 65, 65, 65, 65, 65, 65, 65, 65]

theorem isStr_not_strct {sp : Spec} (h : sp.isStr = true) : sp.fmt ≠ .strct := by
  intro hf; unfold Spec.isStr at h; rw [hf] at h; simp at h

theorem single_roundtrip (fx : Fix) (sp : Spec) (v : Val) (m0 : Mem) (hwf : WF sp) (hv : ValOk v)
    (hst : sp.fmt ≠ .strct) (hsz : sp.isStr = false → sp.size ≤ 32) :
    ∃ p, packArgs fx [sp] [v] m0 = .ok p ∧ decodeVals [sp] p = [obs fx sp v] := by
  have hm := maxSize_ge fx
  have hrun : packRun fx [sp] [v] (St.init m0) = packOne fx sp v (St.init m0) := by
    simp only [packRun]
    split <;> rfl
  have hone := (((packOne_cases fx sp v (St.init m0)).resolve_left fun h => absurd h.1.2 (Nat.not_lt_zero _)).resolve_left
    fun h => hst h.1.1).2
  have h0 : (St.init m0).total = 0 := rfl
  have hh : (St.init m0).mem.hi = 0 := rfl
  have hbound : (packOne fx sp v (St.init m0)).mem.hi ≤ 105 ∧ (packOne fx sp v (St.init m0)).total ≤ 100 := by
    rw [hone]
    by_cases hstr : sp.isStr = true
    · rw [if_pos hstr]
      exact ⟨packStr_hi fx v.src _ hv (by omega) (by omega) (by omega), by
        have := packStr_total_le fx v.src (St.init m0) hv
        omega⟩
    · have := hsz (by simpa using hstr)
      have ha : align4 sp.size ≤ 32 := align4_le (k := 8) this
      rw [if_neg hstr, if_neg hst]
      exact ⟨hi_blit_le _ _ _ (by omega) (by rw [leBytes_length]; omega), by simp only; omega⟩
  have hp : packArgs fx [sp] [v] m0 = .ok (packOne fx sp v (St.init m0)).payload := by
    unfold packArgs
    simp only
    rw [hrun, if_neg (by unfold SLICE; omega), if_neg (by omega)]
  exact ⟨_, hp, (parse_pack fx [sp] [v] m0 _ [] rfl (fun x hx => by rw [List.mem_singleton.mp hx]; exact hwf)
    (fun x hx => by rw [List.mem_singleton.mp hx]; exact hv) hp).2⟩

theorem sel_single_arg (sp : Spec) (h : 1 ≤ sp.idx) : sel false [sp] = [sp] := by
  unfold sel Spec.isRet
  have : (sp.idx == 0) = false := by simp; omega
  simp [this]

theorem setLow_zero (n x : Nat) : setLow 0 n x = x % 256 ^ n := by
  unfold setLow; simp

/-! ## option sources: the writer's and the reader's spec lists -/

/-- a retval action carries no location (`retval%…` means nothing to mcount_arch_get_retval) -/
def SpecSrcOk (sp : Spec) : Prop := sp.isRet = true → sp.ty = 0

def ListOk (l : List LSpec) : Prop := ∀ o ∈ l, SpecSrcOk o.sp

theorem sameKey_isRet (a o : Spec) (ha : SpecSrcOk a) (ho : SpecSrcOk o) (h : sameKey a o = true) :
    a.isRet = o.isRet := by
  unfold sameKey at h
  unfold SpecSrcOk Spec.isRet at *
  rw [Bool.and_eq_true] at h
  obtain ⟨hty, hk⟩ := h
  have hty : a.ty = o.ty := by simpa using hty
  by_cases ha0 : a.idx = 0
  · have h0 : a.ty = 0 := ha (by simp [ha0])
    rw [h0, if_pos (by omega)] at hk
    have : a.idx = o.idx := by simpa using hk
    simp [ha0, ← this]
  · by_cases ho0 : o.idx = 0
    · have h0 : o.ty = 0 := ho (by simp [ho0])
      rw [hty, h0, if_pos (by omega)] at hk
      have : a.idx = o.idx := by simpa using hk
      omega
    · rw [beq_false_of_ne ha0, beq_false_of_ne ho0]

theorem addArgSpec_nil (e : Bool) (a : Spec) : addArgSpec e [] a = [⟨a, e⟩] := rfl
theorem addArgSpec_cons (e : Bool) (o : LSpec) (r : List LSpec) (a : Spec) :
    addArgSpec e (o :: r) a = if sameKey a o.sp then overwrite o a e :: r else o :: addArgSpec e r a := rfl

theorem overwrite_isRet (o : LSpec) (a : Spec) (e : Bool) : (overwrite o a e).sp.isRet = o.sp.isRet := by
  unfold overwrite
  split <;> rfl

theorem overwrite_ok (o : LSpec) (a : Spec) (e : Bool) (ho : SpecSrcOk o.sp)
    (h : sameKey a o.sp = true) : SpecSrcOk (overwrite o a e).sp := by
  intro hr
  rw [overwrite_isRet] at hr
  have h1 := ho hr
  unfold overwrite
  split
  · show a.ty = 0
    unfold sameKey at h
    simp only [Bool.and_eq_true, beq_iff_eq] at h
    omega
  · exact h1

theorem addArgSpec_ok (e : Bool) (l : List LSpec) (a : Spec) (ha : SpecSrcOk a) (hl : ListOk l) :
    ListOk (addArgSpec e l a) := by
  induction l with
  | nil => exact List.forall_mem_singleton.mpr ha
  | cons o r ih =>
    obtain ⟨ho, hr⟩ := List.forall_mem_cons.mp hl
    rw [addArgSpec_cons]
    split
    · exact List.forall_mem_cons.mpr ⟨overwrite_ok o a e ho (by assumption), hr⟩
    · exact List.forall_mem_cons.mpr ⟨ho, ih hr⟩

/-- the entries of one class (arguments / return values) -/
def part (b : Bool) (l : List LSpec) : List LSpec := l.filter (fun o => o.sp.isRet == b)

theorem part_cons (b : Bool) (o : LSpec) (r : List LSpec) :
    part b (o :: r) = if o.sp.isRet == b then o :: part b r else part b r := by
  unfold part; rw [List.filter_cons]

theorem part_addArgSpec (b e : Bool) (l : List LSpec) (a : Spec) (ha : SpecSrcOk a) (hl : ListOk l) :
    part b (addArgSpec e l a) = if a.isRet == b then addArgSpec e (part b l) a else part b l := by
  induction l with
  | nil =>
    rw [addArgSpec_nil, part_cons]
    show (if (a.isRet == b) = true then _ else _) = _
    split <;> rfl
  | cons o r ih =>
    have ho : SpecSrcOk o.sp := hl o (by simp)
    have hr : ListOk r := fun y hy => hl y (by simp [hy])
    have ih := ih hr
    rw [addArgSpec_cons]
    by_cases hk : sameKey a o.sp = true
    · have hro := sameKey_isRet a o.sp ha ho hk
      rw [if_pos hk, part_cons, part_cons, overwrite_isRet, ← hro]
      by_cases hb : (a.isRet == b) = true
      · simp only [if_pos hb]
        rw [addArgSpec_cons, if_pos hk]
      · simp only [if_neg hb]
    · rw [if_neg hk, part_cons, part_cons, ih]
      by_cases hob : (o.sp.isRet == b) = true
      · simp only [if_pos hob]
        by_cases hb : (a.isRet == b) = true
        · simp only [if_pos hb]
          rw [addArgSpec_cons, if_neg hk]
        · simp only [if_neg hb]
      · simp only [if_neg hob]

def AddsOk (adds : List (Bool × Spec)) : Prop := ∀ a ∈ adds, SpecSrcOk a.2

theorem part_buildFrom (b : Bool) (adds : List (Bool × Spec)) (l : List LSpec) (ha : AddsOk adds) (hl : ListOk l) :
    part b (buildFrom l adds) = buildFrom (part b l) (adds.filter (fun a => a.2.isRet == b)) := by
  induction adds generalizing l with
  | nil => rfl
  | cons a r ih =>
    have h1 : SpecSrcOk a.2 := ha a (by simp)
    have h2 : AddsOk r := fun x hx => ha x (by simp [hx])
    unfold buildFrom at *
    simp only [List.foldl_cons, List.filter_cons]
    rw [ih (addArgSpec a.1 l a.2) h2 (addArgSpec_ok a.1 l a.2 h1 hl), part_addArgSpec b a.1 l a.2 h1 hl]
    split <;> simp_all

theorem part_build (b : Bool) (adds : List (Bool × Spec)) (ha : AddsOk adds) :
    part b (build adds) = build (adds.filter (fun a => a.2.isRet == b)) := by
  unfold build
  rw [part_buildFrom b adds [] ha (by intro o ho; cases ho)]
  rfl

theorem layout_eq_part (b : Bool) (l : List LSpec) : layout b l = (part b l).map (·.sp) := by
  unfold layout sel part
  rw [List.filter_map]
  rfl

/-! ### the two sequences of add_arg_spec calls -/

/-- what the auto-args table / DWARF know about a function: argument specs for arguments,
    return-value specs for return values -/
def AutoOk (auto : Nat → Bool → List Spec) : Prop :=
  ∀ f b, ∀ sp ∈ auto f b, sp.isRet = b ∧ SpecSrcOk sp

def ItemsOk (items : List Item) : Prop := ∀ it ∈ items, ∀ sp ∈ it.specs, SpecSrcOk sp

/-- the option that carries the specs of one class: -A for arguments, -R for return values -/
abbrev srcOf : Bool → Src
  | false => .arg
  | true => .ret

theorem compat_srcOf (b : Bool) : compat (srcOf b) = fun sp => sp.isRet == b := by
  funext sp
  cases b <;> cases h : sp.isRet <;> simp [compat, h]

theorem itemAdds_srcOf (auto : Nat → Bool → List Spec) (b : Bool) (it : Item) (f : Nat) :
    itemAdds auto (srcOf b) it f =
      if it.fns.contains f then
        (if (it.specs.filter (fun sp => sp.isRet == b)).isEmpty then auto f b
          else it.specs.filter (fun sp => sp.isRet == b)).map (fun sp => (it.exact, sp))
      else [] := by
  unfold itemAdds
  rw [compat_srcOf]
  cases b <;> simp [srcOf]

theorem itemAdds_trig (auto : Nat → Bool → List Spec) (it : Item) (f : Nat) :
    itemAdds auto .trig it f =
      if it.fns.contains f then
        (if it.specs.isEmpty then (if it.autoArgs then auto f false ++ auto f true else [])
          else it.specs).map (fun sp => (it.exact, sp))
      else [] := by
  unfold itemAdds
  rw [List.filter_eq_self (p := compat .trig).mpr (fun _ _ => rfl)]
  cases it.autoArgs <;> simp

/-- extract_trigger_args, the string of one class -/
def xOf : Bool → XFix → Item → List Item
  | false => xArgs
  | true => xRets

theorem xOf_eq (b : Bool) (xf : XFix) (hr : b = true → xf.ret = true) (it : Item) :
    xOf b xf it =
      (if (it.specs.filter (fun sp => sp.isRet == b)).isEmpty then []
        else [{ it with specs := it.specs.filter (fun sp => sp.isRet == b), autoArgs := false }]) ++ xAuto xf it := by
  cases b with
  | false =>
    simp only [beq_false]
    rfl
  | true =>
    simp only [beq_true]
    show xRets xf it = _
    unfold xRets
    rw [hr rfl]
    rfl

theorem filter_class {α : Type} (cls : α → Bool) {l : List α} {c : Bool} (h : ∀ a ∈ l, cls a = c) (b : Bool) :
    l.filter (fun a => cls a == b) = if c = b then l else [] := by
  split
  · rename_i hcb
    exact List.filter_eq_self.mpr fun a ha => by rw [h a ha, hcb, beq_self_eq_true]
  · rename_i hcb
    exact List.filter_eq_nil_iff.mpr fun a ha => by rw [h a ha]; simpa using hcb

theorem auto_filter {auto : Nat → Bool → List Spec} (hauto : AutoOk auto) (f : Nat) (b : Bool) :
    (auto f false ++ auto f true).filter (fun sp => sp.isRet == b) = auto f b := by
  rw [List.filter_append, filter_class Spec.isRet (fun sp h => (hauto f false sp h).1),
    filter_class Spec.isRet (fun sp h => (hauto f true sp h).1)]
  cases b
  · exact List.append_nil _
  · exact List.nil_append _

/-- what a trigger item contributes to one class at the writer = what its extracted items of that class
    contribute at the reader (return values: with the format kept, C09-TRIGRET repaired) -/
theorem itemAdds_trig_class (auto : Nat → Bool → List Spec) (hauto : AutoOk auto) (xf : XFix) (hx : xf.auto = true)
    (b : Bool) (hr : b = true → xf.ret = true) (it : Item) (f : Nat) :
    (itemAdds auto .trig it f).filter (fun a => a.2.isRet == b)
      = (xOf b xf it).flatMap (fun it' => itemAdds auto (srcOf b) it' f) := by
  rw [xOf_eq b xf hr, itemAdds_trig]
  unfold xAuto
  simp only [itemAdds_srcOf]
  by_cases hf : it.fns.contains f = true
  · rw [if_pos hf, List.filter_map]
    cases hs : it.specs with
    | nil =>
      cases ha : it.autoArgs
      · simp
      · have hf' : f ∈ it.fns := by simpa using hf
        simp [hf', auto_filter hauto f b, Function.comp_def]
    | cons s r =>
      rw [hx]
      simp only [List.isEmpty_cons, Bool.false_eq_true, if_false, Bool.not_false, Bool.and_true, Bool.not_true,
        Bool.and_false, List.append_nil, Function.comp_def]
      by_cases he : ((s :: r).filter (fun sp => sp.isRet == b)).isEmpty = true
      · rw [if_pos he, List.isEmpty_iff.mp he]
        rfl
      · rw [if_neg he]
        simp only [List.flatMap_cons, List.flatMap_nil, List.append_nil, hf, if_true, List.filter_filter, Bool.and_self]
        rw [if_neg he]
  · rw [if_neg hf, List.filter_nil]
    symm
    rw [List.flatMap_eq_nil_iff]
    intro it' hit'
    have : it'.fns = it.fns := by
      simp only [List.mem_append] at hit'
      rcases hit' with h | h
      · split at h
        · cases h
        · simp at h; subst h; rfl
      · split at h
        · simp at h; subst h; rfl
        · cases h
    rw [this, if_neg hf]

theorem addsOf_class (auto : Nat → Bool → List Spec) (hauto : AutoOk auto) (b : Bool) (items : List Item) (f : Nat) :
    ∀ a ∈ addsOf auto (srcOf b) items f, a.2.isRet = b := by
  intro a ha
  unfold addsOf at ha
  obtain ⟨it, _, hit⟩ := List.mem_flatMap.mp ha
  rw [itemAdds_srcOf] at hit
  split at hit
  · obtain ⟨sp, hsp, rfl⟩ := List.mem_map.mp hit
    split at hsp
    · exact (hauto f b sp hsp).1
    · simpa using (List.mem_filter.mp hsp).2
  · cases hit

/-- everything -A contributes is an argument spec, everything -R contributes a return-value spec -/
theorem addsOf_filter_class (auto : Nat → Bool → List Spec) (hauto : AutoOk auto) (b c : Bool) (items : List Item)
    (f : Nat) :
    (addsOf auto (srcOf c) items f).filter (fun a => a.2.isRet == b) =
      if c = b then addsOf auto (srcOf c) items f else [] :=
  filter_class (fun a : Bool × Spec => a.2.isRet) (addsOf_class auto hauto c items f) b

theorem addsOf_append (auto : Nat → Bool → List Spec) (s : Src) (x y : List Item) (f : Nat) :
    addsOf auto s (x ++ y) f = addsOf auto s x f ++ addsOf auto s y f := by
  unfold addsOf; rw [List.flatMap_append]

/-- the entries of one class the writer adds, in order, are what the reader adds for that class's info line -/
theorem writerAdds_class (auto : Nat → Bool → List Spec) (hauto : AutoOk auto) (xf : XFix) (hx : xf.auto = true)
    (b : Bool) (hr : b = true → xf.ret = true) (T A R : List Item) (f : Nat) :
    (writerAdds auto T A R f).filter (fun a => a.2.isRet == b) =
      addsOf auto (srcOf b) (T.flatMap (xOf b xf) ++ (if b then R else A)) f := by
  have hT : (addsOf auto .trig T f).filter (fun a => a.2.isRet == b) = addsOf auto (srcOf b) (T.flatMap (xOf b xf)) f := by
    unfold addsOf
    rw [List.filter_flatMap, List.flatMap_assoc]
    congr 1
    funext it
    exact itemAdds_trig_class auto hauto xf hx b hr it f
  unfold writerAdds
  rw [List.filter_append, List.filter_append, hT, addsOf_append, List.append_assoc]
  congr 1
  rw [addsOf_filter_class auto hauto b false, addsOf_filter_class auto hauto b true]
  cases b
  · exact List.append_nil _
  · exact List.nil_append _

theorem readerAdds_class (auto : Nat → Bool → List Spec) (hauto : AutoOk auto) (xf : XFix) (b : Bool)
    (T A R : List Item) (f : Nat) :
    (readerAdds auto xf T A R f).filter (fun a => a.2.isRet == b) =
      if b then addsOf auto .ret (infoRets xf T R) f ++
        (if oldPass xf (infoArgs xf T A) (infoRets xf T R) then addsOf auto .ret (infoArgs xf T A) f else [])
      else addsOf auto .arg (infoArgs xf T A) f := by
  unfold readerAdds readerAddsOf
  rw [List.filter_append, List.filter_append, addsOf_filter_class auto hauto b false, addsOf_filter_class auto hauto b true]
  by_cases hold : oldPass xf (infoArgs xf T A) (infoRets xf T R) = true
  · rw [if_pos hold, addsOf_filter_class auto hauto b true]
    cases b <;> simp
  · rw [if_neg hold]
    cases b <;> simp

theorem itemAdds_ok (auto : Nat → Bool → List Spec) (hauto : AutoOk auto) (s : Src) (it : Item)
    (hit : ∀ sp ∈ it.specs, SpecSrcOk sp) (f : Nat) : AddsOk (itemAdds auto s it f) := by
  intro a ha
  unfold itemAdds at ha
  split at ha
  · simp only [List.mem_map] at ha
    obtain ⟨sp, hsp, rfl⟩ := ha
    split at hsp
    · simp only [List.mem_append] at hsp
      rcases hsp with h | h
      · split at h
        · exact (hauto f false sp h).2
        · cases h
      · split at h
        · exact (hauto f true sp h).2
        · cases h
    · exact hit sp (List.mem_filter.mp hsp).1
  · cases ha

theorem addsOf_ok (auto : Nat → Bool → List Spec) (hauto : AutoOk auto) (s : Src) (items : List Item)
    (hi : ItemsOk items) (f : Nat) : AddsOk (addsOf auto s items f) := by
  intro a ha
  unfold addsOf at ha
  obtain ⟨it, hit, h⟩ := List.mem_flatMap.mp ha
  exact itemAdds_ok auto hauto s it (hi it hit) f a h

theorem xAuto_ok (xf : XFix) (it : Item) : ItemsOk (xAuto xf it) := by
  intro x hx sp hsp
  unfold xAuto at hx
  split at hx
  · simp at hx; subst hx; cases hsp
  · cases hx

theorem extractArgs_ok (xf : XFix) (T : List Item) (hT : ItemsOk T) : ItemsOk (extractArgs xf T) := by
  intro x hx
  unfold extractArgs at hx
  obtain ⟨it, hit, h⟩ := List.mem_flatMap.mp hx
  unfold xArgs at h
  rcases List.mem_append.mp h with h | h
  · split at h
    · cases h
    · simp at h; subst h
      intro sp hsp
      exact hT it hit sp (List.mem_filter.mp hsp).1
  · exact xAuto_ok xf it x h

theorem extractRets_ok (xf : XFix) (T : List Item) (hT : ItemsOk T) : ItemsOk (extractRets xf T) := by
  intro x hx
  unfold extractRets at hx
  obtain ⟨it, hit, h⟩ := List.mem_flatMap.mp hx
  unfold xRets at h
  rcases List.mem_append.mp h with h | h
  · split at h
    · cases h
    · simp at h; subst h
      intro sp hsp
      simp only at hsp
      split at hsp
      · exact hT it hit sp (List.mem_filter.mp hsp).1
      · simp at hsp; subst hsp; exact fun _ => rfl
  · exact xAuto_ok xf it x h

theorem writerAdds_ok (auto : Nat → Bool → List Spec) (hauto : AutoOk auto) (T A R : List Item)
    (hT : ItemsOk T) (hA : ItemsOk A) (hR : ItemsOk R) (f : Nat) : AddsOk (writerAdds auto T A R f) :=
  List.forall_mem_append.mpr ⟨List.forall_mem_append.mpr ⟨addsOf_ok auto hauto _ T hT f, addsOf_ok auto hauto _ A hA f⟩,
    addsOf_ok auto hauto _ R hR f⟩

theorem readerAdds_ok (auto : Nat → Bool → List Spec) (hauto : AutoOk auto) (xf : XFix) (T A R : List Item)
    (hT : ItemsOk T) (hA : ItemsOk A) (hR : ItemsOk R) (f : Nat) : AddsOk (readerAdds auto xf T A R f) := by
  have ha : ItemsOk (infoArgs xf T A) := List.forall_mem_append.mpr ⟨extractArgs_ok xf T hT, hA⟩
  have hr : ItemsOk (infoRets xf T R) := List.forall_mem_append.mpr ⟨extractRets_ok xf T hT, hR⟩
  unfold readerAdds readerAddsOf
  refine List.forall_mem_append.mpr ⟨List.forall_mem_append.mpr ⟨addsOf_ok auto hauto _ _ ha f, addsOf_ok auto hauto _ _ hr f⟩, ?_⟩
  split
  · exact addsOf_ok auto hauto _ _ ha f
  · intro a h; cases h

/-- the two lists have the same entries of one class, in the same order (return values: with C09-TRIGRET repaired
    and when the old-format pass does not run), hence the same payload layout for that class -/
theorem lists_agree (auto : Nat → Bool → List Spec) (hauto : AutoOk auto) (xf : XFix) (hx : xf.auto = true)
    (b : Bool) (hr : b = true → xf.ret = true) (T A R : List Item)
    (hT : ItemsOk T) (hA : ItemsOk A) (hR : ItemsOk R) (f : Nat)
    (hold : b = true → oldPass xf (infoArgs xf T A) (infoRets xf T R) = false) :
    part b (readerList auto xf T A R f) = part b (writerList auto T A R f) ∧
    layout b (readerList auto xf T A R f) = layout b (writerList auto T A R f) := by
  have h : part b (readerList auto xf T A R f) = part b (writerList auto T A R f) := by
    unfold readerList writerList
    rw [part_build b _ (readerAdds_ok auto hauto xf T A R hT hA hR f),
      part_build b _ (writerAdds_ok auto hauto T A R hT hA hR f),
      writerAdds_class auto hauto xf hx b hr, readerAdds_class auto hauto]
    cases b
    · rfl
    · rw [hold rfl]
      exact congrArg build (List.append_nil _)
  exact ⟨h, by rw [layout_eq_part, layout_eq_part, h]⟩

/-! ## dump (raw), deep copy -/

theorem dumpRaw_fixed (size : Nat) (data : List Byte) :
    (dumpRaw true size data).1 = ofLe (data.take size) ∧ (dumpRaw true size data).2 ≤ 8 := by
  unfold dumpRaw
  by_cases h : size > 8
  · simp [h]
  · have h8 : min size 8 = size := by omega
    simp [h, h8]
    omega

/-- the `list_add_tail` loop of deep_copy_filter appends in order -/
theorem copyArgs_tail_aux (l acc : List LSpec) :
    l.foldl (fun acc a => acc ++ [a]) acc = acc ++ l := by
  induction l generalizing acc with
  | nil => rw [List.foldl_nil, List.append_nil]
  | cons a l ih => rw [List.foldl_cons, ih, List.append_assoc]; rfl

end Uft.Argbuf

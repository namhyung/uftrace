import Uft.Model.Writers
/- The writer pool refines a per-tid FIFO queue (helper lemmas for Props/C03, C04). -/
namespace Uft.Writers

/-- registered tids -/
def regs (ws : List Warg) : List Tid := ws.filterMap (·.tid)

structure WInv (p : Pool) : Prop where
  kick : p.writeList.length ≤ p.kicks
  idle_empty : ∀ w ∈ p.writers, w.tid = none → w.head = [] ∧ w.bufs = []
  own : ∀ w ∈ p.writers, ∀ t, w.tid = some t → ∀ wb ∈ w.head ++ w.bufs, wb.tid = t
  excl : ∀ w ∈ p.writers, ∀ t, w.tid = some t → p.writeList.filter (fun b => b.tid = t) = []
  uniq : (regs p.writers).Nodup

theorem wq_cons (t : Tid) (w : Warg) (ws : List Warg) :
    wq t (w :: ws) = (if w.tid = some t then w.head ++ w.bufs else []) ++ wq t ws := rfl

theorem wq_append (t : Tid) (a b : List Warg) : wq t (a ++ b) = wq t a ++ wq t b := by
  induction a with
  | nil => rfl
  | cons w ws ih => rw [List.cons_append, wq_cons, wq_cons, ih, List.append_assoc]

theorem regs_cons (w : Warg) (ws : List Warg) : regs (w :: ws) = w.tid.toList ++ regs ws := by
  cases h : w.tid <;> simp [regs, h]

theorem regs_append (a b : List Warg) : regs (a ++ b) = regs a ++ regs b :=
  List.filterMap_append

theorem mem_regs {t : Tid} {ws : List Warg} : t ∈ regs ws ↔ ∃ w ∈ ws, w.tid = some t :=
  List.mem_filterMap

theorem wq_nil {t : Tid} {ws : List Warg} (h : t ∉ regs ws) : wq t ws = [] := by
  induction ws with
  | nil => rfl
  | cons w ws ih =>
    rw [regs_cons, List.mem_append, not_or] at h
    have hw : ¬ w.tid = some t := fun e => h.1 (by rw [e]; exact List.mem_singleton_self t)
    rw [wq_cons, if_neg hw, ih h.2]
    rfl

/-- position `i` holds `w`: split the list there -/
theorem split_at {α} {ws : List α} {i : Nat} {w : α} (h : ws[i]? = some w) :
    ∃ l1 l2, ws = l1 ++ w :: l2 ∧ ∀ w', ws.set i w' = l1 ++ w' :: l2 := by
  obtain ⟨hi, rfl⟩ := List.getElem?_eq_some_iff.mp h
  refine ⟨ws.take i, ws.drop (i + 1), ?_, fun w' => ?_⟩
  · rw [← List.drop_eq_getElem_cons hi, List.take_append_drop]
  · rw [List.set_eq_take_append_cons_drop, if_pos hi]

theorem wq_split (t : Tid) (l1 l2 : List Warg) (w : Warg) :
    wq t (l1 ++ w :: l2) = wq t l1 ++ ((if w.tid = some t then w.head ++ w.bufs else []) ++ wq t l2) := by
  rw [wq_append, wq_cons]

/-- with unique registrations only the place of the writer registered for `t` contributes to `wq t` -/
theorem wq_of_split {t : Tid} {l1 l2 : List Warg} {w : Warg}
    (hu : (regs (l1 ++ w :: l2)).Nodup) (ht : w.tid = some t) (w' : Warg) :
    wq t (l1 ++ w' :: l2) = if w'.tid = some t then w'.head ++ w'.bufs else [] := by
  rw [regs_append, regs_cons, ht, List.nodup_append] at hu
  have h1 : t ∉ regs l1 := fun hm => hu.2.2 t hm t (List.mem_append_left _ (List.mem_singleton_self t)) rfl
  have h2 : t ∉ regs l2 := (List.nodup_cons.mp hu.2.1).1
  rw [wq_split, wq_nil h1, wq_nil h2, List.nil_append, List.append_nil]

theorem handTo_none {wb : WBuf} {ws : List Warg} : handTo wb ws = none ↔ wb.tid ∉ regs ws := by
  induction ws with
  | nil => exact ⟨fun _ => List.not_mem_nil, fun _ => rfl⟩
  | cons w ws ih =>
    rw [handTo, regs_cons, List.mem_append, not_or]
    by_cases h : w.tid = some wb.tid
    · rw [if_pos h, h]
      exact ⟨(fun e => nomatch e), fun e => absurd (List.mem_singleton_self _) e.1⟩
    · have h2 : wb.tid ∉ w.tid.toList := by
        cases hw : w.tid with
        | none => exact List.not_mem_nil
        | some x => exact fun e => h (by rw [hw, List.mem_singleton.mp e])
      rw [if_neg h, ← ih]
      cases handTo wb ws with
      | none => exact ⟨fun _ => ⟨h2, rfl⟩, fun _ => rfl⟩
      | some x => exact ⟨(fun e => nomatch e), fun e => nomatch e.2⟩

theorem handTo_some {wb : WBuf} {ws ws' : List Warg} (h : handTo wb ws = some ws') :
    ∃ l1 w l2, ws = l1 ++ w :: l2 ∧ w.tid = some wb.tid ∧
      ws' = l1 ++ { w with bufs := w.bufs ++ [wb] } :: l2 := by
  induction ws generalizing ws' with
  | nil => cases h
  | cons w ws ih =>
    rw [handTo] at h
    by_cases hw : w.tid = some wb.tid
    · rw [if_pos hw] at h
      cases h
      exact ⟨[], w, ws, rfl, hw, rfl⟩
    · rw [if_neg hw] at h
      cases hh : handTo wb ws with
      | none =>
        rw [hh] at h
        cases h
      | some x =>
        rw [hh] at h
        cases h
        obtain ⟨l1, w0, l2, e, ht, e'⟩ := ih hh
        exact ⟨w :: l1, w0, l2, by rw [e]; rfl, ht, by rw [e']; rfl⟩

theorem forall_mem_replace {P : Warg → Prop} {l1 l2 : List Warg} {w w' : Warg}
    (h : ∀ x ∈ l1 ++ w :: l2, P x) (hw : P w') : ∀ x ∈ l1 ++ w' :: l2, P x := by
  intro x hx
  rw [List.mem_append, List.mem_cons] at hx
  rcases hx with hx | rfl | hx
  · exact h x (List.mem_append_left _ hx)
  · exact hw
  · exact h x (List.mem_append_right _ (List.mem_cons_of_mem _ hx))

theorem mem_split {l1 l2 : List Warg} {w : Warg} : w ∈ l1 ++ w :: l2 :=
  List.mem_append_right _ List.mem_cons_self

/-- one writer is replaced by one registered as before; the list and the kicks stay -/
theorem WInv.replace {p : Pool} {l1 l2 : List Warg} {w w' : Warg} (h : WInv p) (e : p.writers = l1 ++ w :: l2)
    (ht : w'.tid = w.tid) (hne : w'.tid = none → w'.head = [] ∧ w'.bufs = [])
    (hown : ∀ wb ∈ w'.head ++ w'.bufs, wb ∈ w.head ++ w.bufs ∨ w.tid = some wb.tid) :
    WInv { p with writers := l1 ++ w' :: l2 } := by
  have h1 := h.idle_empty
  have h2 := h.own
  have h3 := h.excl
  have h4 := h.uniq
  rw [e] at h1 h2 h3 h4
  refine ⟨h.kick, forall_mem_replace h1 hne, forall_mem_replace h2 ?_, forall_mem_replace h3 ?_, ?_⟩
  · intro t htt b hb
    rw [ht] at htt
    rcases hown b hb with hb | hb
    · exact h2 w mem_split t htt b hb
    · exact Option.some.inj (hb.symm.trans htt)
  · intro t htt
    exact h3 w mem_split t (ht ▸ htt)
  · rw [regs_append, regs_cons] at h4 ⊢
    rw [ht]
    exact h4

theorem filter_tid_append_singleton (l : List WBuf) (wb : WBuf) (t : Tid) :
    (l ++ [wb]).filter (fun b => b.tid = t) = l.filter (fun b => b.tid = t) ++ (if wb.tid = t then [wb] else []) := by
  by_cases h : wb.tid = t <;> simp [h]

/-- copy_to_buffer keeps the pool invariant -/
theorem enqueue_inv {p : Pool} (wb : WBuf) (h : WInv p) : WInv (p.enqueue wb) := by
  unfold Pool.enqueue
  cases hh : handTo wb p.writers with
  | none =>
    have hn := handTo_none.mp hh
    refine ⟨?_, h.idle_empty, h.own, ?_, h.uniq⟩
    · have := h.kick
      rw [List.length_append]
      exact Nat.add_le_add_right this 1
    · intro w hw t ht
      have hne : ¬ wb.tid = t := fun e => hn (mem_regs.mpr ⟨w, hw, e ▸ ht⟩)
      rw [filter_tid_append_singleton, h.excl w hw t ht, if_neg hne]
      rfl
  | some ws' =>
    obtain ⟨l1, w, l2, e, ht, rfl⟩ := handTo_some hh
    refine h.replace e rfl (fun hn => nomatch ht.symm.trans hn) fun b hb => ?_
    rw [← List.append_assoc, List.mem_append, List.mem_singleton] at hb
    rcases hb with hb | rfl
    · exact Or.inl hb
    · exact Or.inr ht

/-- copy_to_buffer appends to the per-tid queue of the buffer's tid and to no other -/
theorem enqueue_queue {p : Pool} (wb : WBuf) (h : WInv p) (t : Tid) :
    (p.enqueue wb).queue t = p.queue t ++ (if wb.tid = t then [wb] else []) := by
  unfold Pool.enqueue
  cases hh : handTo wb p.writers with
  | none => simp only [Pool.queue, filter_tid_append_singleton, List.append_assoc]
  | some ws' =>
    obtain ⟨l1, w, l2, e, ht, rfl⟩ := handTo_some hh
    have h3 := h.excl
    have h4 := h.uniq
    rw [e] at h3 h4
    simp only [Pool.queue]
    rw [e]
    by_cases htt : wb.tid = t
    · subst htt
      rw [wq_of_split h4 ht, wq_of_split h4 ht, if_pos ht, if_pos ht, h3 w mem_split _ ht, if_pos rfl]
      simp only [List.append_nil, List.append_assoc]
    · have hne : w.tid ≠ some t := fun e => htt (Option.some.inj (ht.symm.trans e))
      rw [wq_split, wq_split, if_neg hne, if_neg hne, if_neg htt, List.append_nil]

theorem idle_iff {w : Warg} : w.idle = true ↔ w.tid = none ∧ w.head = [] := by
  simp [Warg.idle, Option.isNone_iff_eq_none, List.isEmpty_iff]

theorem filter_ne_filter_eq (l : List WBuf) (a t : Tid) (h : t ≠ a) :
    (l.filter (fun b => b.tid ≠ a)).filter (fun b => b.tid = t) = l.filter (fun b => b.tid = t) := by
  rw [List.filter_filter]
  congr 1
  funext b
  by_cases hb : b.tid = t
  · simp [hb, h]
  · simp [hb]

theorem filter_ne_filter_self (l : List WBuf) (a : Tid) :
    (l.filter (fun b => b.tid ≠ a)).filter (fun b => b.tid = a) = [] := by
  rw [List.filter_filter]
  simp

theorem filter_sub_nil {l : List WBuf} {a t : Tid} (h : l.filter (fun b => b.tid = t) = []) :
    (l.filter (fun b => b.tid ≠ a)).filter (fun b => b.tid = t) = [] := by
  rw [List.filter_eq_nil_iff] at h ⊢
  intro b hb
  exact h b (List.mem_filter.mp hb).1

/-- what `pick` does: an idle writer reads a kick; with a non-empty list it registers for the first buffer's tid and
    takes every buffer of that tid -/
theorem pick_some {p p' : Pool} {i : Nat} {f : Bool} (hp : p.pick i f = some p') :
    (p.writeList = [] ∧ p' = { p with kicks := p.kicks - 1 }) ∨
    ∃ first rest l1 w l2, p.writeList = first :: rest ∧ p.writers = l1 ++ w :: l2 ∧ w.tid = none ∧ w.head = [] ∧
      p' = { writeList := rest.filter (fun b => b.tid ≠ first.tid),
             writers := l1 ++ { w with tid := some first.tid,
                                       head := first :: rest.filter (fun b => b.tid = first.tid) } :: l2,
             kicks := p.kicks - 1 } := by
  unfold Pool.pick at hp
  cases hw : p.writers[i]? with
  | none =>
    rw [hw] at hp
    cases hp
  | some w =>
    rw [hw] at hp
    dsimp only at hp
    obtain ⟨hi, hp⟩ := Option.ite_none_left_eq_some.mp hp
    obtain ⟨_, hp⟩ := Option.ite_none_left_eq_some.mp hp
    split at hp
    · cases hp
      exact Or.inl ⟨‹_›, rfl⟩
    · rename_i first rest hl
      cases hp
      obtain ⟨l1, l2, e, hs⟩ := split_at hw
      obtain ⟨h1, h2⟩ := idle_iff.mp (by simpa using hi)
      exact Or.inr ⟨first, rest, l1, w, l2, hl, e, h1, h2, by rw [hs]⟩

theorem first_not_reg {p : Pool} (h : WInv p) {first : WBuf} {rest : List WBuf}
    (hl : p.writeList = first :: rest) : first.tid ∉ regs p.writers := by
  intro hm
  obtain ⟨x, hx, hxt⟩ := mem_regs.mp hm
  have := h.excl x hx _ hxt
  rw [hl, List.filter_cons_of_pos (by simp)] at this
  cases this

theorem pick_inv {p p' : Pool} {i : Nat} {f : Bool} (h : WInv p) (hp : p.pick i f = some p') :
    WInv p' := by
  rcases pick_some hp with ⟨hl, rfl⟩ | ⟨first, rest, l1, w, l2, hl, e, hwt, hwh, rfl⟩
  · exact ⟨by rw [hl]; exact Nat.zero_le _, h.idle_empty, h.own, h.excl, h.uniq⟩
  · have hk := h.kick
    have hnr := first_not_reg h hl
    have h1 := h.idle_empty
    have h2 := h.own
    have h3 := h.excl
    have h4 := h.uniq
    rw [e] at h1 h2 h3 h4 hnr
    rw [hl] at hk h3
    have hwb := (h1 w mem_split hwt).2
    refine ⟨?_, forall_mem_replace h1 (fun hn => nomatch hn), forall_mem_replace h2 ?_, ?_, ?_⟩
    · have := List.length_filter_le (fun b : WBuf => b.tid ≠ first.tid) rest
      rw [List.length_cons] at hk
      show (rest.filter _).length ≤ p.kicks - 1
      omega
    · intro t htt b hb
      obtain rfl : first.tid = t := Option.some.inj htt
      rw [hwb, List.append_nil, List.mem_cons, List.mem_filter] at hb
      rcases hb with rfl | hb
      · rfl
      · exact of_decide_eq_true hb.2
    · -- the tids registered before have nothing on the list; the new one took all of its own
      have old : ∀ y ∈ l1 ++ w :: l2, ∀ t, y.tid = some t →
          (rest.filter (fun b => b.tid ≠ first.tid)).filter (fun b => b.tid = t) = [] := by
        intro y hy t hyt
        have := h3 y hy t hyt
        rw [List.filter_cons] at this
        split at this
        · cases this
        · exact filter_sub_nil this
      refine forall_mem_replace old ?_
      intro t htt
      obtain rfl : first.tid = t := Option.some.inj htt
      exact filter_ne_filter_self rest first.tid
    · rw [regs_append, regs_cons, hwt] at h4 hnr
      rw [List.mem_append, not_or] at hnr
      rw [List.nodup_append] at h4
      rw [regs_append, regs_cons, List.nodup_append]
      refine ⟨h4.1, List.nodup_cons.mpr ⟨hnr.2, h4.2.1⟩, ?_⟩
      intro a ha b hb
      rcases List.mem_cons.mp hb with rfl | hb
      · exact fun e2 => hnr.1 (e2 ▸ ha)
      · exact h4.2.2 a ha b hb

/-- taking buffers off the list changes no per-tid queue -/
theorem pick_queue {p p' : Pool} {i : Nat} {f : Bool} (h : WInv p) (hp : p.pick i f = some p')
    (t : Tid) : p'.queue t = p.queue t := by
  rcases pick_some hp with ⟨hl, rfl⟩ | ⟨first, rest, l1, w, l2, hl, e, hwt, hwh, rfl⟩
  · rfl
  · have hnr := first_not_reg h hl
    have h1 := h.idle_empty
    rw [e] at h1
    have hwb := (h1 w mem_split hwt).2
    simp only [Pool.queue, hl]
    by_cases ht : t = first.tid
    · subst ht
      rw [e, regs_append, regs_cons, List.mem_append, List.mem_append, not_or, not_or] at hnr
      rw [wq_split, wq_nil hnr.1, wq_nil hnr.2.2, if_pos rfl, e, wq_split, wq_nil hnr.1, wq_nil hnr.2.2, hwt,
        if_neg (fun e => nomatch e), filter_ne_filter_self, hwb, List.filter_cons_of_pos (by simp)]
      simp
    · have hne : w.tid ≠ some t := by rw [hwt]; exact fun e => nomatch e
      have hne' : (some first.tid : Option Tid) ≠ some t := fun e2 => ht (Option.some.inj e2).symm
      rw [e, wq_split, wq_split, if_neg hne, if_neg hne', filter_ne_filter_eq _ _ _ ht,
        List.filter_cons_of_neg (by simpa using fun e2 : first.tid = t => ht e2.symm)]

theorem popHead_some {p p' : Pool} {i : Nat} {wb : WBuf} (hp : p.popHead i = some (p', wb)) :
    ∃ l1 w l2 rest, p.writers = l1 ++ w :: l2 ∧ w.head = wb :: rest ∧
      p' = { p with writers := l1 ++ { w with head := rest } :: l2 } := by
  unfold Pool.popHead at hp
  cases hw : p.writers[i]? with
  | none =>
    rw [hw] at hp
    cases hp
  | some w =>
    rw [hw] at hp
    dsimp only at hp
    split at hp
    · cases hp
    · rename_i b rest hh
      cases hp
      obtain ⟨l1, l2, e, hs⟩ := split_at hw
      exact ⟨l1, w, l2, rest, e, hh, by rw [hs]⟩

theorem popHead_inv {p p' : Pool} {i : Nat} {wb : WBuf} (h : WInv p)
    (hp : p.popHead i = some (p', wb)) : WInv p' := by
  obtain ⟨l1, w, l2, rest, e, hh, rfl⟩ := popHead_some hp
  have h1 := h.idle_empty
  rw [e] at h1
  refine h.replace e rfl (fun hn => ?_) fun b hb => Or.inl ?_
  · have := (h1 w mem_split hn).1
    rw [hh] at this
    cases this
  · rw [hh]
    rcases List.mem_append.mp hb with hb | hb
    · exact List.mem_append_left _ (List.mem_cons_of_mem _ hb)
    · exact List.mem_append_right _ hb

/-- a writer writes the head of its tid's queue -/
theorem popHead_queue {p p' : Pool} {i : Nat} {wb : WBuf} (h : WInv p)
    (hp : p.popHead i = some (p', wb)) :
    p.queue wb.tid = wb :: p'.queue wb.tid ∧ ∀ t, t ≠ wb.tid → p'.queue t = p.queue t := by
  obtain ⟨l1, w, l2, rest, e, hh, rfl⟩ := popHead_some hp
  have h1 := h.idle_empty
  have h2 := h.own
  have h4 := h.uniq
  rw [e] at h1 h2 h4
  obtain ⟨t0, hwt⟩ : ∃ t0, w.tid = some t0 := by
    cases hwt : w.tid with
    | none =>
      have := (h1 w mem_split hwt).1
      rw [hh] at this
      cases this
    | some t0 => exact ⟨t0, rfl⟩
  obtain rfl : wb.tid = t0 := h2 w mem_split t0 hwt wb (by rw [hh]; exact List.mem_append_left _ List.mem_cons_self)
  constructor
  · simp only [Pool.queue]
    rw [e, wq_of_split h4 hwt, wq_of_split h4 hwt, if_pos hwt, if_pos hwt, hh]
    rfl
  · intro t ht
    have hne : w.tid ≠ some t := fun e2 => ht (Option.some.inj (e2.symm.trans hwt))
    simp only [Pool.queue]
    rw [e, wq_split, wq_split, if_neg hne, if_neg hne]

theorem splice_some {p p' : Pool} {i : Nat} (hp : p.splice i = some p') :
    ∃ l1 w l2 t0, p.writers = l1 ++ w :: l2 ∧ w.tid = some t0 ∧ w.head = [] ∧
      p' = { p with writers := l1 ++ { tid := if w.bufs.isEmpty then none else w.tid,
                                       head := w.bufs, bufs := [] } :: l2 } := by
  unfold Pool.splice at hp
  cases hw : p.writers[i]? with
  | none =>
    rw [hw] at hp
    cases hp
  | some w =>
    rw [hw] at hp
    dsimp only at hp
    obtain ⟨hc, hp⟩ := Option.ite_none_left_eq_some.mp hp
    cases hp
    simp only [Bool.or_eq_true, Option.isNone_iff_eq_none, Bool.not_eq_eq_eq_not, Bool.not_true,
      not_or, Bool.not_eq_false, List.isEmpty_iff] at hc
    obtain ⟨l1, l2, e, hs⟩ := split_at hw
    cases hwt : w.tid with
    | none => exact absurd hwt hc.1
    | some t0 => exact ⟨l1, w, l2, t0, e, hwt, hc.2, by rw [hs, hwt]⟩

theorem splice_inv {p p' : Pool} {i : Nat} (h : WInv p) (hp : p.splice i = some p') : WInv p' := by
  obtain ⟨l1, w, l2, t0, e, hwt, hh, rfl⟩ := splice_some hp
  by_cases hbb : w.bufs = []
  · -- nothing was passed meanwhile: the writer deregisters
    have h1 := h.idle_empty
    have h2 := h.own
    have h3 := h.excl
    have h4 := h.uniq
    rw [e] at h1 h2 h3 h4
    rw [hbb, List.isEmpty_nil, if_pos rfl]
    refine ⟨h.kick, forall_mem_replace h1 fun _ => ⟨rfl, rfl⟩, forall_mem_replace h2 (fun t ht => nomatch ht),
      forall_mem_replace h3 (fun t ht => nomatch ht), ?_⟩
    rw [regs_append, regs_cons, hwt] at h4
    rw [regs_append, regs_cons]
    exact h4.sublist (List.Sublist.append (List.Sublist.refl _) (List.sublist_cons_self _ _))
  · have hne : w.bufs.isEmpty = false := by rwa [← Bool.not_eq_true, List.isEmpty_iff]
    rw [hne, if_neg Bool.false_ne_true]
    refine h.replace e rfl (fun hn => nomatch hwt.symm.trans hn) fun b hb => Or.inl ?_
    rw [List.append_nil] at hb
    exact List.mem_append_right _ hb

theorem splice_queue {p p' : Pool} {i : Nat} (hp : p.splice i = some p') (t : Tid) :
    p'.queue t = p.queue t := by
  obtain ⟨l1, w, l2, t0, e, hwt, hh, rfl⟩ := splice_some hp
  simp only [Pool.queue]
  rw [e]
  congr 1
  rw [wq_split, wq_split, hh, List.nil_append]
  by_cases hbb : w.bufs = []
  · rw [hbb, List.isEmpty_nil, if_pos rfl, if_neg (fun e => nomatch e)]
    split <;> rfl
  · have hne : w.bufs.isEmpty = false := by rwa [← Bool.not_eq_true, List.isEmpty_iff]
    rw [hne, if_neg Bool.false_ne_true, List.append_nil]

theorem allIdle_regs {p : Pool} (h : p.allIdle = true) : regs p.writers = [] := by
  rw [Pool.allIdle, List.all_eq_true] at h
  rw [regs, List.filterMap_eq_nil_iff]
  intro w hw
  exact (idle_iff.mp (h w hw)).1

theorem popRemaining_some {p p' : Pool} {wb : WBuf} (hp : p.popRemaining = some (p', wb)) :
    ∃ rest, p.allIdle = true ∧ p.writeList = wb :: rest ∧ p' = { p with writeList := rest } := by
  unfold Pool.popRemaining at hp
  obtain ⟨hi, hp⟩ := Option.ite_none_left_eq_some.mp hp
  split at hp
  · cases hp
  · rename_i b rest hl
    cases hp
    exact ⟨rest, by simpa using hi, hl, rfl⟩

theorem popRemaining_inv {p p' : Pool} {wb : WBuf} (h : WInv p)
    (hp : p.popRemaining = some (p', wb)) : WInv p' := by
  obtain ⟨rest, hi, hl, rfl⟩ := popRemaining_some hp
  refine ⟨?_, h.idle_empty, h.own, ?_, h.uniq⟩
  · have := h.kick
    rw [hl, List.length_cons] at this
    exact Nat.le_of_succ_le this
  · intro w hw t ht
    have := h.excl w hw t ht
    rw [hl, List.filter_cons] at this
    split at this
    · cases this
    · exact this

theorem popRemaining_queue {p p' : Pool} {wb : WBuf}
    (hp : p.popRemaining = some (p', wb)) :
    p.queue wb.tid = wb :: p'.queue wb.tid ∧ ∀ t, t ≠ wb.tid → p'.queue t = p.queue t := by
  obtain ⟨rest, hi, hl, rfl⟩ := popRemaining_some hp
  have hq : ∀ t, wq t p.writers = [] := fun t => wq_nil (by rw [allIdle_regs hi]; exact List.not_mem_nil)
  constructor
  · simp only [Pool.queue, hq, hl, List.nil_append]
    exact List.filter_cons_of_pos (by simp)
  · intro t ht
    simp only [Pool.queue, hq, hl, List.nil_append]
    exact (List.filter_cons_of_neg (by simpa using fun e : wb.tid = t => ht e.symm)).symm

/-- C03: at most one writer works for a tid -/
theorem one_writer {p : Pool} (h : WInv p) (t : Tid) :
    (p.writers.filter (fun w => w.tid = some t)).length ≤ 1 := by
  have hu := h.uniq
  generalize p.writers = ws at hu
  induction ws with
  | nil => exact Nat.zero_le 1
  | cons w ws ih =>
    rw [regs_cons] at hu
    by_cases hw : w.tid = some t
    · rw [hw] at hu
      have hn : t ∉ regs ws := (List.nodup_cons.mp hu).1
      have : ws.filter (fun w => w.tid = some t) = [] := by
        rw [List.filter_eq_nil_iff]
        intro x hx hxt
        exact hn (mem_regs.mpr ⟨x, hx, of_decide_eq_true hxt⟩)
      rw [List.filter_cons_of_pos (by simpa using hw), this]
      exact Nat.le_refl 1
    · rw [List.filter_cons_of_neg (by simpa using hw)]
      exact ih (List.nodup_append.mp hu).2.1

/-! ### Writers.Sess: a buffer's bytes reach a data file at most once -/

theorem Sess.append_log (s : Sess) (wb : WBuf) :
    (s.append wb).log = if wb ∈ s.log then s.log else s.log ++ [wb] := by
  unfold Sess.append Sess.nonEmpty
  by_cases hc : wb ∈ s.log <;> simp [hc]

theorem Sess.append_nodup (s : Sess) (wb : WBuf) (h : s.log.Nodup) : (s.append wb).log.Nodup := by
  rw [Sess.append_log]
  split
  · exact h
  · rename_i hc
    rw [List.nodup_append]
    refine ⟨h, List.pairwise_singleton _ _, fun a ha b hb => ?_⟩
    rw [List.mem_singleton.mp hb]
    exact fun e => hc (e ▸ ha)

theorem Sess.mmapFile_log (s : Sess) (wb : WBuf) : (s.mmapFile wb).log = s.log := by
  unfold Sess.mmapFile
  split <;> rfl

theorem Sess.foldl_mmapFile_log (l : List WBuf) (s : Sess) :
    (l.foldl (fun a wb => a.mmapFile wb) s).log = s.log := by
  induction l generalizing s with
  | nil => rfl
  | cons x xs ih => rw [List.foldl_cons, ih, Sess.mmapFile_log]

theorem Sess.foldl_append_nodup (l : List WBuf) (s : Sess) (h : s.log.Nodup) :
    (l.foldl (fun a wb => a.append wb) s).log.Nodup := by
  induction l generalizing s with
  | nil => exact h
  | cons x xs ih => exact ih _ (Sess.append_nodup s x h)

theorem Sess.step_nodup {s s' : Sess} {op : SOp} (h : s.log.Nodup) (hs : s.step op = some s') :
    s'.log.Nodup := by
  cases op with
  | start wb =>
    cases hs
    exact h
  | fin wb =>
    cases hs
    exact (Sess.mmapFile_log _ wb).symm ▸ h
  | pick i =>
    obtain ⟨_, hs⟩ := Option.ite_none_left_eq_some.mp hs
    obtain ⟨p, _, rfl⟩ := Option.map_eq_some_iff.mp hs
    exact h
  | write i =>
    rw [Sess.step, Sess.write] at hs
    split at hs
    · cases hs
    · cases hs
      exact Sess.append_nodup _ _ h
  | splice i =>
    obtain ⟨p, _, rfl⟩ := Option.map_eq_some_iff.mp hs
    exact h
  | stop =>
    obtain ⟨_, hs⟩ := Option.ite_none_left_eq_some.mp hs
    cases hs
    exact h
  | flushAll =>
    obtain ⟨_, hs⟩ := Option.ite_none_right_eq_some.mp hs
    cases hs
    exact (Sess.foldl_mmapFile_log _ _).symm ▸ h
  | remaining =>
    obtain ⟨_, hs⟩ := Option.ite_none_right_eq_some.mp hs
    cases hs
    exact Sess.foldl_append_nodup _ _ h

theorem Sess.run_nodup (ops : List SOp) (s : Sess) (h : s.log.Nodup) : (s.run ops).log.Nodup := by
  induction ops generalizing s with
  | nil => exact h
  | cons op ops ih =>
    rw [Sess.run]
    apply ih
    cases hs : s.step op with
    | none => exact h
    | some s' => exact Sess.step_nodup h hs

end Uft.Writers

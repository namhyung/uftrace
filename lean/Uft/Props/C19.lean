import Uft.Lemmas.PyTrace
import Uft.Lemmas.PyHook
/-
C19 — Python programs are traced at function granularity with balanced calls.
Property theorems only (helpers are in Lemmas/PyTrace.lean and Lemmas/PyHook.lean).

`c : Cfg α` is the configuration (`-F` and `-N` entries in option order, libcall
mode, which functions are library functions, and `fixed`: with/without the
repair of finding F2).  A Python run is a forest `f : Calls α` of calls; the
interpreter hands `eventsL f` (or, after `os._exit`, a prefix of it) to
`uftrace_trace_python`, which is `run c St.init`.

The second half ("end to end", Model/PyHook.lean) puts the decision between what
comes before it in `uftrace_trace_python` — the first-frame test by address, the
rb-tree / shared-memory symbol table and the `python.fake.sym` file — and what
comes after it: libmcount's `__cygprof_entry` / `__cygprof_exit` (the shared hook
model `Uft.Mcount`) including an exit hook that arrives with nothing on the
shadow stack.
-/
namespace Uft.PyTrace

variable {α : Type}

/-- C19, state: after a call (tree) has returned, `count_in`, `count_out` and
    `libcall_count` are what they were before it — from any state a nested
    stream can reach, in particular from program start. -/
theorem c19_state_restored (c : Cfg α) (hf : c.fixed = true) (s : St) (hw : WF c s)
    (t : Call α) (f : Calls α) :
    (run c s (events t)).1 = s ∧ (run c s (eventsL f)).1 = s := by
  rw [run_call c hf t s hw, run_calls c hf f s hw]
  simp

/-- C19, selection: the hook calls made for a whole program are exactly the
    documented selection (`specCalls`: `-F` functions with everything they
    call, `-N` functions and their callees left out, first matching option
    wins, library calls per `--no-libcall` / default / `--nest-libcall`). -/
theorem c19_refines_doc (c : Cfg α) (hf : c.fixed = true) (f : Calls α) :
    (run c St.init (eventsL f)).2 = specCalls c false false 0 f := by
  rw [run_calls c hf f St.init (wf_init c)]
  rfl

/-- … and the same holds for every sub-run started inside a program (the
    environment of the specification is read off the counters). -/
theorem c19_refines_doc_inside (c : Cfg α) (hf : c.fixed = true) (s : St) (hw : WF c s)
    (f : Calls α) :
    (run c s (eventsL f)).2 = specCalls c (envA s) (envB s) (envL s) f := by
  rw [run_calls c hf f s hw]

/-- C19, balance: for every program and every configuration the emitted
    enter/exit sequence is a Dyck word, and whatever prefix of the event stream
    the tracer gets to see (the program may stop at any point, e.g. `os._exit`)
    no prefix of the emitted sequence has more exits than enters. -/
theorem c19_balanced_output (c : Cfg α) (hf : c.fixed = true) (f : Calls α) :
    Balanced (run c St.init (eventsL f)).2 ∧
    ∀ k j, exits (((run c St.init ((eventsL f).take k)).2).take j) ≤
           enters (((run c St.init ((eventsL f).take k)).2).take j) := by
  have hb : walk 0 (run c St.init (eventsL f)).2 = some 0 := by
    rw [run_calls c hf f St.init (wf_init c)]
    exact walk_specCalls c f _ _ _ 0
  refine ⟨hb, fun k j => ?_⟩
  rw [← List.take_append_drop k (eventsL f), run_append,
    ← List.take_append_drop j (run c St.init ((eventsL f).take k)).2, List.append_assoc] at hb
  simpa using walk_left _ _ 0 0 hb

/-- the enter and exit counts of a whole run agree (corollary, stated for the
    trace file: as many exit records as entry records) -/
theorem c19_counts_equal (c : Cfg α) (hf : c.fixed = true) (f : Calls α) :
    enters (run c St.init (eventsL f)).2 = exits (run c St.init (eventsL f)).2 := by
  have := walk_counts _ 0 0 (c19_balanced_output c hf f).1
  omega

/-- The defect is confined to mixing `-F` and `-N`: when the mode is not opt-in
    or no entry is an opt-out entry, the code as found behaves exactly like the
    repaired code on *every* event stream (nested or not). -/
theorem c19_prefix_agrees_without_mixing (c : Cfg α)
    (h : c.gmode ≠ .fin ∨ ∀ n, firstMatch c.flist n ≠ some .fout)
    (s : St) (evs : List (Ev α)) :
    run { c with fixed := false } s evs = run { c with fixed := true } s evs := by
  -- `fixed` is read by `skipDecision` only, `skipDecision` by `reaches` only, `reaches` by both halves of a step
  have hr : ∀ s e, reaches { c with fixed := false } s e = reaches { c with fixed := true } s e := by
    intro s e
    show (!(c.gmode != .none && skipDecision false c.gmode (firstMatch c.flist e.name) _ _ _) && _) = _
    rw [skipDecision_fixed false _ _ _ _ _ (h.imp id fun h => h e.name)]
    rfl
  have hst : ∀ s e, stepSt { c with fixed := false } s e = stepSt { c with fixed := true } s e := by
    intro s e
    simp only [stepSt, hr]
    rfl
  have hout : ∀ s e, stepOut { c with fixed := false } s e = stepOut { c with fixed := true } s e := by
    intro s e
    simp only [stepOut, hr]
    rfl
  induction evs generalizing s with
  | nil => rfl
  | cons e es ih =>
    simp only [run]
    rw [hst, hout, ih]

/-- What the code does with the stray `return` events that follow an uncaught
    exception or `sys.exit()` (python/uftrace.py has no `finally`, so the returns
    of the runpy frames that were entered before tracing started are still
    delivered): the counters are not corrupted (the clamp), and unless the mode
    is opt-in or `--no-libcall`, one unpaired `cygprof_exit` is made per event —
    libmcount drops it with "unpaired cygprof exit".  Stated so that the
    behaviour is on record; such streams are outside `eventsL`. -/
theorem c19_stray_return_unpaired_exit (c : Cfg α) (n : α) (hl : c.isLib n = true)
    (hm : firstMatch c.flist n = none) :
    stepSt c St.init ⟨.ret, n⟩ = St.init ∧
    stepOut c St.init ⟨.ret, n⟩ = (if c.gmode = .fin ∨ c.lmode = .none then [] else [.exit]) := by
  refine ⟨stepSt_stray c n .py hm, ?_⟩
  cases hg : c.gmode <;> cases hlm : c.lmode <;>
    simp [stepOut, reaches, skipDecision, cinAfter, coutAfter, canTrace, St.init, EvKind.isEntry, hm, hg, hlm, hl]

/-! ### pseudo addresses (`convert_function_addr`): what ties an `enter` to a name -/

/-- an address, once handed out, never changes while more events arrive -/
theorem c19_addr_stable [BEq α] [LawfulBEq α] (syms : List α) (evs : List (Ev α)) (n : α)
    (h : n ∈ syms) : addrOf (symsOf syms evs) n = addrOf syms n := by
  obtain ⟨t, ht⟩ := symsOf_prefix evs syms
  simp [addrOf, ht, List.idxOf_append, h]

/-- two names never share an address -/
theorem c19_addr_injective [BEq α] [LawfulBEq α] (syms : List α) (a b : α)
    (ha : a ∈ syms) (hb : b ∈ syms) (h : addrOf syms a = addrOf syms b) : a = b := by
  simp only [addrOf, Nat.add_right_cancel_iff] at h
  have h1 := List.getElem_idxOf (List.idxOf_lt_length_of_mem ha)
  have h2 := List.getElem_idxOf (List.idxOf_lt_length_of_mem hb)
  simp only [h] at h1
  exact h1.symm.trans h2

/-- every function seen in any event (also a filtered one) has an address -/
theorem c19_addr_assigned [BEq α] [LawfulBEq α] : ∀ (evs : List (Ev α)) (syms : List α) (e : Ev α),
    e ∈ evs → e.name ∈ symsOf syms evs := by
  intro evs syms e h
  induction evs generalizing syms with
  | nil => simp at h
  | cons x xs ih =>
    simp only [symsOf]
    rcases List.mem_cons.mp h with rfl | h
    · obtain ⟨t, ht⟩ := symsOf_prefix xs (intern syms e.name)
      rw [ht]
      apply List.mem_append_left
      simp only [intern]
      split
      · rename_i hc; simpa using hc
      · simp
    · exact ih _ h

instance (l : List (Out α)) : Decidable (Balanced l) := by
  unfold Balanced; infer_instance

/-! ### finding F2 as a theorem about the code as found, and non-vacuity -/

/-- `-F a -N g` with names `0 = a`, `1 = g` -/
def cfgMixed (fixed : Bool) : Cfg Nat :=
  { fixed := fixed
    filters := some [{ hit := fun n => n == 0, mode := .fin }, { hit := fun n => n == 1, mode := .fout }]
    lmode := .single
    isLib := fun _ => false }

/-- `a()` calls `g()` -/
def progAG : Calls Nat := .cons (.node 0 .py (.cons (.node 1 .py .nil) .nil)) .nil

/-- F2 witness: the code as found emits `enter a, exit, exit` for
    `[call a, call g, return g, return a]` under `-F a -N g`: the second prefix
    of length 3 has more exits than enters, the sequence is not balanced, and it
    is not the documented selection `enter a, exit`. -/
theorem c19_prefix_unbalanced_witness :
    (run (cfgMixed false) St.init (eventsL progAG)).2 = [.enter 0, .exit, .exit] ∧
    ¬ Balanced (run (cfgMixed false) St.init (eventsL progAG)).2 ∧
    enters ((run (cfgMixed false) St.init (eventsL progAG)).2.take 3) <
      exits ((run (cfgMixed false) St.init (eventsL progAG)).2.take 3) ∧
    specCalls (cfgMixed false) false false 0 progAG = [.enter 0, .exit] := by
  decide

/-- the same program with the repaired code -/
example : (run (cfgMixed true) St.init (eventsL progAG)).2 = [.enter 0, .exit] := by decide

/-- non-vacuity of the `WF` hypothesis: program start, and the state inside
    `a()` of the example -/
example : WF (cfgMixed true) St.init := wf_init _
example : WF (cfgMixed true) { cin := 1, cout := 0, lib := 0 } := by
  simp [WF, cfgMixed, Cfg.gmode]

/-- non-vacuity of `c19_prefix_agrees_without_mixing`: an `-N`-only and an
    `-F`-only configuration satisfy its hypothesis -/
example : (cfgMixed false).gmode = .fin := by decide
example : ({ cfgMixed false with filters := some [{ hit := fun n => n == 1, mode := .fout }] } : Cfg Nat).gmode
    ≠ .fin := by decide
example : ∀ n, firstMatch ({ cfgMixed false with
    filters := some [{ hit := fun n => n == 0, mode := .fin }] } : Cfg Nat).flist n ≠ some .fout := by
  intro n
  simp only [Cfg.flist, firstMatch]
  split <;> simp

/-- non-vacuity of `c19_stray_return_unpaired_exit`: a library function that no
    filter names, default mode -/
example : (({ cfgMixed true with isLib := fun n => n == 7 } : Cfg Nat).isLib 7 = true) ∧
    firstMatch ({ cfgMixed true with isLib := fun n => n == 7 } : Cfg Nat).flist 7 = none := by decide

/-- non-vacuity of the address theorems: the table after `[call 5, call 3, return 3]` -/
example : symsOf [] [(⟨.call, 5⟩ : Ev Nat), ⟨.call, 3⟩, ⟨.ret, 3⟩] = [5, 3] ∧
    addrOf [5, 3] 3 = 2 ∧ 3 ∈ [5, 3] := by decide

/-- the specification is not trivial: single-depth library calls with a
    callback (`a` → lib `1` → main `2` → lib `3`), default libcall mode -/
example :
    specCalls ({ fixed := true, filters := none, lmode := .single, isLib := fun n => n % 2 == 1 } : Cfg Nat)
      false false 0
      (.cons (.node 0 .py (.cons (.node 1 .c (.cons (.node 2 .py (.cons (.node 3 .cexc .nil) .nil)) .nil)) .nil)) .nil)
    = [.enter 0, .enter 1, .enter 2, .exit, .exit, .exit] := by decide

/-! ## end to end: first frame, symbol table, libmcount's hooks (Model/PyHook.lean) -/
section EndToEnd
open Uft.PyHook

variable {β : Type}

/-! ### the symbol table (`convert_function_addr`, `get_new_sym_addr`, `write_symtab`)

`ops` is any history of lookups by any number of processes that share the
region and `fork` their private trees (multiprocessing); `cmp` is `strcmp`. -/

/-- C19, symbol addresses: whatever the order of first appearance and whichever
    process saw them, two different names never get the same address; and one
    process has one address per name. -/
theorem c19_sym_addr_injective (cmp : β → β → Ordering) (hc : CmpEq cmp) (isLib : β → Bool) (ops : List (Op β))
    (p q : Nat) (a b : β) (sa sb : Sym β)
    (ha : ((World.init.run cmp isLib ops).trees p).find cmp a = some sa)
    (hb : ((World.init.run cmp isLib ops).trees q).find cmp b = some sb) :
    (sa.addr = sb.addr → a = b) ∧ (p = q → a = b → sa.addr = sb.addr) := by
  have hw := worldOk_ops hc isLib ops
  refine ⟨treeOk_addr_inj hw.shm (hw.trees p) (hw.trees q) ha hb, ?_⟩
  · intro hpq hab
    subst hpq; subst hab
    rw [ha] at hb
    cases hb
    rfl

/-- … and the address a process has for a name never changes afterwards (as long
    as its pid is not handed to a new child). -/
theorem c19_sym_addr_stable (cmp : β → β → Ordering) (hc : CmpEq cmp) (isLib : β → Bool) (ops more : List (Op β))
    (p : Nat) (n : β) (s : Sym β) (hnf : ∀ q c, Op.fork q c ∈ more → c ≠ p)
    (h : ((World.init.run cmp isLib ops).trees p).find cmp n = some s) :
    ((World.init.run cmp isLib (ops ++ more)).trees p).find cmp n = some s := by
  rw [World.run, List.foldl_append]
  exact world_keeps hc more _ p n s hnf h

/-- C19, symbol file: every address any process holds for a name resolves,
    through the `python.fake.sym` that `write_symtab` produces from the shared
    region and the reader's "first line whose range holds the address", to that
    name; the entry says `P` exactly for a library function. -/
theorem c19_fake_sym_resolves (cmp : β → β → Ordering) (hc : CmpEq cmp) (isLib : β → Bool) (ops : List (Op β))
    (p : Nat) (n : β) (s : Sym β)
    (h : ((World.init.run cmp isLib ops).trees p).find cmp n = some s) :
    resolve (symFile (World.init.run cmp isLib ops).shm) s.addr = some n ∧ s.lib = isLib n := by
  have hw := worldOk_ops hc isLib ops
  exact ⟨treeOk_resolves hw.shm (hw.trees p) h, (hw.trees p n s h).2.1⟩

/-- the written file is sorted: line `i` carries address `i + 1` (the
    `__sym_end` line last) -/
theorem c19_fake_sym_sorted (cmp : β → β → Ordering) (hc : CmpEq cmp) (isLib : β → Bool) (ops : List (Op β))
    (i : Nat) (hi : i < (symFile (World.init.run cmp isLib ops).shm).length) :
    ((symFile (World.init.run cmp isLib ops).shm)[i]).addr = 1 + i :=
  symFile_consec _ (worldOk_ops hc isLib ops).shm i hi

/-! ### libmcount's exit hook with nothing on the shadow stack -/

/-- C19, lone exit (repaired guard, F-C19-UNPAIRED-OOB): an exit hook that arrives
    with `idx == 0` changes nothing — no frame is popped, `idx` does not go
    negative, nothing outside `rstack` is looked at. -/
theorem c19_lone_exit_ignored (h : HookCfg) (hg : h.guard = true) (s : HSt) (now : Nat) (hz : s.m.idx = 0) :
    cygExit h s now = s := by
  unfold cygExit
  simp [hz, hg]

/-- the code as found (F-C19-UNPAIRED-OOB), characterised: once the thread has
    been through an entry hook, what a lone exit does is decided by bit 14 of a
    word that is not part of `rstack` -/
theorem c19_prefix_lone_exit_reads_below (h : HookCfg) (hg : h.guard = false) (s : HSt) (now : Nat)
    (hp : s.prepared = true) (hz : s.m.idx = 0) :
    cygExit h s now = if cygFlag h.below then { s with oob := true } else s := by
  unfold cygExit
  cases cygFlag h.below <;> simp [hz, hg, hp]

/-- the same for the whole callback: the `return` / `c_return` / `c_exception`
    of a function that was entered before tracing started (runpy's frames after
    `sys.exit()` or an uncaught exception), at program level, leaves the filter
    counters, `libcall_count` and libmcount's state as they are. -/
theorem c19_lone_exit_event_ignored (c : PCfg β) (hg : c.hk.guard = true) (s : PSt β) (F : Nat)
    (n : Node β) (k : CKind) (hfirst : s.first = some F) (hfr : n.frame ≠ F) (hpy : s.py = St.init)
    (hz : s.hk.m.idx = 0) (hm : firstMatch c.py.flist n.name = none) :
    (pstep c s ⟨k.exit, n⟩).py = St.init ∧ (pstep c s ⟨k.exit, n⟩).hk = s.hk := by
  have hsk : skips c s.first n.frame = false := hfirst ▸ skips_false F _ hfr
  have hm' : firstMatch (liftCfg c.py).flist n = none := (firstMatch_liftCfg _ _).trans hm
  unfold pstep
  simp only [hsk, Bool.false_eq_true, ↓reduceIte, hpy]
  exact ⟨stepSt_stray _ n k hm', foldl_stepOut_exit _ _ n k _ _ (c19_lone_exit_ignored c.hk hg s.hk _ hz)⟩

/-! ### the first frame -/

/-- the code as found and the repaired code alike: once `first_frame = F`, a
    run sees exactly the events whose frame object does not sit at address `F`;
    on a forest these are the events of the forest without the calls at `F`
    (their callees move up one level). -/
theorem c19_first_frame_drops (c : PCfg β) (hk : c.skipFirst = true) (F : Nat) (s : PSt β)
    (hs : s.first = some F) (f : Calls (Node β)) :
    prun c s (eventsL f) = prun c s (eventsL (pruneCalls F f .nil)) := by
  rw [prun_filter hk F (eventsL f) s hs]
  have := filter_eventsL F f .nil
  simp only [eventsL, List.append_nil] at this
  rw [this]

/-! ### the whole tracer on a whole run -/

/-- C19, end to end.  Repaired code (`fixed`, `guard`; the first frame is kept
    allocated, so no later frame object has its address — hypothesis `hfr`),
    libmcount without filters of its own (`Plain`; `-F` and `-N` are applied by the
    Python side).  A run is the first event (dropped), a program forest `f0` of
    calls (Python functions also when ended by an exception, generator
    resumptions, C functions, C functions that raise; any recursion) and, after
    `sys.exit()` / an uncaught exception, the lone exits `tl` of the frames that
    were running before tracing started, each followed by the forest that still
    runs at that level (atexit callbacks, `threading._shutdown`).  Then

    * the records libmcount writes are exactly the documented selection of
      `f0` and of the forests of `tl`, in order, as entry/exit records with
      `depth` = nesting depth, the entry/exit clock readings of each call, and
      the address the final symbol table holds for the function's name (cut at
      `--max-stack` levels);
    * that stream is well nested; the shadow stack is empty at the end, `idx`
      never went below 0 and nothing outside `rstack` was touched; the filter
      counters are back at 0;
    * every function of an event that was not dropped has an address, and that
      address resolves through the written `python.fake.sym` to its name.  -/
theorem c19_end_to_end_balanced (c : PCfg β) (hcmp : CmpEq c.cmp) (hf : c.py.fixed = true)
    (hg : c.hk.guard = true) (hsk : c.skipFirst = true)
    (hp : Uft.Mcount.Plain c.hk.m) (hs4 : c.hk.m.s4fixed = true)
    (hdo : c.hk.m.maxStack ≤ c.hk.m.depthOpt) (hmin : c.hk.m.minSize = 0) (hen : c.hk.m.enabled0 = true)
    (e0 : Ev (Node β)) (f0 : Calls (Node β)) (tl : List (CKind × Node β × Calls (Node β)))
    (hfr : ∀ e ∈ progEvents f0 tl, e.name.frame ≠ e0.name.frame)
    (hck : ClockOkL f0) (hcl : ∀ x ∈ tl, ClockOkL x.2.2)
    (hnm : ∀ x ∈ tl, firstMatch c.py.flist x.2.1.name = none) :
    let s := prun c (PSt.init c) (e0 :: progEvents f0 tl)
    let addr := addrIn c.cmp s.tree
    s.hk.m.out = Uft.Mcount.evCallsB 0 c.hk.m.maxStack (selProg (liftCfg c.py) addr f0 tl) ∧
    Uft.Mcount.WellNested s.hk.m.out ∧
    s.hk.m.frames = [] ∧ s.hk.m.over = 0 ∧ s.hk.oob = false ∧ s.py = St.init ∧
    ∀ e ∈ progEvents f0 tl, addr e.name.name ≠ 0 ∧
      resolve (symFile s.shm) (addr e.name.name) = some e.name.name := by
  intro s addr
  have hs0 : s = prun c { PSt.init c with first := some e0.name.frame } (progEvents f0 tl) := by
    show prun c (PSt.init c) (e0 :: progEvents f0 tl) = _
    rw [prun_cons, pstep_init hsk]
  have haddr : ∀ n sym, s.tree.find c.cmp n = some sym → addr n = sym.addr := by
    intro n sym h
    simp [addr, addrIn, h]
  have hA : (s.py, s.hk) = prunA c addr (St.init, HSt.init c.hk) (progEvents f0 tl) := by
    rw [hs0] at haddr ⊢
    exact prun_eq_prunA hcmp e0.name.frame addr _ _ rfl hfr haddr
  obtain ⟨g1, g2, _, g3⟩ := prunA_guard hg addr (progEvents f0 tl) St.init _ _ (hSim_init c.hk)
  rw [← hA] at g1 g2 g3
  obtain ⟨m', m1, m2, m3⟩ := mrun_prog hf hp hs4 hdo addr tl f0 (Uft.Mcount.St.init c.hk.m)
    (Uft.Mcount.goodW_init _ hmin hen) hck hcl
    (fun x hx => (firstMatch_liftCfg _ _).trans (hnm x hx))
  rw [m1] at g1 g2
  obtain rfl : s.hk.m = m' := g2
  have hfr0 : s.hk.m.frames = [] := List.eq_nil_of_length_eq_zero m3.good.len
  have hout : s.hk.m.out = Uft.Mcount.evCallsB 0 c.hk.m.maxStack (selProg (liftCfg c.py) addr f0 tl) := by
    simpa [Uft.Mcount.eager, hfr0, Uft.Mcount.pending, HSt.init, Uft.Mcount.St.init] using m2
  refine ⟨hout, ?_, hfr0, m3.good.over, g3, g1, ?_⟩
  · rw [hout]
    exact Uft.Mcount.nest_evCallsB _ [] _
  · intro e he
    have hto : TabOk c s := tabOk_prun hcmp _ _ ⟨shmOk_empty, treeOk_leaf _⟩
    obtain ⟨sym, hsym⟩ : ∃ sym, s.tree.find c.cmp e.name.name = some sym := by
      rw [hs0]
      exact prun_seen hcmp e0.name.frame _ _ e rfl he (hfr e he)
    have ha := haddr _ _ hsym
    obtain ⟨_, _, l, hl, hla, _, _⟩ := hto.tree _ _ hsym
    obtain ⟨i, hi, rfl⟩ := List.getElem_of_mem hl
    have hpos := hto.shm.pos i hi
    refine ⟨by omega, ?_⟩
    rw [ha]
    exact treeOk_resolves hto.shm hto.tree hsym

/-- the address every hook call of a run carries is the one the final symbol
    table holds for the function's name (for any event stream, nested or not):
    the run is the table-free machine `prunA` with those addresses -/
theorem c19_hook_addresses_are_final (c : PCfg β) (hcmp : CmpEq c.cmp) (F : Nat) (s0 : PSt β)
    (hs : s0.first = some F) (evs : List (Ev (Node β))) (hfr : ∀ e ∈ evs, e.name.frame ≠ F) :
    ((prun c s0 evs).py, (prun c s0 evs).hk) =
      prunA c (addrIn c.cmp (prun c s0 evs).tree) (s0.py, s0.hk) evs :=
  prun_eq_prunA hcmp F _ evs s0 hs hfr (fun n sym h => by simp [addrIn, h])

/-! ### the two findings as theorems about the code as found, and non-vacuity -/

/-- no filters, default libcall mode, names ≥ 100 are library functions; the
    libmcount side with default options -/
def wcfg (guard : Bool) (below : Nat) : PCfg Nat :=
  { py := { fixed := true, filters := none, lmode := .single, isLib := fun n => decide (100 ≤ n) }
    skipFirst := true
    cmp := compare
    hk := { m := {}, guard := guard, below := below } }

/-- `exec` (name 0) called from uftrace.py's frame (address 1); `a()` (name 5,
    frame 2, clock 20…21); then, after `sys.exit()`, the `return` of
    `runpy._run_code` (name 100, frame 3) that was entered before tracing
    started -/
def evsStray : List (Ev (Node Nat)) :=
  [⟨.ccall, ⟨0, 1, 10, 10⟩⟩, ⟨.call, ⟨5, 2, 20, 21⟩⟩, ⟨.ret, ⟨5, 2, 20, 21⟩⟩, ⟨.ret, ⟨100, 3, 30, 30⟩⟩]

/-- F-C19-UNPAIRED-OOB witness.  The code as found looks at `rstack[-1].flags`:
    when bit 14 of that foreign word is set (16384) the lone exit is taken for
    the exit of a frame that lies before the array (`oob`); when it is clear
    the exit is dropped.  The repaired code drops it whatever the word is, and
    the trace is that of the program: one call. -/
theorem c19_prefix_unpaired_oob_witness :
    (prun (wcfg false 16384) (PSt.init (wcfg false 16384)) evsStray).hk.oob = true ∧
    (prun (wcfg false 0) (PSt.init (wcfg false 0)) evsStray).hk.oob = false ∧
    (prun (wcfg true 16384) (PSt.init (wcfg true 16384)) evsStray).hk.oob = false ∧
    (prun (wcfg true 16384) (PSt.init (wcfg true 16384)) evsStray).hk.m.out =
      [⟨20, 0, 0, 1⟩, ⟨21, 1, 0, 1⟩] := by
  decide

/-- the stream of `evsStray` with the address of `a()`'s frame object decided by
    the allocator: uftrace.py's frame (address 1) has been released (its
    `c_return` of `exec` was the last event on it) when `a`'s frame is created -/
def evsAlias (pin : Bool) : List (Ev (Node Nat)) :=
  [⟨.ccall, ⟨0, 1, 10, 10⟩⟩, ⟨.cret, ⟨0, 1, 11, 11⟩⟩,
   ⟨.call, ⟨5, laterFrameAddr pin 1 2, 20, 21⟩⟩, ⟨.ret, ⟨5, laterFrameAddr pin 1 2, 20, 21⟩⟩]

/-- F-C19-FIRSTFRAME-ALIAS witness.  The code as found keeps `first_frame` by
    address without a reference: when the allocator hands the address out again
    (`pin = false`), the call of `a()` leaves no record and `a` not even a
    symbol, although the documented selection is `a() { }`.  With the reference
    held (`pin = true`) the frame of `a` is elsewhere and the call is recorded. -/
theorem c19_prefix_firstframe_alias_witness :
    (prun (wcfg true 0) (PSt.init (wcfg true 0)) (evsAlias false)).hk.m.out = [] ∧
    (prun (wcfg true 0) (PSt.init (wcfg true 0)) (evsAlias false)).shm.count = 0 ∧
    (prun (wcfg true 0) (PSt.init (wcfg true 0)) (evsAlias true)).hk.m.out = [⟨20, 0, 0, 1⟩, ⟨21, 1, 0, 1⟩] ∧
    specCalls (wcfg true 0).py false false 0 (.cons (.node 5 .py .nil) .nil) = [.enter 5, .exit] := by
  decide

/-- non-vacuity of `c19_end_to_end_balanced`: `wcfg true _` meets the
    configuration hypotheses; a program `a() { os.getpid() }` followed by the
    lone return of `runpy._run_code` and an atexit callback meets the others -/
example : CmpEq (wcfg true 0).cmp := fun _ _ => Nat.compare_eq_eq
example : Uft.Mcount.Plain (wcfg true 0).hk.m := ⟨rfl, rfl, rfl, rfl, rfl, fun _ => rfl⟩
example : (wcfg true 0).hk.m.maxStack ≤ (wcfg true 0).hk.m.depthOpt := by decide
def progF0 : Calls (Node Nat) :=
  .cons (.node ⟨5, 2, 20, 25⟩ .py (.cons (.node ⟨101, 2, 21, 22⟩ .c .nil) .nil)) .nil
def progTl : List (CKind × Node Nat × Calls (Node Nat)) :=
  [(.py, ⟨100, 3, 30, 30⟩, .cons (.node ⟨6, 4, 31, 32⟩ .py .nil) .nil)]
example : (∀ e ∈ progEvents progF0 progTl, e.name.frame ≠ 1) ∧ ClockOkL progF0 ∧ (∀ x ∈ progTl, ClockOkL x.2.2) ∧
    (∀ x ∈ progTl, firstMatch (wcfg true 0).py.flist x.2.1.name = none) ∧
    (prun (wcfg true 0) (PSt.init (wcfg true 0)) (⟨.ccall, ⟨0, 1, 10, 10⟩⟩ :: progEvents progF0 progTl)).hk.m.out =
      [⟨20, 0, 0, 1⟩, ⟨21, 0, 1, 2⟩, ⟨22, 1, 1, 2⟩, ⟨25, 1, 0, 1⟩, ⟨31, 0, 0, 4⟩, ⟨32, 1, 0, 4⟩] := by
  refine ⟨by decide, by simp [progF0, ClockOkL, ClockOk], by simp [progTl, ClockOkL, ClockOk], by decide, by decide⟩

/-- non-vacuity of the symbol-table theorems: two processes, the child forked
    after `5` was seen; `7` is first seen by the child, `9` by the parent, then
    `7` by the parent too (a second line for the same name) -/
example :
    let w := World.init.run compare (fun n => decide (100 ≤ n))
      [Op.lookup 1 5, .fork 1 2, .lookup 2 7, .lookup 1 9, .lookup 1 7]
    (symFile w.shm).map (fun l => (l.addr, l.name)) =
      [(1, some 5), (2, some 7), (3, some 9), (4, some 7), (5, none)] ∧
    addrIn compare (w.trees 2) 7 = 2 ∧ addrIn compare (w.trees 1) 7 = 4 ∧
    resolve (symFile w.shm) 2 = some 7 ∧ resolve (symFile w.shm) 4 = some 7 := by
  decide

/-- non-vacuity of `c19_lone_exit_ignored` / `c19_lone_exit_event_ignored`: the
    state after `a()` has returned -/
example : (prun (wcfg true 0) (PSt.init (wcfg true 0)) (evsStray.take 3)).hk.m.idx = 0 ∧
    (prun (wcfg true 0) (PSt.init (wcfg true 0)) (evsStray.take 3)).py = St.init ∧
    (prun (wcfg true 0) (PSt.init (wcfg true 0)) (evsStray.take 3)).first = some 1 := by
  decide

/-- non-vacuity of `c19_first_frame_drops`: a forest with a call at the first
    frame's address whose Python callee survives one level up -/
example :
    pruneCalls 1 (.cons (.node ⟨5, 1, 20, 25⟩ .py (.cons (.node ⟨101, 1, 21, 22⟩ .c .nil)
      (.cons (.node ⟨6, 4, 23, 24⟩ .py .nil) .nil))) .nil) .nil =
    (.cons (.node ⟨6, 4, 23, 24⟩ .py .nil) .nil : Calls (Node Nat)) := by
  simp [pruneCalls, pruneCall]

/-! ### names come from the code object of the event (Model/PyHook §6) -/

/-- C19, names: for every history of code objects — created, freed, their addresses handed out
    again to other code objects any number of times (functions made by exec()/compile(), class
    bodies, the top-level code of imported modules) — the symbol under which an event is recorded
    carries the name of the code object that lives at the event's address **at that event**; every
    such symbol is the final table's entry for that name, and two events are recorded under the
    same address exactly when their current names are equal (never because their code objects have,
    or had, the same address). -/
theorem c19_name_is_current_code_object (cmp : β → β → Ordering) (hc : CmpEq cmp) (isLib : β → Bool)
    (evs : List (CEv β)) :
    (runCode cmp isLib .leaf Shm.empty evs).map (Option.map Sym.name) = evs.map (fun e => e.heap e.code) ∧
    (∀ s, some s ∈ runCode cmp isLib .leaf Shm.empty evs →
      (runCodeTab cmp isLib .leaf Shm.empty evs).1.find cmp s.name = some s) ∧
    (∀ s1 s2, some s1 ∈ runCode cmp isLib .leaf Shm.empty evs → some s2 ∈ runCode cmp isLib .leaf Shm.empty evs →
      (s1.addr = s2.addr ↔ s1.name = s2.name)) := by
  obtain ⟨hn, hfin, hs, ht⟩ := runCode_spec hc evs .leaf Shm.empty shmOk_empty (treeOk_leaf (isLib := isLib) _)
  refine ⟨hn, hfin, fun s1 s2 h1 h2 => ⟨treeOk_addr_inj hs ht ht (hfin s1 h1) (hfin s2 h2), fun e => ?_⟩⟩
  have f1 := hfin s1 h1
  rw [e, hfin s2 h2] at f1
  cases f1
  rfl

/-- non-vacuity: rule_0 (name 10) is compiled at address 500, called and dropped; rule_1 (name 11)
    gets the same address; the module's top-level code (name 7) had it before both -/
example :
    let heap0 : CodeHeap Nat := fun a => if a = 500 then some 7 else if a = 600 then some 3 else none
    let heap1 : CodeHeap Nat := fun a => if a = 500 then some 10 else if a = 600 then some 3 else none
    let heap2 : CodeHeap Nat := fun a => if a = 500 then some 11 else if a = 600 then some 3 else none
    (runCode compare (fun _ => false) .leaf Shm.empty
      [⟨500, heap0⟩, ⟨600, heap0⟩, ⟨500, heap1⟩, ⟨600, heap1⟩, ⟨500, heap2⟩, ⟨700, heap2⟩, ⟨500, heap0⟩]).map
        (Option.map fun s => (s.name, s.addr)) =
      [some (7, 1), some (3, 2), some (10, 3), some (3, 2), some (11, 4), none, some (7, 1)] := by
  decide

/-! ### which directory is the program (Model/PyHook §7) -/

/-- C19, library classification with the repaired launcher: however the script was started
    (relative or absolute name, through symbolic links of any kind — `real` is arbitrary), a module
    imported from the directory the launcher put in front of `sys.path` (a file below it, in a
    package or not) is program code. -/
theorem c19_sibling_modules_are_program_code (l : Launch) (rel : Path) (h : rel ≠ []) :
    isProgramFile true l (sysPath0 true l ++ rel) = true := by
  have hl : 0 < rel.length := List.length_pos_iff.mpr h
  simp only [isProgramFile, underDir, mainDir, sysPath0, ↓reduceIte, List.isPrefixOf_iff_prefix.2 (List.prefix_append _ _), Bool.true_and,
    List.length_append, decide_eq_true_eq]
  omega

/-- … and the modules next to the script are looked up where the script really is -/
theorem c19_sys_path_is_script_dir (l : Launch) : sysPath0 true l = (l.real l.abs).dropLast := rfl

/-- `app/` holds the project, `link -> app`, `bin/tool -> ../app/main.py` -/
def realW : Path → Path
  | ["W", "link", f] => ["W", "app", f]
  | ["W", "bin", "tool"] => ["W", "app", "main.py"]
  | p => p

/-- F-C19-SCRIPTDIR witness (the launcher as found): started as `link/main.py` the neighbour
    `helper.py` is imported from W/link but the program's directory is W/app — its functions count as
    library calls; started as `bin/tool` (a symbolic link to the script) the neighbours are looked up in
    W/bin, where they are not; started by a plain name both agree -/
theorem c19_prefix_scriptdir_witness :
    let viaDir : Launch := { arg := ["link", "main.py"], isAbs := false, cwd := ["W"], real := realW }
    let viaLink : Launch := { arg := ["bin", "tool"], isAbs := false, cwd := ["W"], real := realW }
    let plain : Launch := { arg := ["app", "main.py"], isAbs := false, cwd := ["W"], real := realW }
    isProgramFile false viaDir (sysPath0 false viaDir ++ ["helper.py"]) = false ∧
    sysPath0 false viaLink = ["W", "bin"] ∧ (realW viaLink.abs).dropLast = ["W", "app"] ∧
    isProgramFile false plain (sysPath0 false plain ++ ["pkg", "core.py"]) = true ∧
    isProgramFile true viaDir (sysPath0 true viaDir ++ ["helper.py"]) = true ∧
    sysPath0 true viaLink = ["W", "app"] := by
  decide

end EndToEnd

end Uft.PyTrace

import Uft.Lemmas.Script
import Uft.Props.C07
/- C18 — Scripts observe the same calls as replay.

   Model: Uft/Model/Script.lean (`scriptRun` = command_script + run_script_for_rstack over
   the merged record stream, `replayShown` = command_replay --no-merge over the same
   stream, both on the fstack model of that file; `Hook.runCallH` = the record-time
   script hooks on top of the libmcount hook model Uft.Mcount). -/
namespace Uft.C18
open Uft.Script

/-- C18 (a): for every merged record stream and every option set (-F / -N / -D /
    --no-args; the -t look-ahead and the merge happen in read_rstack, before either
    loop sees a record) a script without a function list gets uftrace_begin, then exactly
    one uftrace_entry / uftrace_exit per line that replay shows for the same stream, in
    the same order and with the same tid, depth, timestamp, duration, address (= name) and
    argument / return value payload, then uftrace_end; and both commands leave every
    task in the same state.  (cmds/script.c with the repair of F-C18-ARGS.) -/
theorem c18_callbacks_eq_replay (cfg : Cfg) (hf : cfg.funcs = []) (ha : cfg.argsFixed = true)
    (hx : cfg.exitAddrFixed = true) (s : List (Nat × Rec)) :
    (scriptRun cfg s).2 = .begin :: (replayShown cfg s).2.map Shown.toCb ++ [.end_] ∧
    (scriptRun cfg s).1 = (replayShown cfg s).1 :=
  scriptRun_eq_replay cfg hf hx s (fun p _ _ => entryHasArgs_fixed cfg ha p.2)


/-! ### data with fix-up records: setjmp / longjmp, exec, fork

On data where replay's depth is not the number of open calls: calls of `setjmp` / `longjmp` (and their
sig / underscore / _chk variants), `exec*`, `fork` / `vfork` / `daemon`, recognised by symbol name
(`cfg.fix`), and tasks forked from other tasks (`cfg.parent`).  `scriptRunX` / `replayShownX` are the two
loops with the fix-ups of fstack_entry / fstack_update / fstack_account_time (Model/Script.lean, "fix-up
records"; the depth logic is that of the replay automaton `NonLocal.rstep` of C11 with one global setjmp
depth, as the code has it). -/

/-- C18 (a) with fix-up records, `c18_depth_matches_replay_fixups`: for every merged stream — with any
    number of setjmp / longjmp / exec / fork calls in any task, longjmp to any jmp_buf, forked children
    that start with the EXIT of fork, any -F / -N / -D / --no-args — the script gets, between uftrace_begin
    and uftrace_end, exactly one callback per line replay shows, with the same tid, **depth**, timestamp,
    duration, address and payload: the depth of the entry callback of a longjmp / exec call is the display
    depth at which replay prints that call (the depth *before* fstack_update moves the task to the setjmp
    depth / to 0), the callbacks after it are at the depth replay shows after the jump, and a forked child
    starts at its parent's fork depth in both.  Both commands leave the tasks, the fork depths and the
    setjmp statics in the same state. -/
theorem c18_depth_matches_replay_fixups (cfg : Cfg) (hf : cfg.funcs = []) (ha : cfg.argsFixed = true)
    (hx : cfg.exitAddrFixed = true) (s : List (Nat × Rec)) :
    (scriptRunX cfg s).2 = .begin :: (replayShownX cfg s).2.map Shown.toCb ++ [.end_] ∧
    (scriptRunX cfg s).1 = (replayShownX cfg s).1 := by
  have h := runX_hom (scriptTaskX cfg) (replayTaskX cfg) (List.map Shown.toCb) rfl (fun _ _ => List.map_append)
    (scriptTaskX_fst_eq_replay cfg) (scriptTaskX_snd_eq_replay cfg hf ha hx) s (x0 cfg)
  simp only [scriptRunX, replayShownX, h.1, h.2, and_self]

/-- main (0) { setjmp (4); alpha (1) { beta (2) { longjmp (5) → second return of setjmp; gamma (3) -/
def jmpStream : List (Nat × Rec) :=
  [(0, { time := 10, exit := false, depth := 0, addr := 0 }), (0, { time := 20, exit := false, depth := 1, addr := 4 }),
   (0, { time := 30, exit := true, depth := 1, addr := 4 }), (0, { time := 40, exit := false, depth := 1, addr := 1 }),
   (0, { time := 50, exit := false, depth := 2, addr := 2 }), (0, { time := 60, exit := false, depth := 3, addr := 5 }),
   (0, { time := 70, exit := true, depth := 1, addr := 4 }), (0, { time := 80, exit := false, depth := 1, addr := 3 }),
   (0, { time := 90, exit := true, depth := 1, addr := 3 })]

def jmpCfg : Cfg := { fix := fun a => if a = 4 then .setjmp else if a = 5 then .longjmp else .none }

/-- what the theorem says on `jmpStream` (non-vacuity, and the numbers): the longjmp entry callback has depth 3
    — one more than beta's, where replay prints it — although the task is at the setjmp depth afterwards: the
    second return of setjmp and gamma are at depth 1 -/
example : jmpCfg.funcs = [] ∧ jmpCfg.argsFixed = true ∧ jmpCfg.exitAddrFixed = true ∧
    ((scriptRunX jmpCfg jmpStream).2.filterMap fun cb => match cb with
        | .entry c => some (c.addr, c.depth) | .exit c => some (c.addr, c.depth) | _ => none) =
      [(0, 0), (4, 1), (4, 1), (1, 1), (2, 2), (5, 3), (4, 1), (3, 1), (3, 1)] := by
  refine ⟨rfl, rfl, rfl, by decide⟩

/-- without fix-up symbols and forked tasks the loops with the fix-up logic are the loops of
    `c18_callbacks_eq_replay`: same callbacks, same lines, same task states -/
theorem c18_fixups_conservative (cfg : Cfg) (h : NoFix cfg) (s : List (Nat × Rec)) :
    (scriptRunX cfg s).2 = (scriptRun cfg s).2 ∧ (scriptRunX cfg s).1.g = (scriptRun cfg s).1 ∧
    (replayShownX cfg s).2 = (replayShown cfg s).2 ∧ (replayShownX cfg s).1.g = (replayShown cfg s).1 := by
  have a := runX_nofix (scriptTaskX cfg) (scriptTask cfg) (scriptTaskX_nofix cfg h) s (x0 cfg)
  have b := runX_nofix (replayTaskX cfg) (replayTask cfg) (replayTaskX_nofix cfg h) s (x0 cfg)
  exact ⟨congrArg (fun l => Cb.begin :: l ++ [Cb.end_]) a.1, a.2, b.1, b.2⟩

example : NoFix ({} : Cfg) := ⟨fun _ => rfl, fun _ => rfl⟩

/-- main (0) { fork (7) } in task 0; task 1, forked from it, starts with the EXIT of fork -/
def forkStream : List (Nat × Rec) :=
  [(0, { time := 10, exit := false, depth := 0, addr := 0 }), (0, { time := 20, exit := false, depth := 1, addr := 7 }),
   (1, { time := 25, exit := true, depth := 1, addr := 7 }), (0, { time := 30, exit := true, depth := 1, addr := 7 }),
   (1, { time := 35, exit := true, depth := 0, addr := 0 })]

def forkCfg (fixed : Bool) : Cfg :=
  { fix := fun a => if a = 7 then .fork else .none, parent := fun i => if i = 1 then some 0 else none,
    exitAddrFixed := fixed }

/-- F-C18-EXIT-ADDR witness (cmds/replay.c before the repair, `exitAddrFixed = false`): the child's first line,
    `} /* fork */`, carries address 0 — its frame's slot was never filled by an ENTRY — and so does the EXIT of the
    inherited main, while the script's callbacks carry the records' addresses 7 and 0 (depths agree: 1, 0); with
    the repair replay prints 7 -/
theorem c18_prefix_exit_addr_witness :
    ((replayShownX (forkCfg false) forkStream).2.map fun l => (l.tid, l.exit, l.depth, l.addr)) =
      [(0, false, 0, 0), (0, false, 1, 7), (1, true, 1, 0), (0, true, 1, 7), (1, true, 0, 0)] ∧
    ((scriptRunX (forkCfg false) forkStream).2.filterMap fun cb => match cb with
        | .entry c => some (c.tid, false, c.depth, c.addr) | .exit c => some (c.tid, true, c.depth, c.addr) | _ => none) =
      [(0, false, 0, 0), (0, false, 1, 7), (1, true, 1, 7), (0, true, 1, 7), (1, true, 0, 0)] ∧
    ((replayShownX (forkCfg true) forkStream).2.map fun l => (l.tid, l.exit, l.depth, l.addr)) =
      [(0, false, 0, 0), (0, false, 1, 7), (1, true, 1, 7), (0, true, 1, 7), (1, true, 0, 0)] := by
  decide

/-! ### against the independent model of replay (C07)

`c18_callbacks_eq_replay` above compares two transcriptions of cmds/script.c and of
cmds/replay.c --no-merge onto one automaton of this file; what could differ in C — replay's
fstack_skip look-ahead and leaf folding — is not in it.  The C07 model (Uft/Model/Fstack.lean)
has that algorithm (`stepB`, `checkSkip`, the pending ENTRY) and the look-ahead of
get_task_ustack with uint64 time differences, and Props/C07 proves that replay shows what the
script loop accepts.  The two theorems below tie this file's script model to it. -/
section AgainstC07
open Uft.Fstack Uft.Script.Bridge
open Uft.Mcount (Calls evCalls)

/-- one task's record file as the merged stream of task `i`, after the reader's look-ahead -/
def streamOf (cfg : Cfg) (thr i : Nat) (rs : List Uft.Mcount.Rec) : List (Nat × Rec) :=
  (lookahead (toRCfg cfg thr) rs).map fun r => (i, conv r)

/-- C18 (a'), refinement: on the record file of every call forest, for every -F / -N table, -D
    and -t, the entry / exit callbacks of this model's script loop — time, kind, function,
    display depth — are exactly the records the script loop of the C07 model (`cmdOut … .script`)
    passes on.  Two independently written models of cmds/script.c + utils/fstack.c (array of
    frames indexed by stack_count here, list of entered calls and a verdict enumeration there)
    agree. -/
theorem c18_script_refines_c07 (cfg : Cfg) (thr i : Nat) (hf : cfg.funcs = []) (hd : cfg.dispSet0 = true)
    (xs : Calls) (ho : Calls.ordered xs) :
    cbRecs (scriptRun cfg (streamOf cfg thr i (evCalls 0 xs))).2 = cmdOut (toRCfg cfg thr) .script (evCalls 0 xs) := by
  rw [scriptRun, streamOf, runWith_single cfg i conv, cmdOut, lookahead_forest (toRCfg cfg thr) ⟨rfl, rfl⟩ xs ho]
  -- uftrace_begin / uftrace_end are no records
  show cbRecs ((Cb.begin :: _) ++ [Cb.end_]) = _
  rw [cbRecs_append]
  exact (List.append_nil _).trans (sim_calls cfg thr i hf _ _ _ (sim_init cfg hd thr)).out

/-- C18 (a''), the headline against replay's own algorithm: for every option set over -F / -N /
    -D / -t and every call forest, the script's entry / exit callbacks are — in order, with time,
    kind, function and display depth — exactly the lines the C07 model of `uftrace replay`
    prints, with its fstack_skip look-ahead and leaf folding (a folded `f();` counts as its
    ENTRY and EXIT line) as well as with --no-merge.  Through `c07_commands_agree_traceoff`. -/
theorem c18_callbacks_eq_replay_c07 (cfg : Cfg) (thr i : Nat) (noMerge : Bool) (hf : cfg.funcs = [])
    (hd : cfg.dispSet0 = true) (xs : Calls) (ho : Calls.ordered xs) :
    cbRecs (scriptRun cfg (streamOf cfg thr i (evCalls 0 xs))).2 =
      cmdOut { toRCfg cfg thr with noMerge := noMerge } .replay (evCalls 0 xs) := by
  have h1 := c18_script_refines_c07 cfg thr i hf hd xs ho
  have h2 := Uft.C07.c07_commands_agree_traceoff { toRCfg cfg thr with noMerge := noMerge } rfl ⟨rfl, rfl⟩ xs ho .script .replay
  rw [h1, ← h2]
  rfl

/-- non-vacuity: `-F f1 -D 2 -t 5` on a forest with a short leaf and a nested call -/
example :
    let cfg : Cfg := { filt := fun a => if a = 1 then some true else none, modeIn := true, depth := 2 }
    let xs : Calls := .cons (.node 0 10 90 (.cons (.node 1 20 60 (.cons (.node 2 30 33 .nil) (.cons (.node 3 40 50 .nil) .nil))) .nil)) .nil
    cfg.funcs = [] ∧ cfg.dispSet0 = true ∧ Calls.ordered xs ∧
    cbRecs (scriptRun cfg (streamOf cfg 5 7 (evCalls 0 xs))).2 =
      [{ time := 20, type := 0, depth := 0, addr := 1 }, { time := 40, type := 0, depth := 1, addr := 3 },
       { time := 50, type := 1, depth := 1, addr := 3 }, { time := 60, type := 1, depth := 0, addr := 1 }] := by
  refine ⟨rfl, rfl, by simp [Calls.ordered, Call.ordered], by decide⟩

end AgainstC07

/-- non-vacuity: the default configuration has no function list and the repaired test -/
example : ({} : Cfg).funcs = [] ∧ ({} : Cfg).argsFixed = true ∧ ({} : Cfg).exitAddrFixed = true := ⟨rfl, rfl, rfl⟩

/-- data as libmcount writes it when every argument fits: an ENTRY record has a payload
    exactly when its function has an argspec -/
def ArgsWF (cfg : Cfg) (s : List (Nat × Rec)) : Prop :=
  ∀ p ∈ s, p.2.exit = false → p.2.more = cfg.argTrig p.2.addr

/-- C18 (a) for the code before the repair of F-C18-ARGS (`argsFixed = false`): the same
    statement holds on data where ENTRY payloads and argspecs agree (`ArgsWF`) -/
theorem c18_callbacks_eq_replay_prefix_wfargs (cfg : Cfg) (hf : cfg.funcs = []) (hx : cfg.exitAddrFixed = true)
    (s : List (Nat × Rec)) (hw : ArgsWF cfg s) :
    (scriptRun cfg s).2 = .begin :: (replayShown cfg s).2.map Shown.toCb ++ [.end_] ∧
    (scriptRun cfg s).1 = (replayShown cfg s).1 := by
  refine scriptRun_eq_replay cfg hf hx s (fun p hp he => ?_)
  simp only [entryHasArgs, ← hw p hp he, ite_self, Bool.and_comm]

/-- the stream of finding F-C18-ARGS: `f(…)` with a payload, its return, then an ENTRY of
    the same function without payload -/
def argsStream : List (Nat × Rec) :=
  [(0, { time := 10, exit := false, depth := 0, addr := 1, payload := 7 }),
   (0, { time := 20, exit := true, depth := 0, addr := 1 }),
   (0, { time := 30, exit := false, depth := 0, addr := 1 }),
   (0, { time := 40, exit := true, depth := 0, addr := 1 })]

def argsCfg (fixed : Bool) : Cfg := { argTrig := fun a => a == 1, argsFixed := fixed }

/-- F-C18-ARGS witness (code before the repair): the third callback carries the stale
    payload 7 of the first record, replay shows the call without arguments; the
    repaired test gives 0 (no `args` key) as replay does -/
theorem c18_prefix_stale_args_witness :
    ((scriptRun (argsCfg false) argsStream).2.map fun cb => match cb with
        | .entry c => c.args | .exit c => c.args | _ => 0) = [0, 7, 0, 7, 0, 0] ∧
    ((replayShown (argsCfg false) argsStream).2.map (·.args)) = [7, 0, 0, 0] ∧
    ((scriptRun (argsCfg true) argsStream).2.map fun cb => match cb with
        | .entry c => c.args | .exit c => c.args | _ => 0) = [0, 7, 0, 0, 0, 0] := by
  decide

/-- C18 (b): with a UFTRACE_FUNCS list `L` the callbacks are exactly the callbacks of the
    run without a list whose function is in `L` (uftrace_begin / uftrace_end are kept),
    and the task states (stack, display depth, filter counters) evolve identically. -/
theorem c18_funcs_filter (cfg : Cfg) (L : List Nat) (hL : L ≠ []) (s : List (Nat × Rec)) :
    (scriptRun { cfg with funcs := L } s).2 =
      (scriptRun { cfg with funcs := [] } s).2.filter (keepFuncs L) ∧
    (scriptRun { cfg with funcs := L } s).1 = (scriptRun { cfg with funcs := [] } s).1 := by
  have h := runWith_hom (scriptTask { cfg with funcs := L }) (scriptTask { cfg with funcs := [] })
    (List.filter (keepFuncs L)) rfl List.filter_append (scriptTask_funcs_fst cfg L) s (g0 cfg)
    (fun p _ st => scriptTask_funcs_snd cfg L hL p.1 st p.2)
  refine ⟨?_, h.1⟩
  -- uftrace_begin / uftrace_end are not filtered
  rw [scriptRun, scriptRun, List.filter_append, List.filter_cons_of_pos rfl]
  exact congrArg (fun l => Cb.begin :: l ++ [Cb.end_]) h.2

example : ([3] : List Nat) ≠ [] := by simp

/-- C18 (c): when the records of task `i` are a properly nested stream that starts at
    depth 0 (`wfRun`; it may end with calls still open: `W` is what is open then), the
    callbacks of that task are properly nested too: every uftrace_exit closes the innermost
    open uftrace_entry of the task with the same address and depth, its duration is the
    time between the two, and what is left open at the end are entries of calls that are
    still open in the data (none when the task's stream is complete).  For every option
    set, function list and interleaving with other tasks. -/
theorem c18_entry_exit_paired (cfg : Cfg) (s : List (Nat × Rec)) (i : Nat) (W : List (Nat × Nat))
    (hwf : wfRun [] (recsOf i s) = some W) :
    ∃ opens, pairRun [] (ofTask i (scriptRun cfg s).2) = some opens ∧
      opens.length ≤ W.length ∧ (W = [] → opens = []) := by
  obtain ⟨A', _, hk, hpr⟩ := task_paired cfg i (recsOf i s) (g0 cfg i) [] W (Inv_fresh cfg) hwf
  have hlen : A'.length = W.length := by rw [← hk, keys, List.length_map]
  refine ⟨opensOf cfg i A', ?_, ?_, ?_⟩
  · -- uftrace_begin / uftrace_end belong to no task
    have : ofTask i (scriptRun cfg s).2 = ofTask i (runWith (scriptTask cfg) (g0 cfg) s).2 := by
      simp [scriptRun, ofTask, Cb.tid?]
    rw [this, (runWith_project cfg i s (g0 cfg)).1]
    exact hpr
  · exact Nat.le_trans (opensOf_length_le cfg i A') (Nat.le_of_eq hlen)
  · intro hW
    rw [hW] at hlen
    rw [List.eq_nil_of_length_eq_zero hlen]
    rfl

/-- non-vacuity: a nested stream of two tasks with an open call at the end -/
example : wfRun [] (recsOf 0 [(0, { time := 1, exit := false, depth := 0, addr := 5 }),
                              (1, { time := 2, exit := false, depth := 0, addr := 6 }),
                              (0, { time := 3, exit := false, depth := 1, addr := 7 }),
                              (0, { time := 4, exit := true, depth := 1, addr := 7 })]) = some [(5, 1)] := by
  decide

/-! ### record time -/
section RecordTime
open Uft.Mcount Uft.Script.Hook

/-- C18 (d), record time (libmcount with the repair of F-C18-EXITHOOK): for every thread,
    every option set and trigger table without a `finish` action, both hook families, every
    function list of the script, every forest of calls the thread makes (any depth, also
    beyond --max-stack), and whatever other threads store into the global `mcount_enabled`
    between this thread's hooks (`env`): the log of script_hook_entry / script_hook_exit
    calls is balanced — every script_hook_exit closes the innermost open script_hook_entry
    and is about the same frame (address, depth, start time), and after every complete
    call nothing is left open.  The hooks run exactly for the frames that are not NORECORD
    (`Hook.entryHook_pushed`, `Hook.exitHook_top`). -/
theorem c18_record_time_paired (cfg : Mcount.Cfg) (hfin : ∀ f, (cfg.trig f).finish = false)
    (funcs : List Nat) (k : Kind) (env : Nat → Option Bool) (cs : Calls) (s : St) (hwf : HWF cfg s)
    (stk : List HCtx) :
    hpRun stk (runCallsH true funcs cfg k env s cs).2 = some stk := by
  cases hf : cfg.fast
  · exact (hook_calls cfg hf hfin funcs k env cs s hwf).2 stk
  · rw [fast_calls true cfg hf funcs k env cs s]; rfl

/-- the logged run is the run of the hook model of C02 / C05 (no other thread interfering) -/
theorem c18_record_time_state (fixed : Bool) (funcs : List Nat) (cfg : Mcount.Cfg) (k : Kind) (cs : Calls) (s : St) :
    (runCallsH fixed funcs cfg k (fun _ => none) s cs).1 = runCalls cfg k s cs :=
  state_calls fixed funcs cfg k cs s

/-- `-T f1@trace_off`: main (f0) calls f1 -/
def offCfg : Mcount.Cfg := { trig := fun f => if f = 1 then { traceOff := true } else {} }
def offCalls : Calls := .cons (.node 0 10 40 (.cons (.node 1 20 30 .nil) .nil)) .nil

/-- non-vacuity of `c18_record_time_paired`, and what it says for this run -/
example : (∀ f, (offCfg.trig f).finish = false) ∧ HWF offCfg (St.init offCfg) := by
  refine ⟨fun f => ?_, Or.inl rfl⟩
  simp only [offCfg]; split <;> rfl

/-- F-C18-EXITHOOK witness (code before the repair, `fixed = false`): after f1 switched
    tracing off, neither f1 nor f0 gets its exit callback — two entry callbacks stay open
    after the complete call; with the repair the log is balanced. -/
theorem c18_prefix_exit_hook_witness :
    (hpRun [] (runCallsH false [] offCfg .pg (fun _ => none) (St.init offCfg) offCalls).2).map List.length = some 2 ∧
    (runCallsH false [] offCfg .pg (fun _ => none) (St.init offCfg) offCalls).2.length = 2 ∧
    hpRun [] (runCallsH true [] offCfg .pg (fun _ => none) (St.init offCfg) offCalls).2 = some [] ∧
    (runCallsH true [] offCfg .pg (fun _ => none) (St.init offCfg) offCalls).2.length = 4 := by
  decide

end RecordTime


/-! ### record time, every thread: the binding's interpreter lock -/
section BindingLock
open Uft.Script.Bind

/-- C18 (d'), `… for every thread`: a binding whose per-call hooks wait for the interpreter
    (pthread_mutex_lock: utils/script-python.c; utils/script-luajit.c with the repair of F-C18-LUA-NOLOCK) gives
    the script, for every thread and every interleaving of the threads' hooks and callback durations (`sched`:
    any sequence of "thread t reaches a hook" / "the callback of thread t returns"), exactly the hooks that
    reached the binding: in arrival order, none lost, none duplicated, the ones still waiting for the mutex
    at the end of `sched` apart — so per thread the callbacks are that thread's hooks in order (and balanced
    by `c18_record_time_paired`), and never are two threads inside the one interpreter state.  The mutex is
    handed to the longest waiter here; a blocked thread issues no further hook, so every thread has at most
    one entry in the queue and the per-thread statement does not depend on who gets the mutex. -/
theorem c18_record_time_every_thread (sched : List Step) :
    (run .lock {} sched).log ++ (run .lock {} sched).waiting = (run .lock {} sched).issued ∧
    (∀ t, ofThread t (run .lock {} sched).log ++ ofThread t (run .lock {} sched).waiting =
          ofThread t (run .lock {} sched).issued) ∧
    ((run .lock {} sched).waiting = [] → ∀ t, ofThread t (run .lock {} sched).log = ofThread t (run .lock {} sched).issued) ∧
    (run .lock {} sched).corrupt = false ∧ (run .lock {} sched).running.length ≤ 1 := by
  have h := lockInv_run sched {} lockInv_init
  refine ⟨h.all, ?_, ?_, h.ok, h.one⟩
  · intro t
    rw [← h.all]
    simp [ofThread]
  · intro hw t
    rw [← h.all, hw, List.append_nil]

/-- two threads: thread 0's callback 10 (slow) is running when thread 1 reaches its hooks 20 and, after 10
    returned, 21 -/
def overlapSched : List Step := [.hook 0 10, .hook 1 20, .done 0, .done 1, .hook 1 21, .done 1]

/-- non-vacuity / what the theorem says on `overlapSched`: thread 1 gets 20 (after waiting) and 21 -/
example : (run .lock {} overlapSched).waiting = [] ∧ ofThread 1 (run .lock {} overlapSched).log = [20, 21] ∧
    ofThread 0 (run .lock {} overlapSched).log = [10] := by decide

/-- F-C18-LUA-NOLOCK witness (utils/script-luajit.c as it is: no lock): on the same schedule thread 1 enters the
    interpreter state while thread 0's callback is executing in it — undefined behaviour of the Lua state (lost
    callbacks, `PANIC: unprotected error in call to Lua API`, SIGSEGV in the traced program) -/
theorem c18_prefix_nolock_witness :
    (run .nolock {} overlapSched).corrupt = true ∧ (run .lock {} overlapSched).corrupt = false := by decide

/-- … and a hook that gives up when the interpreter is busy (trylock) loses callbacks: thread 1 gets 21 without
    20 — e.g. an exit callback without its entry -/
theorem c18_skip_when_busy_loses_callbacks_witness :
    ofThread 1 (run .trylock {} overlapSched).log = [21] ∧ ofThread 1 (run .trylock {} overlapSched).issued = [20, 21] := by
  decide

end BindingLock

/-! ### argument and return-value payloads -/
section ArgBuffer
open Uft.Gen.ScriptArgs Uft.Script.Args

/-- C18 (e), replay: for every list of argument specs and values that fit them (integers of
    any size and base, pointers, enums, floats, chars, structs, strings and std::strings of any
    length), decoding the bytes libmcount's save_to_argbuf lays out — walking them as
    get_argspec_string does — returns exactly the stored values, in order, whatever follows
    in the buffer.  Sizes and advances are the expressions of the C sources (Gen/ScriptArgs). -/
theorem c18_args_decode_roundtrip_replay (sv : List (ASpec × AVal)) (tl : List Nat)
    (hf : ∀ p ∈ sv, fits p.1 p.2) :
    decode replayAdv (sv.map (·.1)) (encode sv ++ tl) = sv.map (·.2) :=
  decode_encode replayAdv good_replay sv tl (fun p hp => ⟨hf p hp, replay_handles_all _⟩)

/-- C18 (e), Python binding: the same for setup_argument_context of utils/script-python.c, for
    the formats its switch has a case for -/
theorem c18_args_decode_roundtrip_python (sv : List (ASpec × AVal)) (tl : List Nat)
    (hf : ∀ p ∈ sv, fits p.1 p.2) (hh : ∀ p ∈ sv, handles pyAdv p.1.fmt = true) :
    decode pyAdv (sv.map (·.1)) (encode sv ++ tl) = sv.map (·.2) :=
  decode_encode pyAdv good_python sv tl (fun p hp => ⟨hf p hp, hh p hp⟩)

/-- C18 (e), Lua binding (utils/script-luajit.c) -/
theorem c18_args_decode_roundtrip_lua (sv : List (ASpec × AVal)) (tl : List Nat)
    (hf : ∀ p ∈ sv, fits p.1 p.2) (hh : ∀ p ∈ sv, handles luaAdv p.1.fmt = true) :
    decode luaAdv (sv.map (·.1)) (encode sv ++ tl) = sv.map (·.2) :=
  decode_encode luaAdv good_lua sv tl (fun p hp => ⟨hf p hp, hh p hp⟩)

/-- so the script bindings see the values replay prints, element by element -/
theorem c18_args_readers_agree (sv : List (ASpec × AVal)) (tl : List Nat)
    (hf : ∀ p ∈ sv, fits p.1 p.2)
    (hp : ∀ p ∈ sv, handles pyAdv p.1.fmt = true) (hl : ∀ p ∈ sv, handles luaAdv p.1.fmt = true) :
    decode pyAdv (sv.map (·.1)) (encode sv ++ tl) = decode replayAdv (sv.map (·.1)) (encode sv ++ tl) ∧
    decode luaAdv (sv.map (·.1)) (encode sv ++ tl) = decode replayAdv (sv.map (·.1)) (encode sv ++ tl) := by
  rw [c18_args_decode_roundtrip_python sv tl hf hp, c18_args_decode_roundtrip_lua sv tl hf hl,
    c18_args_decode_roundtrip_replay sv tl hf]
  exact ⟨rfl, rfl⟩

/-- `greet("ab", 55, 'q')`: a string of length 2 (mod 4) followed by a 4-byte integer and a char -/
def greetArgs : List (ASpec × AVal) :=
  [(⟨.str, 8⟩, .str [97, 98]), (⟨.sint, 4⟩, .fixed [55, 0, 0, 0]), (⟨.chr, 1⟩, .fixed [113])]

/-- non-vacuity: the call fits its specs, both bindings handle it, and it decodes to itself -/
example :
    (∀ p ∈ greetArgs, fits p.1 p.2) ∧ (∀ p ∈ greetArgs, handles pyAdv p.1.fmt = true) ∧
    (∀ p ∈ greetArgs, handles luaAdv p.1.fmt = true) ∧
    encode greetArgs = [2, 0, 97, 98, 55, 0, 0, 0, 113, 0, 0, 0] ∧
    decode pyAdv (greetArgs.map (·.1)) (encode greetArgs) = greetArgs.map (·.2) := by
  refine ⟨?_, by decide, by decide, by decide, by decide⟩
  intro p hp
  simp only [greetArgs, List.mem_cons, List.mem_nil_iff, or_false] at hp
  rcases hp with rfl | rfl | rfl <;> simp [fits, isStr]

/-- a binding whose switch has no case for /o (octal) arguments: the python and luajit bindings
    before the repair of finding F-C18-OCT -/
def noOctAdv : Fmt → Nat → Nat → Option Nat
  | .oct, _, _ => none
  | f, size, slen => replayAdv f size slen

/-- F-C18-OCT witness: `f(arg1/o32 = 8, arg2/i32 = 7)` — the octal argument is skipped without
    advancing, so one value is missing and the second argument is read from the first one's bytes;
    replay returns both -/
theorem c18_prefix_oct_witness :
    let sv : List (ASpec × AVal) := [(⟨.oct, 4⟩, .fixed [8, 0, 0, 0]), (⟨.sint, 4⟩, .fixed [7, 0, 0, 0])]
    decode noOctAdv (sv.map (·.1)) (encode sv) = [.fixed [8, 0, 0, 0]] ∧
    decode replayAdv (sv.map (·.1)) (encode sv) = sv.map (·.2) := by
  decide

end ArgBuffer

end Uft.C18

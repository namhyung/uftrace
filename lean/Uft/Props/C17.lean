import Uft.Lemmas.EventsPair
import Uft.Model.Events
import Uft.Model.CallTree
import Uft.Lemmas.Events
import Uft.Lemmas.EventsWatch
import Uft.Lemmas.EventsFilt
/-
C17 — Read-trigger and watchpoint events are placed and valued consistently.

The theorems are about the event model `Uft/Model/Events.lean` (save_trigger_read,
save_watchpoint, record_ret_stack's emission order, the flush / drop rules of
mcount_exit_filter_record, on top of the hook model of C02/C05), which the check
`checks/c17.py` validates against the real libmcount on every run.  `fixArg`, `fixVar`,
`fixIdx` select the repaired (true) or the as-coded (false) variant of three defects of the
unchanged tree (F17c, F17b, F17d); the property theorems are for the repaired variants where
they need them, and a `c17_prefix_…_witness` shows each as-coded variant violating the property.
-/
namespace Uft.C17
open Uft.Mcount Uft.Events

/-! ## Part 1: read/diff events — placement, values, nesting

`runECall` drives the entry/exit hooks over an arbitrary call tree whose nodes carry the
values the sources return at the two hooks.  No filters, no watchpoints here; any read=
masks, -A and -R sizes, both hook flavours, any tree. -/

/-- The stream written for a forest of completed calls, starting from a fresh thread, is
    exactly the specified one: per call ENTRY, the entry hook's read events, the callees,
    the exit hook's events, EXIT (`specCall`).  Nothing missing, duplicated or reordered. -/
theorem c17_emit_exact (cfg : ECfg) (hp : PlainE cfg) (k : Kind) (cs : ECalls) (vars : List Nat)
    (glob : List (Option Nat))
    (hm : cs.height ≤ cfg.base.maxStack) (hd : cs.height ≤ cfg.base.depthOpt) (ht : cs.timed)
    (hmin : cfg.base.minSize = 0) (hen : cfg.base.enabled0 = true) :
    (runECalls cfg k (ESt.init cfg vars glob) cs).out = specCalls cfg k 0 cs ∧
    (runECalls cfg k (ESt.init cfg vars glob) cs).frames = [] ∧
    (runECalls cfg k (ESt.init cfg vars glob) cs).pend = [] := by
  have hg : GoodE (ESt.init cfg vars glob) 0 := by
    constructor <;> simp [ESt.init, hmin, hen, NoSkipE]
  obtain ⟨h1, ⟨m, h2⟩, h3⟩ := emitE_calls cfg hp k cs (ESt.init cfg vars glob) 0 hg (by omega) (by omega) ht
  have h2' : (runECalls cfg k (ESt.init cfg vars glob) cs).frames = [] := by
    rw [h2]
    cases m <;> rfl
  rw [h2'] at h1
  exact ⟨by simpa [ESt.init, pendingE] using h1, h2', h3.pend⟩

example : PlainE ({ read := fun _ => 3, argSize := fun _ => some 100, retSize := fun _ => some 8 } : ECfg) := by
  constructor
  · constructor <;> simp
  · rfl
  · rfl

example : (ECalls.cons (.node 1 10 50 {} {} (.cons (.node 2 20 40 {} {} .nil) .nil)) .nil).timed ∧
    (ECalls.cons (.node 1 10 50 {} {} (.cons (.node 2 20 40 {} {} .nil) .nil)) .nil).height ≤ 1024 := by
  simp [ECalls.timed, ECall.timed, ECalls.height, ECall.height, u64]

/-- `c17_read_diff_placement`: one call of `f` (with any callees), executed in any thread state
    without active filters: the stream grows by exactly
      [ENTRY f] ++ R ++ (the callees' records) ++ D ++ [EXIT f]
    where R are the events saved by the entry hook (each a READ event holding the reading of its
    source, time = entry time) and D the events saved by the exit hook (time = exit time, each made
    from the exit reading of its source: the DIFF to the entry event of the same source).  The ENTRY
    records still owed for the callers (`pendingE`) come first. -/
theorem c17_read_diff_placement (cfg : ECfg) (hp : PlainE cfg) (k : Kind) (s : ESt) (d f t0 t1 : Nat)
    (oE oX : Obs) (kids : ECalls)
    (hg : GoodE s d) (hm : d + kids.height + 1 ≤ cfg.base.maxStack) (hd : d + kids.height + 1 ≤ cfg.base.depthOpt)
    (ht : t0 < t1) (htu : t1 < u64) (hk : kids.timed) :
    ∃ R D : List Ev,
      (runECall cfg k s (.node f t0 t1 oE oX kids)).out =
        s.out ++ pendingE s.frames ++
          ([.record { time := t0, type := 0, depth := d, addr := f } (argPayload cfg k f)] ++ R.map .event ++
           specCalls cfg k (d + 1) kids ++
           D.map .event ++ [.record { time := t1, type := 1, depth := d, addr := f } (retPayloadOf cfg k f)]) ∧
      (∀ e ∈ R, e.time = t0 ∧ HoldsReading oE readEvents e) ∧
      (∀ e ∈ D, e.time = t1 ∧ FromExit oX readEvents R.reverse e) := by
  obtain ⟨h1, _, _⟩ := emitE_call cfg hp k (.node f t0 t1 oE oX kids) s d hg
    (by simp only [ECall.height]; omega) (by simp only [ECall.height]; omega) ⟨ht, htu, hk⟩
  have hFb := entryFrame_b cfg k f t0 d oE
  have hFev := entryFrame_evs_time cfg k f t0 d oE
  have hst : (entryFrame cfg k f t0 d oE).b.start = t0 := by rw [hFb]; rfl
  have hev' : ∀ e ∈ (entryFrame cfg k f t0 d oE).evs, e.time = (entryFrame cfg k f t0 d oE).b.start := by
    rw [hst]; exact hFev
  obtain ⟨new, n1, n2, n3, n4⟩ := exitFrame_events cfg (entryFrame cfg k f t0 d oE) t1 d oX hev'
    (by rw [hst]; omega) (by omega)
  refine ⟨(entryFrame cfg k f t0 d oE).evs.reverse, new.reverse, ?_, ?_, ?_⟩
  · rw [h1]
    simp only [specCall, exitOut, entryEvs_of_all _ hev', n4, entryOut_entryFrame, exitRecord_exitFrame]
    simp
  · intro e he
    simp only [List.mem_reverse] at he
    exact ⟨hFev e he, entryFrame_holds cfg k f t0 d oE e he⟩
  · intro e he
    simp only [List.mem_reverse] at he
    simp only [List.reverse_reverse]
    exact ⟨n2 e he, n3 e he⟩

/-- `c17_diff_value`: a DIFF event written before EXIT holds, field by field, the reading of its
    source at the exit hook minus the reading at the entry hook (uint64 arithmetic), and the entry
    hook's READ event of that source is in the stream after ENTRY.  `R`, `D` as in
    `c17_read_diff_placement`. -/
theorem c17_diff_value (oE oX : Obs) (R D : List Ev)
    (hR : ∀ e ∈ R, HoldsReading oE readEvents e) (hD : ∀ e ∈ D, FromExit oX readEvents R.reverse e)
    (e : Ev) (he : e ∈ D) (s : ReadSrc) (hs : s ∈ readEvents) (hid : e.id = s.idDiff) :
    ∃ vE vX, oE.reads s.bit = some vE ∧ oX.reads s.bit = some vX ∧
      e.data = zipSub vX (vE.map (· % u64)) ∧
      ∃ r ∈ R, r.id = s.idRead ∧ r.data = vE.map (· % u64) := by
  obtain ⟨s', hs', vX, hvX, hm⟩ := hD e he
  have inj : ∀ a ∈ readEvents, ∀ b ∈ readEvents, (a.idDiff = b.idDiff ∨ a.idRead = b.idRead) → a = b := by decide
  have dis : ∀ a ∈ readEvents, ∀ b ∈ readEvents, a.idRead ≠ b.idDiff :=
    fun a ha b hb => (readEvents_distinct.2 b hb a ha).symm
  cases hf : R.reverse.find? (fun x => x.id == s'.idRead) with
  | none =>
    rw [hf] at hm
    exact absurd (hm.1.symm.trans hid) (dis s' hs' s hs)
  | some old =>
    rw [hf] at hm
    have hss : s' = s := inj s' hs' s hs (Or.inl (hm.1.symm.trans hid))
    subst hss
    have hold : old ∈ R := by simpa using List.mem_of_find?_eq_some hf
    have hoid : old.id = s'.idRead := by simpa using List.find?_some hf
    obtain ⟨s2, hs2, vE, hvE, h2id, h2data⟩ := hR old hold
    have : s2 = s' := inj s2 hs2 s' hs (Or.inr (h2id.symm.trans hoid))
    subst this
    exact ⟨vE, vX, hvE, hvX, by rw [hm.2, h2data], old, hold, hoid, h2data⟩

example : subU64 8 5 = 3 ∧ subU64 5 8 = 2 ^ 64 - 3 := by decide


/-- `c17_events_keep_nesting`: the ENTRY/EXIT records of the stream, with the events taken out, are
    exactly the eager trace of the executed history (`evCalls`, the specification of C02: properly
    nested, depth = number of open calls, time stamps = the hooks' clock readings).  Events never sit
    inside another call's ENTRY/EXIT pair than the one whose hook saved them (`c17_read_diff_placement`). -/
theorem c17_events_keep_nesting (cfg : ECfg) (hp : PlainE cfg) (k : Kind) (cs : ECalls) (vars : List Nat)
    (glob : List (Option Nat))
    (hm : cs.height ≤ cfg.base.maxStack) (hd : cs.height ≤ cfg.base.depthOpt) (ht : cs.timed)
    (hmin : cfg.base.minSize = 0) (hen : cfg.base.enabled0 = true) :
    (runECalls cfg k (ESt.init cfg vars glob) cs).out.filterMap recOf = evCalls 0 cs.erase := by
  rw [(c17_emit_exact cfg hp k cs vars glob hm hd ht hmin hen).1, recs_specCalls]

/-! ## Part 2: watchpoints -/

/-- `c17_watch_iff_change` (cpu): at a hook with room for one more pending event, `-W cpu` saves an
    event exactly when this is the thread's first observation or the cpu differs from the previously
    observed one; the event carries the observed cpu; and the observation is remembered in either case
    (so "previously observed" is literally the value seen at the previous hook). -/
theorem c17_watch_iff_change (s : ESt) (t ridx cpu : Nat) (hroom : s.pend.length < MAX_EVENT) :
    ((saveWatchCpu s t ridx cpu (!s.winited)).pend = s.pend ++ [cpuEv t ridx cpu] ↔
      (s.winited = false ∨ s.wcpu ≠ some cpu)) ∧
    ((saveWatchCpu s t ridx cpu (!s.winited)).pend = s.pend ∨
      (saveWatchCpu s t ridx cpu (!s.winited)).pend = s.pend ++ [cpuEv t ridx cpu]) ∧
    (saveWatchCpu s t ridx cpu (!s.winited)).wcpu = some cpu := by
  rw [saveWatchCpu_pend]
  refine ⟨?_, ?_, rfl⟩
  · simp only [hroom, and_true, Bool.not_eq_true']
    split
    · rename_i h
      exact iff_of_true rfl h
    · rename_i h
      exact iff_of_false (fun he => List.cons_ne_nil _ _ (List.self_eq_append_right.mp he)) h
  · split
    · exact Or.inr rfl
    · exact Or.inl rfl

example : (({} : ESt).pend.length < MAX_EVENT) := by decide

/-- single-thread invariant of a watched variable: the global item holds nothing yet, or what this
    thread saw last -/
def VarSync (s : ESt) (k : Nat) : Prop :=
  s.glob[k]? = some none ∨ (∃ v, s.glob[k]? = some (some v) ∧ s.wcopy[k]? = some v)

/-- `c17_watch_iff_change` (`-W var:NAME`, repaired per-thread copy `fixVar`): in a single thread, at a
    hook with room, an event is saved exactly when the value read differs from the value this thread
    observed last (initially: the value at thread start); the event carries the new value; the new value
    becomes the remembered one and the invariant is kept. Without room nothing changes (the change is
    reported at a later hook). -/
theorem c17_watch_var_iff_change (cfg : ECfg) (hfix : cfg.fixVar = true) (t ridx : Nat) (s : ESt) (k size v old : Nat)
    (hold : s.wcopy[k]? = some old) (hk : k < s.glob.length) (hsync : VarSync s k)
    (hroom : s.pend.length < MAX_EVENT) :
    ((saveWatchVar cfg t ridx s k size v).pend = s.pend ++ [varEv t ridx k size v] ↔ v ≠ old) ∧
    ((saveWatchVar cfg t ridx s k size v).pend = s.pend ∨
      (saveWatchVar cfg t ridx s k size v).pend = s.pend ++ [varEv t ridx k size v]) ∧
    (saveWatchVar cfg t ridx s k size v).wcopy[k]? = some v ∧
    VarSync (saveWatchVar cfg t ridx s k size v) k := by
  have hr : ¬ (s.pend.length ≥ MAX_EVENT) := by omega
  have hkw : k < s.wcopy.length := by
    have := List.getElem?_eq_some_iff.mp hold
    exact this.1
  unfold saveWatchVar
  by_cases hv : v = old
  · subst hv
    simp [hr, hold, hsync]
  · have h2 : (s.wcopy[k]? == some v) = false := by simp [hold]; omega
    have h3 : (s.glob[k]? == some (some v)) = false := by
      rcases hsync with h | ⟨w, h, hw⟩
      · simp [h]
      · rw [hold] at hw
        have : w = old := by simpa using hw.symm
        subst this
        simp [h]; omega
    simp only [hr, h2, h3, hfix, ↓reduceIte, Bool.false_eq_true]
    refine ⟨by simp [hv], Or.inr trivial, by simp [hkw], Or.inr ⟨v, by simp [hk], by simp [hkw]⟩⟩

/-- `c17_watch_multi_thread_partial`: with several threads the global item is shared, so what a thread's
    hook does is (as coded): an event is saved iff there is room, the value differs from this thread's
    remembered value AND from the last value reported by any thread (`glob`).  A value another thread
    already reported is therefore not reported again by this one.  What is missing for a per-thread
    "iff change" statement is exactly that second conjunct. -/
theorem c17_watch_multi_thread_partial (cfg : ECfg) (t ridx : Nat) (s : ESt) (k size v : Nat) :
    (saveWatchVar cfg t ridx s k size v).pend = s.pend ++ [varEv t ridx k size v] ↔
      (s.pend.length < MAX_EVENT ∧ s.wcopy[k]? ≠ some v ∧ s.glob[k]? ≠ some (some v)) := by
  rw [saveWatchVar_pend]
  split
  · rename_i h
    exact iff_of_true rfl h
  · rename_i h
    exact iff_of_false (fun he => List.cons_ne_nil _ _ (List.self_eq_append_right.mp he)) h


/-- `c17_event_times_inside`: time stamps of the events a call's hooks save, for a call [t0, t1] with
    t0 + 2 <= t1 (the duration the -1 / +2 rule needs; one hypothesis, stated once):
    * read events carry t0, diff events t1 (`c17_read_diff_placement`);
    * the watch events of the exit hook carry t1 - 1: inside [t0, t1) — written before EXIT;
    * the watch events of the thread's first observation (entry hook) carry t0 + 1: inside (t0, t1) —
      after ENTRY, before EXIT;
    * the other watch events of an entry hook carry t0 - 1: just before the call's ENTRY, i.e. inside the
      caller's interval whenever the caller was entered before t0.
    `W` are the events the hook appends to the pending list (see `watchStep_spec`). -/
theorem c17_event_times_inside (cfg : ECfg) (s : ESt) (b : Frame) (ri : Nat) (o : Obs) (t0 t1 : Nat)
    (hb : b.start = t0) (hdur : t0 + 2 ≤ t1) :
    ∃ W, (watchStep cfg s b ri o).pend = s.pend ++ W ∧ ∀ e ∈ W,
      (b.endT = t1 → s.winited = true → e.time = t1 - 1 ∧ t0 ≤ e.time ∧ e.time < t1) ∧
      (b.endT = 0 → s.winited = false → e.time = t0 + 1 ∧ t0 < e.time ∧ e.time < t1) ∧
      (b.endT = 0 → s.winited = true → e.time + 1 = t0 ∨ t0 = 0) := by
  obtain ⟨_, W, hW, hWe⟩ := watchStep_spec cfg s b ri o
  refine ⟨W, hW, ?_⟩
  intro e he
  have ht := (hWe e he).1
  refine ⟨?_, ?_, ?_⟩
  · intro h1 h2
    have : (t1 != 0) = true := by simp; omega
    simp [watchTime, hookTime, h1, h2, this] at ht
    omega
  · intro h1 h2
    simp [watchTime, hookTime, h1, h2, hb] at ht
    omega
  · intro h1 h2
    simp [watchTime, hookTime, h1, h2, hb] at ht
    omega

/-- the hypothesis is needed: a 1 ns call whose entry hook makes the thread's first observation gets
    its watch event stamped with the exit time, so it is written after the EXIT record -/
example : watchTime { addr := 1, start := 1000, depth := 0 } false = 1001 := by decide

/-! ### the whole stream with watchpoints

`specWCalls` threads the watch state (first observation made?, last cpu, the thread's copies of the
variables, the global items) through the history in hook order and lists, per call:
  the entry hook's watch events, ENTRY, the read events        (first observation: ENTRY, reads, events)
  the callees
  the exit hook's watch events, the diff events, EXIT.
The hooks write lazily (ENTRY records and pending watch events wait for the next record that is
written); the theorem says the stream nevertheless comes out in exactly this order, provided
consecutive hooks are at least 2 ns apart (`spaced`, the duration the -1 / +2 rule needs) and no
pending-event overflow happens (`roomCalls`: at every hook MAX_EVENT leaves room for one event per
watch source). -/

/-- `c17_emit_exact_watch`: any call forest, any watchpoints (cpu, variables), read triggers,
    arguments, both hook flavours, from a fresh thread. -/
theorem c17_emit_exact_watch (cfg : ECfg) (hp : PlainW cfg) (k : Kind) (cs : ECalls) (vars : List Nat)
    (glob : List (Option Nat)) (tl : Nat)
    (hm : cs.height ≤ cfg.base.maxStack) (hd : cs.height ≤ cfg.base.depthOpt) (hsp : cs.spaced tl)
    (hroom : roomCalls cfg k (ESt.init cfg vars glob) cs)
    (hmin : cfg.base.minSize = 0) (hen : cfg.base.enabled0 = true) :
    (runECalls cfg k (ESt.init cfg vars glob) cs).out = (specWCalls cfg k 0 (ESt.init cfg vars glob) cs).1 ∧
    (runECalls cfg k (ESt.init cfg vars glob) cs).frames = [] ∧
    (runECalls cfg k (ESt.init cfg vars glob) cs).pend = [] := by
  have hg : GoodW (ESt.init cfg vars glob) 0 tl := by
    refine ⟨?_, ?_, ?_, ?_⟩
    · constructor <;> simp [ESt.init, hmin, hen, NoSkipE]
    · simp [ESt.init]
    · simp [ESt.init]
    · simp [ESt.init]
  obtain ⟨h1, ⟨m, h2, h3⟩, _⟩ := emitW_calls cfg hp k cs (ESt.init cfg vars glob) (ESt.init cfg vars glob) 0 tl hg
    (SameWatch.refl _) (by omega) (by omega) hsp hroom
  have h2' : (runECalls cfg k (ESt.init cfg vars glob) cs).frames = [] := by
    rw [h2]
    cases m <;> rfl
  have h3' : (runECalls cfg k (ESt.init cfg vars glob) cs).pend = [] := by
    rw [h3]
    cases m <;> rfl
  rw [h2', h3'] at h1
  exact ⟨by simpa [ESt.init, owed, flushBelowE] using h1, h2', h3'⟩

example : PlainW ({ base := { maxStack := 1024 }, watchCpu := true, varSizes := [8, 1], read := fun _ => 2 } : ECfg) := by
  constructor
  · constructor <;> simp [ASYNC_IDX, Gen.EventTab.ASYNC_IDX]
  · rfl

example : (ECalls.cons (.node 1 10 50 {} {} (.cons (.node 2 20 40 {} {} .nil) .nil)) .nil).spaced 0 := by
  simp [ECalls.spaced, ECall.spaced, ECalls.last, ECall.lastT, u64]

example : roomCalls ({ watchCpu := true } : ECfg) .pg (ESt.init { watchCpu := true } [] [])
    (.cons (.node 1 10 50 {} {} (.cons (.node 2 20 40 {} {} .nil) .nil)) .nil) := by
  simp only [roomCalls, roomCall]
  decide

/-- `c17_watch_stream_iff_change` (`-W cpu`): the watch events the stream shows for a hook are
    `wEvents` in the watch state reached so far; for `-W cpu` that is one event carrying the cpu
    if this is the thread's first observation or the cpu differs from the one observed at the
    previous hook (`wNext … .wcpu` is always the cpu just observed), and nothing otherwise. -/
theorem c17_watch_stream_iff_change (cfg : ECfg) (hc : cfg.watchCpu = true) (hv : cfg.varSizes = []) (w : ESt)
    (b : Frame) (ri : Nat) (o : Obs) :
    wEvents cfg w b ri o =
      (if w.winited = false ∨ w.wcpu ≠ some o.cpu then [cpuEv (watchTime b w.winited) (watchTag cfg ri) o.cpu] else []) ∧
    (wNext cfg w b ri o).wcpu = some o.cpu ∧ (wNext cfg w b ri o).winited = true := by
  have hw : cfg.watch = true := by simp [ECfg.watch, hc]
  have h4 : (0 : Nat) < MAX_EVENT := by decide
  unfold wEvents wNext watchStep saveWatch
  simp only [hw, hc, hv, ↓reduceIte, saveWatchVars]
  refine ⟨?_, rfl, rfl⟩
  rw [saveWatchCpu_pend]
  simp only [List.length_nil, h4, and_true, Bool.not_eq_true', List.nil_append, watchTime, watchTag]

/-- `c17_events_keep_nesting` with watchpoints: taking the events out of the stream leaves exactly the
    eager ENTRY/EXIT trace of the history. -/
theorem c17_events_keep_nesting_watch (cfg : ECfg) (hp : PlainW cfg) (k : Kind) (cs : ECalls) (vars : List Nat)
    (glob : List (Option Nat)) (tl : Nat)
    (hm : cs.height ≤ cfg.base.maxStack) (hd : cs.height ≤ cfg.base.depthOpt) (hsp : cs.spaced tl)
    (hroom : roomCalls cfg k (ESt.init cfg vars glob) cs)
    (hmin : cfg.base.minSize = 0) (hen : cfg.base.enabled0 = true) :
    (runECalls cfg k (ESt.init cfg vars glob) cs).out.filterMap recOf = evCalls 0 cs.erase := by
  rw [(c17_emit_exact_watch cfg hp k cs vars glob tl hm hd hsp hroom hmin hen).1, recsW_specCalls]

/-- `c17_event_times_inside_stream`: in the specified (= written, `c17_emit_exact_watch`) stream, a call
    [t0, t1] appears as  B ++ [ENTRY] ++ I ++ [EXIT]  where every element of I — its own read, diff and
    watch events and all records of its callees — carries a time stamp in [t0, t1], and B, the watch
    events saved by its entry hook (empty for the thread's first observation), carry t0 - 1: they lie
    in the caller's interval.  Hypothesis: hooks at least 2 ns apart. -/
theorem c17_event_times_inside_stream (cfg : ECfg) (k : Kind) (d : Nat) (w : ESt) (f t0 t1 : Nat) (oE oX : Obs)
    (kids : ECalls) (tl : Nat) (hsp : (ECall.node f t0 t1 oE oX kids).spaced tl) :
    (specWCall cfg k d w (.node f t0 t1 oE oX kids)).1 =
      beforeOf cfg k d w (.node f t0 t1 oE oX kids) ++
        [.record { time := t0, type := 0, depth := d, addr := f } (argPayload cfg k f)] ++
        innerOf cfg k d w (.node f t0 t1 oE oX kids) ++
        [.record { time := t1, type := 1, depth := d, addr := f } (retPayloadOf cfg k f)] ∧
    (∀ x ∈ innerOf cfg k d w (.node f t0 t1 oE oX kids), t0 ≤ x.time ∧ x.time ≤ t1) ∧
    (∀ x ∈ beforeOf cfg k d w (.node f t0 t1 oE oX kids), x.time + 1 = t0 ∧ tl < x.time) := by
  obtain ⟨h1, h2⟩ := inner_times cfg k d w f t0 t1 oE oX kids tl hsp
  refine ⟨specWCall_shape cfg k d w f t0 t1 oE oX kids, h1, ?_⟩
  intro x hx
  have := h2 x hx
  simp only [ECall.spaced] at hsp
  omega

/-! ## Part 3: calls dropped by the time filter -/

/-- `c17_dropped_with_call`: a call that the time filter drops (it and all its callees last at most the
    threshold) contributes nothing: no ENTRY/EXIT, no read/diff event (they live in the frame and go with
    it) and — with the repaired tag rule `fixIdx` — no watch event: the stream, the pending events and the
    open frames after the call are exactly those before it.  Any watchpoints, read triggers, -A and -R,
    any nesting inside recorded callers (`GoodT`: the state between hooks at depth `d`). -/
theorem c17_dropped_with_call (cfg : ECfg) (hp : PlainT cfg) (hfix : cfg.fixIdx = true) (k : Kind)
    (c : ECall) (s : ESt) (d : Nat) (hg : GoodT s d)
    (hm : d + c.height ≤ cfg.base.maxStack) (hd : d + c.height ≤ cfg.base.depthOpt)
    (hs : c.short cfg.base cfg.base.threshold) :
    (runECall cfg k s c).out = s.out ∧ (runECall cfg k s c).pend = s.pend ∧
    (runECall cfg k s c).frames = s.frames := by
  obtain ⟨h1, h2, h3, _⟩ := dropped_call cfg hp hfix k c s d hg hm hd hs
  exact ⟨h1, h2, h3⟩

example : PlainT ({ base := { threshold := 50, maxStack := 1024 }, watchCpu := true, varSizes := [8] } : ECfg) := by
  constructor <;> simp [ASYNC_IDX, Gen.EventTab.ASYNC_IDX]

example : GoodT (ESt.init ({ base := { threshold := 50 }, watchCpu := true } : ECfg) [] []) 0 := by
  constructor <;> simp [ESt.init, NoSkipE, noMaxDepth, noTime]


/-! ### … on filtered stacks

With filters the return stack also holds frames that are not recorded (outside the -F region, the -N function,
beyond -D: MCOUNT_FL_NORECORD; -finstrument-functions pushes a frame for every call, -pg for a call whose
trigger changes the filter state), so a frame's rstack index — what save_watchpoint tags its events with
and mcount_exit_filter_record compares with `mtdp->idx` — is no longer its record depth.  The model keeps
the two apart (`rest.length` vs `Frame.depth` / `recordIdx`); the theorems below do not mention the record
depth at all. -/

/-- `c17_dropped_with_call`, filtered stacks, one exit hook: `top` is a recorded frame whose call the time
    filter drops; the frames below it (`rest`) are *any* frames — recorded or not, in any order — and `top`'s
    record depth is whatever the filters made it.  Of the pending events `p0 ++ W0`, `p0` were saved by
    hooks of frames below `top` (tags ≤ `rest.length`), `W0` by `top`'s own hooks.  The hook writes nothing,
    pops `top` and keeps exactly `p0`: a pending watch event of a recorded caller survives the drop of a
    short callee whatever unrecorded frames are on the stack, and the callee's own events go with it. -/
theorem c17_dropped_keeps_callers_events (cfg : ECfg) (hfix : cfg.fixIdx = true) (s2 : ESt) (top : EFrame)
    (rest : List EFrame) (t1 : Nat) (o : Obs) (p0 W0 : List Ev)
    (hfr : s2.frames = top :: rest) (hover : s2.over = 0) (hnr : top.b.norecord = false) (hen : s2.enabled = true)
    (hshort : durOk cfg.base (subU64 t1 top.b.start) (effThreshold cfg s2) = false)
    (hw : top.b.written = false) (htr : top.b.trace = false)
    (hpend : s2.pend = p0 ++ W0) (h0 : ∀ e ∈ p0, e.idx < rest.length + 1) (hW0 : ∀ e ∈ W0, e.idx = rest.length + 1)
    (hmax : rest.length + 1 < ASYNC_IDX) :
    (exitE cfg s2 t1 o).pend = p0 ∧ (exitE cfg s2 t1 o).out = s2.out ∧ (exitE cfg s2 t1 o).frames = rest := by
  obtain ⟨h1, h2, h3, _⟩ := exitE_drop_filtered cfg hfix s2 top rest t1 o p0 W0 hfr hover hnr hen hshort hw htr hpend
    h0 hW0 hmax
  exact ⟨h1, h2, h3⟩

/-- `c17_dropped_with_call` for filtered stacks, whole calls: for every option set with -F / -N / -D / -L / -Z
    style filters on any functions (`FiltT`: any `filter`, `depth`, `loc`, `size` actions; no `time=` / `trace` /
    `finish` / `trace_on` / `trace_off`), both hook flavours, any watchpoints, read triggers, -A and -R: a call
    that the time filter drops — it and everything it calls is short, whether those callees are recorded,
    rejected without a frame or kept as unrecorded frames — executed in *any* state between hooks (`InvF`:
    any mix of recorded and unrecorded frames on the stack, any filter counters, any record depth, pending
    watch events of the open frames) leaves the stream, the pending events and the stack exactly as they
    were.  In particular every pending event of a recorded caller is still pending afterwards (it is
    written with the caller's records, `c17_emit_exact_watch`), and no event of the dropped call is. -/
theorem c17_dropped_with_call_filtered (cfg : ECfg) (hp : FiltT cfg) (hfix : cfg.fixIdx = true) (k : Kind)
    (c : ECall) (s : ESt) (hg : InvF s) (hm : s.frames.length + c.height ≤ cfg.base.maxStack)
    (hs : c.short cfg.base cfg.base.threshold) :
    (runECall cfg k s c).out = s.out ∧ (runECall cfg k s c).pend = s.pend ∧
    (runECall cfg k s c).frames = s.frames := by
  obtain ⟨h1, h2, h3, _⟩ := droppedF_call cfg hp hfix k c s hg hm hs
  exact ⟨h1, h2, h3⟩

/-- `-F f2 -t 50 -W cpu` -/
def cfgFilt : ECfg :=
  { base := { threshold := 50, maxStack := 1024, optIn := true,
              trig := fun f => if f = 2 then { filter := some true } else {} },
    watchCpu := true }

example : FiltT cfgFilt := by
  constructor <;> intros <;> simp only [cfgFilt] <;> (try split) <;> simp [ASYNC_IDX, Gen.EventTab.ASYNC_IDX]

/-- an unrecorded frame (f1, outside -F) below a recorded one (f2, record depth 0, rstack index 1) whose entry
    hook's watch event (tag 2) is pending -/
def stFilt : ESt :=
  { frames := [{ b := { addr := 2, start := 1010, depth := 0, cyg := true, filtered := true, sTime := noTime } },
               { b := { addr := 1, start := 0, depth := 0, cyg := true, norecord := true, sTime := noTime } }],
    recordIdx := 1, filt := { inCount := 1, depth := 1 }, pend := [cpuEv 1011 2 3], winited := true, wcpu := some 3 }

example : InvF stFilt := by
  constructor <;> simp [stFilt, noTime, cpuEv]

/-- … except asynchronous events, which force the flush (as coded): if an asynchronous event is pending
    when the exit hook has saved its watch events, record_trace_data runs although the time filter
    rejects the call, and the call's EXIT record is written. -/
theorem c17_dropped_async_flush (cfg : ECfg) (sB : ESt) (f f1 : EFrame) (rest : List EFrame) (tf : Nat)
    (retv : Bool) (o : Obs)
    (hshort : durOk cfg.base (subU64 f.b.endT f.b.start) tf = false) (hw : f.b.written = false) (htr : f.b.trace = false)
    (hasync : hasAsync (watchStep cfg sB f1.b rest.length o).pend = true) (hend : f1.b.endT ≠ 0) :
    ∃ pre, (exitFinish cfg sB f f1 rest tf retv o).out =
      sB.out ++ pre ++ [.record (exitRec f1.b) (retPayload cfg retv f1)] := by
  have hs := (watchStep_spec cfg sB f1.b rest.length o).1
  have hc : ((durOk cfg.base (subU64 f.b.endT f.b.start) tf && (!cfg.base.callerMode || f.b.caller)) || f.b.written || f.b.trace) = false := by
    simp [hshort, hw, htr]
  have hne : (watchStep cfg sB f1.b rest.length o).pend.isEmpty = false := by
    cases hp : (watchStep cfg sB f1.b rest.length o).pend with
    | nil => rw [hp] at hasync; simp [hasAsync] at hasync
    | cons a r => rfl
  have he : (f1.b.endT != 0) = true := by simp [hend]
  have hlast : ∃ pre, (recordTraceE cfg retv (f1 :: rest) (watchStep cfg sB f1.b rest.length o).pend).2.2 =
      pre ++ [.record (exitRec f1.b) (retPayload cfg retv f1)] := by
    apply List.getLast?_eq_some_iff.mp
    simp [recordTraceE, he, recExit]
  obtain ⟨pre, hpre⟩ := hlast
  unfold exitFinish
  simp only [hc, Bool.false_eq_true, ↓reduceIte, hne, Bool.not_false, hasync, ESt.recorded, hs.out, hpre]
  exact ⟨pre, by simp⟩


/-! ## Part 4: the as-coded variants of the unchanged tree violate the property (witnesses)

Each witness is a concrete history on which the model with one repair switched off (the variant the
correspondence check finds the unchanged implementation to follow) breaks the statement above it,
next to the repaired variant which keeps it. -/

/-- the event records of a stream as (id, time, data) -/
def evsOf (out : List Out) : List (Nat × Nat × List Nat) :=
  out.filterMap fun | .event e => some (e.id, e.time, e.data) | .record _ _ => none

def obsRU (maj min : Nat) : Obs := { reads := fun b => if b = 2 then some [maj, min] else none }

/-- `f1@read=page-fault` together with `-A f1@arg1` (8 bytes) -/
def cfgArg (fix : Bool) : ECfg :=
  { read := fun f => if f = 1 then 2 else 0, argSize := fun f => if f = 1 then some 8 else none, fixArg := fix }

/-- F17c: with an argument on the same function the exit hook reads the low word of the entry event's
    time stamp (1010) as "argument size": the diff event is lost (as coded); the repaired code writes
    read (5, 100) after ENTRY and diff (3, 50) before EXIT. -/
theorem c17_prefix_diff_lost_witness :
    evsOf (runECall (cfgArg false) .pg (ESt.init (cfgArg false) [] []) (.node 1 1010 1030 (obsRU 5 100) (obsRU 8 150) .nil)).out =
      [(100002, 1010, [5, 100])] ∧
    evsOf (runECall (cfgArg true) .pg (ESt.init (cfgArg true) [] []) (.node 1 1010 1030 (obsRU 5 100) (obsRU 8 150) .nil)).out =
      [(100002, 1010, [5, 100]), (100004, 1030, [3, 50])] := by
  decide

/-- `-W var:v` (8 bytes) -/
def cfgVar (fix : Bool) : ECfg := { varSizes := [8], fixVar := fix }
def obsV (v : Nat) : Obs := { vars := [v] }

/-- F17b: the variable goes 0 -> 1 -> 0 -> 1 -> 2 over five hooks of one thread.  As coded only 1 and 2 are
    reported (the thread's copy still holds the start value 0, the global item the last reported 1);
    repaired, every change is. -/
theorem c17_prefix_var_change_lost_witness :
    evsOf (runECalls (cfgVar false) .pg (ESt.init (cfgVar false) [0] [none])
      (.cons (.node 1 1000 1070 (obsV 0) (obsV 2)
        (.cons (.node 2 1010 1020 (obsV 1) (obsV 1) .nil) (.cons (.node 2 1030 1040 (obsV 0) (obsV 0) .nil)
          (.cons (.node 2 1050 1060 (obsV 1) (obsV 1) .nil) .nil)))) .nil)).out =
      [(100012, 1009, [0, 1]), (100012, 1069, [0, 2])] ∧
    evsOf (runECalls (cfgVar true) .pg (ESt.init (cfgVar true) [0] [none])
      (.cons (.node 1 1000 1070 (obsV 0) (obsV 2)
        (.cons (.node 2 1010 1020 (obsV 1) (obsV 1) .nil) (.cons (.node 2 1030 1040 (obsV 0) (obsV 0) .nil)
          (.cons (.node 2 1050 1060 (obsV 1) (obsV 1) .nil) .nil)))) .nil)).out =
      [(100012, 1009, [0, 1]), (100012, 1029, [0, 0]), (100012, 1049, [0, 1]), (100012, 1069, [0, 2])] := by
  decide

/-- `-W cpu -t 50` -/
def cfgDrop (fix : Bool) : ECfg := { base := { threshold := 50 }, watchCpu := true, fixIdx := fix }
def obsC (c : Nat) : Obs := { cpu := c }

/-- F17d: f2 [1200, 1210] is dropped by -t 50; its entry hook saw the cpu change 3 -> 4.  As coded the
    watch event (time 1199) stays pending and is written before the next recorded call; repaired, it is
    dropped with the call (`c17_dropped_with_call`). -/
theorem c17_prefix_watch_survives_witness :
    evsOf (runECalls (cfgDrop false) .pg (ESt.init (cfgDrop false) [] [])
      (.cons (.node 1 1000 1100 (obsC 3) (obsC 3) .nil) (.cons (.node 2 1200 1210 (obsC 4) (obsC 4) .nil)
        (.cons (.node 3 1300 1400 (obsC 4) (obsC 4) .nil) .nil)))).out =
      [(100011, 1001, [3]), (100011, 1199, [4])] ∧
    evsOf (runECalls (cfgDrop true) .pg (ESt.init (cfgDrop true) [] [])
      (.cons (.node 1 1000 1100 (obsC 3) (obsC 3) .nil) (.cons (.node 2 1200 1210 (obsC 4) (obsC 4) .nil)
        (.cons (.node 3 1300 1400 (obsC 4) (obsC 4) .nil) .nil)))).out =
      [(100011, 1001, [3])] := by
  decide

/-! ### F17e (repaired, `fixPair`): read events and diff events come in pairs -/

/-- For every call of a function with a `read=` trigger, whatever the argument payload, the sources and
    the readings: the entry hook stores exactly the specified READ events — one per selected source whose
    reading succeeds, in table order — if the frame's slice has room for them *and* for their DIFF events
    above the argument data, and nothing otherwise; the exit hook puts exactly the specified DIFF events on
    top.  Hence every DIFF event has the READ event of its source below it, and every READ event whose
    source can be read again at exit gets its DIFF event: no unpaired event in either direction. -/
theorem c17_read_diff_paired (cfg : ECfg) (hfa : cfg.fixArg = true) (hfp : cfg.fixPair = true) (k : Kind)
    (f t0 t1 d : Nat) (oE oX : Obs) (ht1 : t1 ≠ 0) :
    (entryFrame cfg k f t0 d oE).evs =
      (if ReadRoom cfg k f then (specReads t0 (d + 1) oE (cfg.read f) readEvents).reverse else []) ∧
    (exitFrame cfg (entryFrame cfg k f t0 d oE) t1 d oX).evs =
      (specDiffs t1 (d + 1) oX (cfg.read f) (entryFrame cfg k f t0 d oE).evs readEvents).reverse ++
        (entryFrame cfg k f t0 d oE).evs ∧
    (∀ e ∈ specDiffs t1 (d + 1) oX (cfg.read f) (entryFrame cfg k f t0 d oE).evs readEvents,
      ∃ s ∈ readEvents, e.id = s.idDiff ∧ ∃ old ∈ (entryFrame cfg k f t0 d oE).evs, old.id = s.idRead) ∧
    (∀ s ∈ readEvents, (cfg.read f &&& s.bit == 0) = false → ∀ old ∈ (entryFrame cfg k f t0 d oE).evs,
      old.id = s.idRead → ∀ v, oX.reads s.bit = some v →
        ∃ e ∈ (exitFrame cfg (entryFrame cfg k f t0 d oE) t1 d oX).evs, e.id = s.idDiff) := by
  refine ⟨(entryFrame_exact cfg hfa hfp k f t0 d oE).1, exitFrame_exact cfg hfa hfp k f t0 t1 d oE oX ht1, ?_, ?_⟩
  · intro e he
    obtain ⟨s, hs, _, old, hold, v, _, rfl⟩ := (mem_specDiffs _ _ _ _ _ _ _).mp he
    refine ⟨s, hs, rfl, old, List.mem_of_find?_eq_some hold, ?_⟩
    simpa using List.find?_some hold
  · intro s hs hsel old hold hid v hv
    rw [exitFrame_exact cfg hfa hfp k f t0 t1 d oE oX ht1]
    have hfind : ((entryFrame cfg k f t0 d oE).evs.find? (fun x => x.id == s.idRead)).isSome := by
      rw [List.find?_isSome]; exact ⟨old, hold, by simpa using hid⟩
    obtain ⟨old', hold'⟩ := Option.isSome_iff_exists.mp hfind
    refine ⟨diffEvOf t1 (d + 1) s v old', ?_, rfl⟩
    rw [List.mem_append, List.mem_reverse]
    exact Or.inl ((mem_specDiffs _ _ _ _ _ _ _).mpr ⟨s, hs, hsel, old', hold', v, hv, rfl⟩)

/-- `f1@read=page-fault` together with `-A f1@arg1/t960` (a 960-byte struct): 4 + 960 bytes of argument
    data leave 60 bytes of the 1024-byte slice — room for one 32-byte event, not for two -/
def cfgPair (fix : Bool) : ECfg :=
  { read := fun f => if f = 1 then 2 else 0, argSize := fun f => if f = 1 then some 960 else none, fixPair := fix }

/-- F17e: as coded the READ event is stored at entry and the DIFF event silently dropped at exit (an
    unpaired `read:page-fault` in the trace); repaired, neither is stored. -/
theorem c17_prefix_unpaired_read_witness :
    evsOf (runECall (cfgPair false) .pg (ESt.init (cfgPair false) [] []) (.node 1 1010 1030 (obsRU 5 100) (obsRU 8 150) .nil)).out =
      [(100002, 1010, [5, 100])] ∧
    evsOf (runECall (cfgPair true) .pg (ESt.init (cfgPair true) [] []) (.node 1 1010 1030 (obsRU 5 100) (obsRU 8 150) .nil)).out =
      [] := by
  decide

/-- the history of the demonstration, on the model: main (f1, not selected by -F f2) calls f2, f2's entry hook
    makes the thread's first observation (cpu 3), f2 calls the short f3 (5 ns, dropped by -t 50) and returns
    after 90 ns: the watch event is written inside f2.  (Were the events kept by record depth — `idx ≤ depth`
    of the frame that goes away — f3's exit hook would discard it: f3 has rstack index 2 and record depth 1.) -/
example :
    evsOf (runECalls cfgFilt .cyg (ESt.init cfgFilt [] [])
      (.cons (.node 1 1000 1110 (obsC 3) (obsC 3)
        (.cons (.node 2 1010 1100 (obsC 3) (obsC 3) (.cons (.node 3 1020 1025 (obsC 3) (obsC 3) .nil) .nil)) .nil)) .nil)).out =
      [(100011, 1011, [3])] := by
  decide

/-- non-vacuity of `c17_read_diff_paired`: with a 900-byte payload there is room and the pair is written -/
example : ReadRoom (cfgPair true |> fun c => { c with argSize := fun f => if f = 1 then some 900 else none }) .pg 1 := by decide

end Uft.C17

import Uft.Lemmas.Pattern
import Uft.Lemmas.Patch
/-
C14 — Dynamic patching instruments exactly the selected functions, safely.
Property theorems only (helpers: Lemmas/Pattern.lean, Lemmas/Patch.lean).

Vocabulary: `c : Code` is a module's memory from map->start; `a` = sym->addr;
`prologueOff c a` = the patch site (after an optional endbr64); `start + o` its
address; `tramp` = mdi->trampoline; a symbol's *window* is [addr, addr+10) (an
optional endbr64 plus the 5-byte `call rel32` / NOP or the 6-byte `call *GOT(%rip)`).
-/
namespace Uft.Patch
open Uft.Pattern Uft.Gen.PatchTables

/-! ## which functions are selected -/

/-- Last match wins: the verdict of `match_pattern_list` for a symbol is the
    polarity of the last item of the list that applies to it (module is a prefix
    of the library name / soname and the pattern matches); no item ⇒ 0. -/
theorem c14_last_match_wins (M : Nat → String → Bool) (ps : List Patt) (lib : String)
    (so : Option String) (s : String) :
    decidePatch M ps lib so s = ((ps.filter (applies M lib so s)).getLast?).map (·.positive) := by
  unfold decidePatch
  rw [decide_foldl]
  cases (ps.filter (applies M lib so s)).getLast? <;> rfl

/-- Order matters exactly this way: a later -P or -U item that applies overrides
    everything before it, one that does not apply changes nothing. -/
theorem c14_later_item_overrides (M : Nat → String → Bool) (ps : List Patt) (p : Patt)
    (lib : String) (so : Option String) (s : String) :
    decidePatch M (ps ++ [p]) lib so s =
      if applies M lib so s p then some p.positive else decidePatch M ps lib so s := by
  simp [decidePatch, List.foldl_append]

/-- Items given for another module (`pattern@module` whose module is not a prefix
    of this library's basename or soname) never influence the verdict. -/
theorem c14_other_module_ignored (M : Nat → String → Bool) (ps : List Patt) (lib : String)
    (so : Option String) (s : String) :
    decidePatch M ps lib so s =
      decidePatch M (ps.filter fun p => moduleMatches p lib so) lib so s := by
  rw [c14_last_match_wins, c14_last_match_wins, List.filter_filter]
  congr 2
  apply List.filter_congr
  intro p _
  simp only [applies]
  cases moduleMatches p lib so <;> simp

/-- `-U f` reaches the list as `!f`: an item is negative iff it starts with '!'. -/
theorem c14_parse_polarity (defMod : String) (i : Nat) (item : String) :
    (parseItem defMod i item).positive = !(item.toList.head? == some '!') := by
  unfold parseItem
  cases h : item.toList with
  | nil => simp
  | cons c r =>
    by_cases hc : c = '!'
    · subst hc; simp
    · simp only [List.head?_cons]
      split
      · rename_i heq; simp only [List.cons.injEq] at heq; exact absurd heq.1 hc
      · simp [hc]

/-! ## what a patch does to the bytes -/

/-- Functions that cannot be patched are left byte-for-byte untouched: if the
    bytes at the site are none of the four NOP patterns, the image is returned
    unchanged (for every module type, size and trampoline). -/
theorem c14_unpatchable_untouched (ty : DynType) (ms ss : Nat) (c : Code) (start a tramp : Nat)
    (h : isNopPrologue c (prologueOff c a) = false) :
    (patchFunc ty ms ss c start a tramp).1 = c ∧
    (patchFunc ty ms ss c start a tramp).2 ≠ .success := by
  rcases patchFunc_cases ty ms ss c start a tramp with ⟨h1, h2, _⟩ | ⟨_, _, _, h4, _⟩
  · exact ⟨h1, h2⟩
  · rw [h] at h4
    cases h4

example : ∃ c a, isNopPrologue c (prologueOff c a) = false := ⟨[0x55, 0x48, 0x89, 0xe5, 0xc3], 0, by decide⟩

/-- The size filter: a function smaller than max(-Z, CALL_INSN_SIZE+1) is never
    touched. -/
theorem c14_size_filter (ty : DynType) (ms ss : Nat) (c : Code) (start a tramp : Nat)
    (h : ss < max ms 6) :
    patchFunc ty ms ss c start a tramp = (c, .skipped) := by
  unfold patchFunc
  rw [effMinSize_eq]
  simp [h]

example : (5 : Nat) < max 0 6 := by decide

/-- A patch is local: the image keeps its length; every byte outside the five
    bytes at the site is unchanged; unless the result is SUCCESS nothing at all
    changes; on SUCCESS the five bytes are `e8 rel32` with
    rel32 = (uint32)(trampoline - (site + 5)). -/
theorem c14_patch_is_local (ty : DynType) (ms ss : Nat) (c : Code) (start a tramp : Nat) :
    (patchFunc ty ms ss c start a tramp).1.length = c.length ∧
    (∀ i, i < prologueOff c a ∨ prologueOff c a + 5 ≤ i →
      (patchFunc ty ms ss c start a tramp).1[i]? = c[i]?) ∧
    ((patchFunc ty ms ss c start a tramp).2 ≠ .success → (patchFunc ty ms ss c start a tramp).1 = c) ∧
    ((patchFunc ty ms ss c start a tramp).2 = .success → prologueOff c a + 5 ≤ c.length →
      ∀ k, k < 5 → (patchFunc ty ms ss c start a tramp).1[prologueOff c a + k]? =
        (0xe8 :: le32 (targetAddr tramp (start + prologueOff c a)))[k]?) := by
  refine ⟨length_patchFunc _ _ _ _ _ _ _, patchFunc_frame _ _ _ _ _ _ _, ?_, ?_⟩
  · intro hns
    rw [patchFunc_fst, if_neg hns]
  · intro hs hin k hk
    rw [patchFunc_fst, if_pos hs]
    exact getElem?_writeAt_inside _ _ _ k hk hin

example : (patchFunc .patchable 0 16 [0x90, 0x90, 0x90, 0x90, 0x90, 0xc3] 0x1000 0 0x1ff0).2 = .success := by
  decide +kernel

/-- The displacement written is exact: its four bytes decode to
    `targetAddr`, and whenever the trampoline is within ±2 GiB of the end of the
    call instruction (it is: it sits at the end of the module's own text
    segment) the call lands exactly on the trampoline. -/
theorem c14_call_reaches_trampoline (tramp site : Nat) (ht : tramp < 2 ^ 64) (hs : site + 5 < 2 ^ 64)
    (hlo : (site : Int) + 5 - 2 ^ 31 ≤ tramp) (hhi : (tramp : Int) < site + 5 + 2 ^ 31) :
    dec32 (le32 (targetAddr tramp site)) = targetAddr tramp site ∧
    callDest site (targetAddr tramp site) = tramp :=
  ⟨dec32_le32 _ (targetAddr_lt _ _), by
    unfold callDest
    rcases targetAddr_near ht hs (by omega) (by omega) with ⟨h1, h2⟩ | ⟨h1, h2⟩
    · rw [if_pos h1]
      omega
    · rw [if_neg (Nat.not_lt.2 h1)]
      omega⟩

example : callDest 0x1000 (targetAddr 0x1ff0 0x1000) = 0x1ff0 := by decide
example : callDest 0x2000 (targetAddr 0x1ff0 0x2000) = 0x1ff0 := by decide

/-- What gcc emits for `-fpatchable-function-entry=5` (five 0x90) and for
    `-pg -mfentry -mnop-mcount` (0f 1f 44 00 00), each optionally after endbr64
    (`-fcf-protection`), is recognised: such a function of sufficient size is
    patched.  (Stated on literal bytes, so a changed table breaks it.) -/
theorem c14_compiler_prologues_recognized (ms ss : Nat) (rest : List UInt8) (start tramp : Nat)
    (hsz : max ms 6 ≤ ss) (ty : DynType) (hty : ty = .fentryNop ∨ ty = .patchable) :
    (targetAddr tramp (start + 0) ≠ 0 →
      (patchFunc ty ms ss ([0x90, 0x90, 0x90, 0x90, 0x90] ++ rest) start 0 tramp).2 = .success ∧
      (patchFunc ty ms ss ([0x0f, 0x1f, 0x44, 0x00, 0x00] ++ rest) start 0 tramp).2 = .success) ∧
    (targetAddr tramp (start + 4) ≠ 0 →
      (patchFunc ty ms ss ([0xf3, 0x0f, 0x1e, 0xfa, 0x90, 0x90, 0x90, 0x90, 0x90] ++ rest) start 0 tramp).2 = .success ∧
      (patchFunc ty ms ss ([0xf3, 0x0f, 0x1e, 0xfa, 0x0f, 0x1f, 0x44, 0x00, 0x00] ++ rest) start 0 tramp).2 = .success) := by
  have tab : ∀ (c : Code) (o : Nat), prologueOff c 0 = o →
      (matchAt c o patchable_gcc_nop = true ∨ matchAt c o fentry_nop_patt2 = true) →
      targetAddr tramp (start + o) ≠ 0 → (patchFunc ty ms ss c start 0 tramp).2 = .success := by
    intro c o ho hm ht
    rw [patchFunc_success_iff, ho]
    refine ⟨hsz, hty, ?_, ht⟩
    unfold isNopPrologue
    rcases hm with h | h <;> simp [h]
  have plain : ∀ (b : UInt8) (bs : List UInt8), b ≠ 0xf3 → prologueOff (b :: bs) 0 = 0 := fun b bs hb =>
    prologueOff_of_not_endbr _ 0 (not_endbr_of_first (b :: bs) 0 hb)
  have endbr : ∀ x : List UInt8, prologueOff (endbr64 ++ x) 0 = 4 := fun x =>
    prologueOff_of_endbr _ 0 (matchAt_append [] endbr64 x)
  constructor
  · intro ht
    exact ⟨tab _ 0 (plain _ _ (by decide)) (Or.inl (matchAt_append [] patchable_gcc_nop rest)) ht,
      tab _ 0 (plain _ _ (by decide)) (Or.inr (matchAt_append [] fentry_nop_patt2 rest)) ht⟩
  · intro ht
    exact ⟨tab _ 4 (endbr (patchable_gcc_nop ++ rest)) (Or.inl (matchAt_append endbr64 patchable_gcc_nop rest)) ht,
      tab _ 4 (endbr (fentry_nop_patt2 ++ rest)) (Or.inr (matchAt_append endbr64 fentry_nop_patt2 rest)) ht⟩

/-! ## unpatch (-U)

`unpatchFuncG cfg c a loc` = mcount_unpatch_func for the symbol at `a` (`loc` = its
`__mcount_loc` entry for DYNAMIC_PG).  `cfg.fixed` / `cfg.skipEndbr` = false is the
code as it is, true the repaired code (findings C14-UNPATCH-ANY-CALL, C14-UNPATCH-ENDBR;
witnesses below).  `unpatchSite cfg c a` = where unpatch_fentry_func looks. -/

/-- What "the instruction at offset `o` is a call that enters the tracer" means
    (`entersTracer`, the test of the repaired unpatch_func), spelled out:
    * `e8 rel32` whose target is this module's trampoline (a NOP patched earlier), or
      lies in a PLT entry of the module named `__fentry__`, `mcount` or `_mcount`; or
    * `ff 15 disp32` whose GOT slot lies inside the module's mapping, entirely outside
      its code segment, and holds the address of `__fentry__` / `mcount`. -/
theorem c14_tracer_call_meaning (cfg : Cfg) (c : Code) (o : Nat) :
    entersTracer cfg c o ↔
      ((rd c o = 0xe8 ∧
          ((cfg.tramp ≠ 0 ∧ callTarget cfg c o = cfg.tramp) ∨
           ∃ s, findSym cfg.symtab ((callTarget cfg c o + 2 ^ 64 - cfg.start % 2 ^ 64) % 2 ^ 64) = some s ∧
             s.isPlt = true ∧ s.name ∈ entryNames)) ∨
       (rd c o = 0xff ∧ rd c (o + 1) = 0x15 ∧
          cfg.start ≤ gotSlot cfg c o ∧ gotSlot cfg c o + 8 ≤ cfg.start + cfg.mapLen ∧
          (gotSlot cfg c o - cfg.start + 8 ≤ cfg.textLo ∨ cfg.textHi ≤ gotSlot cfg c o - cfg.start) ∧
          rd64 c (gotSlot cfg c o - cfg.start) ∈ cfg.entryFuncs)) := by
  unfold entersTracer
  rw [callsEntryDirect_iff, callsEntryGot_iff]

/-- An unpatch is local, for the code as it is and for the repaired code, every
    module type and every `__mcount_loc` entry: the image keeps its length; unless
    the result is SUCCESS nothing at all changes; on SUCCESS exactly one instruction
    — at the unpatch site of the symbol (DYNAMIC_FENTRY / DYNAMIC_PATCHABLE) or at
    its `__mcount_loc` entry (DYNAMIC_PG) — is replaced: an `e8 rel32` by the 5-byte
    NOP, an `ff 15 disp32` by the 6-byte NOP, and every byte outside those 5
    (resp. 6) bytes is unchanged. -/
theorem c14_unpatch_is_local (cfg : Cfg) (c : Code) (a : Nat) (loc : Option Nat) :
    (unpatchFuncG cfg c a loc).1.length = c.length ∧
    ((unpatchFuncG cfg c a loc).2 ≠ .success → (unpatchFuncG cfg c a loc).1 = c) ∧
    ((unpatchFuncG cfg c a loc).2 = .success →
      ∃ o, (((cfg.ty = .fentry ∨ cfg.ty = .patchable) ∧ o = unpatchSite cfg c a) ∨ (cfg.ty = .pg ∧ loc = some o)) ∧
        ((rd c o = 0xe8 ∧ (unpatchFuncG cfg c a loc).1 = writeAt c o unpatch_nop5 ∧
            ∀ i, i < o ∨ o + 5 ≤ i → (unpatchFuncG cfg c a loc).1[i]? = c[i]?) ∨
         (rd c o = 0xff ∧ rd c (o + 1) = 0x15 ∧ (unpatchFuncG cfg c a loc).1 = writeAt c o unpatch_nop6 ∧
            ∀ i, i < o ∨ o + 6 ≤ i → (unpatchFuncG cfg c a loc).1[i]? = c[i]?))) := by
  rcases unpatchFuncG_shape cfg c a loc with e | ⟨o, ho, e⟩ <;> rw [e]
  · exact ⟨rfl, fun _ => rfl, fun h => Res.noConfusion h⟩
  · rcases unpatchAtG_shape cfg c o with ⟨h1, e⟩ | ⟨h1, h2, e⟩ | e <;> rw [e]
    · exact ⟨length_writeAt _ _ _, fun h => absurd rfl h,
        fun _ => ⟨o, ho, Or.inl ⟨h1, rfl, fun i hi => getElem?_writeAt_outside _ _ _ _ hi⟩⟩⟩
    · exact ⟨length_writeAt _ _ _, fun h => absurd rfl h,
        fun _ => ⟨o, ho, Or.inr ⟨h1, h2, rfl, fun i hi => getElem?_writeAt_outside _ _ _ _ hi⟩⟩⟩
    · exact ⟨rfl, fun _ => rfl, fun h => Res.noConfusion h⟩

/-- non-vacuity: both SUCCESS shapes occur (a `call __fentry__@plt` and, behind an
    endbr64, a `call *__fentry__@GOTPCREL(%rip)`) -/
example :
    let cfg : Cfg := { ty := .fentry, minSize := 0, start := 0x400000, tramp := 0x400ff0, locs := [],
                       mapLen := 0x1000, textLo := 0, textHi := 0x50, entryFuncs := [0x7f0000001000, 0x7f0000002000],
                       symtab := [⟨"__fentry__", 0x10, 16, false, true⟩, ⟨"traced", 0x30, 9, true, false⟩] }
    let c : Code := List.replicate 0x30 0 ++ [0xe8, 0xdb, 0xff, 0xff, 0xff, 0x8d, 0x47, 0x07, 0xc3]
    let g : Code := List.replicate 0x30 0 ++ [0xf3, 0x0f, 0x1e, 0xfa, 0xff, 0x15, 0x26, 0x00, 0x00, 0x00, 0x8d, 0x47, 0x07, 0xc3] ++
      List.replicate 0x22 0 ++ [0x00, 0x10, 0x00, 0x00, 0x00, 0x7f, 0x00, 0x00]
    (unpatchFuncG cfg c 0x30 none).2 = .success ∧ (unpatchFuncG cfg g 0x30 none).2 = .success ∧
    unpatchSite cfg g 0x30 = 0x34 := by
  decide +kernel

/-- -U is exact on a statically instrumented function (repaired code, module types
    DYNAMIC_FENTRY and DYNAMIC_PATCHABLE): look at the function's entry after an
    optional endbr64.  If it is a call that enters the tracer, the unpatch succeeds,
    replaces exactly that call by the NOP of its length, and the entry then holds no
    call instruction any more — the function is no longer traced.  If it is anything
    else — in particular a call of the function's own — the image is returned
    unchanged. -/
theorem c14_unpatch_exact (cfg : Cfg) (hfx : cfg.fixed = true) (hse : cfg.skipEndbr = true)
    (hty : cfg.ty = .fentry ∨ cfg.ty = .patchable) (c : Code) (a : Nat) (loc : Option Nat)
    (hin : prologueOff c a + 6 ≤ c.length) :
    (entersTracer cfg c (prologueOff c a) →
      (unpatchFuncG cfg c a loc).2 = .success ∧
      ((unpatchFuncG cfg c a loc).1 = writeAt c (prologueOff c a) unpatch_nop5 ∨
       (unpatchFuncG cfg c a loc).1 = writeAt c (prologueOff c a) unpatch_nop6) ∧
      rd (unpatchFuncG cfg c a loc).1 (prologueOff c a) ≠ 0xe8 ∧
      rd (unpatchFuncG cfg c a loc).1 (prologueOff c a) ≠ 0xff) ∧
    (¬ entersTracer cfg c (prologueOff c a) → unpatchFuncG cfg c a loc = (c, .skipped)) := by
  rw [unpatchFuncG_of_fentry cfg hty, show unpatchSite cfg c a = prologueOff c a from if_pos hse]
  constructor
  · rintro (⟨h1, h2⟩ | ⟨h1, h2, h3⟩)
    · rw [unpatchAtG_of_direct cfg c _ h1 h2]
      have hb : rd (writeAt c (prologueOff c a) unpatch_nop5) (prologueOff c a) = 0x0f :=
        rd_writeAt_head c _ _ _ (Nat.le_of_succ_le hin)
      exact ⟨rfl, Or.inl rfl, by rw [hb]; decide, by rw [hb]; decide⟩
    · rw [unpatchAtG_of_got cfg c _ h1 h2 h3]
      have hb : rd (writeAt c (prologueOff c a) unpatch_nop6) (prologueOff c a) = 0x66 :=
        rd_writeAt_head c _ _ _ hin
      exact ⟨rfl, Or.inr rfl, by rw [hb]; decide, by rw [hb]; decide⟩
  · exact unpatchAtG_of_not_enters cfg hfx c _

/-- non-vacuity of both directions: the instrumented `traced` enters the tracer, the
    `wrapper` that begins with a call of its own does not -/
example :
    let cfg : Cfg := { ty := .fentry, minSize := 0, start := 0x400000, tramp := 0, locs := [],
                       mapLen := 0x1000, textLo := 0, textHi := 0x50,
                       symtab := [⟨"__fentry__", 0x10, 16, false, true⟩, ⟨"leaf", 0x20, 8, true, false⟩] }
    let c : Code := List.replicate 0x30 0 ++ [0xf3, 0x0f, 0x1e, 0xfa, 0xe8, 0xd7, 0xff, 0xff, 0xff, 0xc3]
    let w : Code := List.replicate 0x30 0 ++ [0xe8, 0xeb, 0xff, 0xff, 0xff, 0x83, 0xc0, 0x01, 0xc3, 0x90]
    entersTracer cfg c (prologueOff c 0x30) ∧ ¬ entersTracer cfg w (prologueOff w 0x30) := by
  refine ⟨Or.inl (by decide +kernel), fun h => ?_⟩
  rcases h with ⟨_, h⟩ | ⟨h, _⟩
  · revert h; decide +kernel
  · revert h; decide +kernel

/-- Patch then unpatch (DYNAMIC_PATCHABLE, any of the four NOP patterns) leaves a function
    that differs from the original at most in its five NOP bytes, which again form a
    NOP that the patcher accepts (the function stays patchable and behaves the same).
    Holds for the repaired code with endbr64 (`skipEndbr`), and for the code as it is when
    the function has no endbr64; the repaired unpatch_func recognises the call written
    by the patcher because it targets the trampoline (which is within ±2 GiB: it sits
    at the end of the module's own code segment). -/
theorem c14_unpatch_gives_nop (cfg : Cfg) (hty : cfg.ty = .patchable) (ss : Nat) (c : Code) (a : Nat)
    (loc : Option Nat)
    (hse : cfg.skipEndbr = true ∨ matchAt c a endbr64 = false)
    (hs : (patchFunc cfg.ty cfg.minSize ss c cfg.start a cfg.tramp).2 = .success)
    (hin : prologueOff c a + 5 ≤ c.length)
    (ht0 : cfg.tramp ≠ 0) (ht : cfg.tramp < 2 ^ 64) (hst : cfg.start + prologueOff c a + 5 < 2 ^ 64)
    (hlo : ((cfg.start + prologueOff c a : Nat) : Int) + 5 - 2 ^ 31 ≤ cfg.tramp)
    (hhi : (cfg.tramp : Int) < ((cfg.start + prologueOff c a : Nat) : Int) + 5 + 2 ^ 31) :
    unpatchFuncG cfg (patchFunc cfg.ty cfg.minSize ss c cfg.start a cfg.tramp).1 a loc =
      (writeAt c (prologueOff c a) unpatch_nop5, .success) ∧
    (∀ i, i < prologueOff c a ∨ prologueOff c a + 5 ≤ i → (writeAt c (prologueOff c a) unpatch_nop5)[i]? = c[i]?) ∧
    isNopPrologue (writeAt c (prologueOff c a) unpatch_nop5) (prologueOff c a) = true := by
  refine ⟨?_, fun i hi => getElem?_writeAt_outside _ _ _ _ hi, ?_⟩
  · rw [patchFunc_fst, if_pos hs]
    have hent := callsEntryDirect_patched cfg c (prologueOff c a) hin ht0 ht hst hlo hhi
    generalize targetAddr cfg.tramp (cfg.start + prologueOff c a) = t at hent ⊢
    have hoff := prologueOff_writeAt c a 0xe8 (le32 t) (by decide) hin
    have hsite : unpatchSite cfg (writeAt c (prologueOff c a) (callInsn t)) a = prologueOff c a := by
      unfold unpatchSite
      split
      · exact hoff
      · rename_i hns
        exact (prologueOff_of_not_endbr c a (hse.resolve_left hns)).symm
    rw [unpatchFuncG_of_fentry cfg (Or.inr hty), hsite,
      unpatchAtG_of_direct cfg (writeAt c _ (callInsn t)) _ (rd_writeAt_head c _ _ _ hin) hent,
      writeAt_writeAt c _ (callInsn t) unpatch_nop5 rfl]
  · have hm : matchAt (writeAt c (prologueOff c a) unpatch_nop5) (prologueOff c a) fentry_nop_patt2 = true := by
      rw [matchAt_iff]
      intro k hk
      exact rd_writeAt_inside _ _ _ k hk hin
    simp [isNopPrologue, hm]

example :
    let cfg : Cfg := { ty := .patchable, minSize := 0, start := 0x1000, tramp := 0x1ff0, locs := [] }
    let c : Code := [0x90, 0x90, 0x90, 0x90, 0x90, 0xc3]
    (patchFunc cfg.ty cfg.minSize 6 c cfg.start 0 cfg.tramp).2 = .success ∧
    unpatchFuncG cfg (patchFunc cfg.ty cfg.minSize 6 c cfg.start 0 cfg.tramp).1 0 none =
      ([0x0f, 0x1f, 0x44, 0x00, 0x00, 0xc3], .success) := by
  decide +kernel

/-- Patch then unpatch is the identity on the entry bytes — and on the whole image:
    a function that started with the `-mnop-mcount` NOP (0f 1f 44 00 00, the NOP that
    unpatch writes), optionally behind an endbr64, and was patched successfully is
    restored byte for byte by a later unpatch of a DYNAMIC_PATCHABLE module (under the
    conditions of `c14_unpatch_gives_nop`). -/
theorem c14_unpatch_restores (cfg : Cfg) (hty : cfg.ty = .patchable) (ss : Nat) (c : Code) (a : Nat)
    (loc : Option Nat)
    (hse : cfg.skipEndbr = true ∨ matchAt c a endbr64 = false)
    (hnop : matchAt c (prologueOff c a) unpatch_nop5 = true)
    (hs : (patchFunc cfg.ty cfg.minSize ss c cfg.start a cfg.tramp).2 = .success)
    (hin : prologueOff c a + 5 ≤ c.length)
    (ht0 : cfg.tramp ≠ 0) (ht : cfg.tramp < 2 ^ 64) (hst : cfg.start + prologueOff c a + 5 < 2 ^ 64)
    (hlo : ((cfg.start + prologueOff c a : Nat) : Int) + 5 - 2 ^ 31 ≤ cfg.tramp)
    (hhi : (cfg.tramp : Int) < ((cfg.start + prologueOff c a : Nat) : Int) + 5 + 2 ^ 31) :
    unpatchFuncG cfg (patchFunc cfg.ty cfg.minSize ss c cfg.start a cfg.tramp).1 a loc = (c, .success) := by
  rw [(c14_unpatch_gives_nop cfg hty ss c a loc hse hs hin ht0 ht hst hlo hhi).1,
    writeAt_of_matchAt c _ unpatch_nop5 hnop]

/-- non-vacuity (with endbr64, repaired code) -/
example :
    let cfg : Cfg := { ty := .patchable, minSize := 0, start := 0x1000, tramp := 0x1ff0, locs := [] }
    let c : Code := [0xf3, 0x0f, 0x1e, 0xfa, 0x0f, 0x1f, 0x44, 0x00, 0x00, 0xc3]
    cfg.skipEndbr = true ∧ matchAt c (prologueOff c 0) unpatch_nop5 = true ∧
    (patchFunc cfg.ty cfg.minSize 10 c cfg.start 0 cfg.tramp).2 = .success ∧
    unpatchFuncG cfg (patchFunc cfg.ty cfg.minSize 10 c cfg.start 0 cfg.tramp).1 0 none = (c, .success) := by
  decide +kernel

/-- Pre-fix behaviour (the code as it is, `skipEndbr = false`), in general:
    unpatch_fentry_func looks at the first byte of the *symbol*, so no function that
    starts with endbr64 is ever unpatched, whatever follows the endbr64. -/
theorem c14_prefix_unpatch_endbr_all_skipped (cfg : Cfg) (hse : cfg.skipEndbr = false)
    (hty : cfg.ty = .fentry ∨ cfg.ty = .patchable) (c : Code) (a : Nat) (loc : Option Nat)
    (h : matchAt c a endbr64 = true) :
    unpatchFuncG cfg c a loc = (c, .skipped) := by
  rw [unpatchFuncG_of_fentry cfg hty, show unpatchSite cfg c a = a from if_neg (Bool.eq_false_iff.1 hse)]
  exact unpatchAtG_of_endbr cfg c a h

example : matchAt [0xf3, 0x0f, 0x1e, 0xfa, 0xe8, 0, 0, 0, 0] 0 endbr64 = true := by decide

/-- Pre-fix witness for finding C14-UNPATCH-ENDBR (`skipEndbr = false` = the code as
    it is): `traced: endbr64; call __fentry__@plt; lea 7(%rdi),%eax; ret` of a
    `-pg -mfentry -fcf-protection` program is selected by `-U traced`; the code as it
    is leaves it untouched — the function keeps calling the tracer and is still
    traced, against the -U clause of the property.  The repaired code turns exactly
    the call into the 5-byte NOP. -/
theorem c14_prefix_unpatch_endbr_witness :
    let cfg (se : Bool) : Cfg := { ty := .fentry, minSize := 0, start := 0x400000, tramp := 0, locs := [],
                                   skipEndbr := se, mapLen := 0x1000, textLo := 0, textHi := 0x50,
                                   symtab := [⟨"__fentry__", 0x10, 16, false, true⟩, ⟨"traced", 0x30, 13, true, false⟩] }
    let c : Code := List.replicate 0x30 0 ++ [0xf3, 0x0f, 0x1e, 0xfa, 0xe8, 0xd7, 0xff, 0xff, 0xff, 0x8d, 0x47, 0x07, 0xc3]
    entersTracer (cfg true) c (prologueOff c 0x30) ∧
    unpatchFuncG (cfg false) c 0x30 none = (c, .skipped) ∧
    unpatchFuncG (cfg true) c 0x30 none =
      (List.replicate 0x30 0 ++ [0xf3, 0x0f, 0x1e, 0xfa, 0x0f, 0x1f, 0x44, 0x00, 0x00, 0x8d, 0x47, 0x07, 0xc3], .success) := by
  refine ⟨Or.inl (by decide +kernel), by decide +kernel, by decide +kernel⟩

/-! ## the per-module loop: exactly the selected functions -/

/-- The traced set is exact.  Run the patch loop of a `-fpatchable-function-entry`
    or `-mnop-mcount` module over symbols whose 10-byte windows are disjoint and
    inside the image, none of them instrumented initially.  Then a function ends
    up instrumented (call opcode at its site) iff its last matching option is a
    -P, it is at least max(-Z, 6) bytes long, its prologue is one of the NOP
    patterns and the displacement is non-zero.  In particular a function whose
    last match is a -U, or that matches nothing, is not instrumented. -/
theorem c14_traced_set_exact (cfg : Cfg) (hty : cfg.ty = .fentryNop ∨ cfg.ty = .patchable)
    (verdict : String → Option Bool) (syms : List Sym) (st : LoopSt)
    (hd : Disjoint syms) (ht : InText cfg syms) (hin : ∀ s ∈ syms, s.addr + 10 ≤ st.code.length)
    (h0 : ∀ s ∈ syms, instrumented st.code s = false) :
    ∀ s ∈ syms,
      (instrumented (runSyms cfg verdict st syms).code s = true ↔
        (verdict s.name = some true ∧ max cfg.minSize 6 ≤ s.size ∧
          isNopPrologue st.code (prologueOff st.code s.addr) = true ∧
          targetAddr cfg.tramp (cfg.start + prologueOff st.code s.addr) ≠ 0)) := by
  intro s hs
  have hpg : cfg.ty ≠ .pg := by rcases hty with e | e <;> rw [e] <;> decide
  rw [instrumented_congr _ _ s (runSyms_window cfg hpg verdict syms hd ht st s hs),
    instrumented_stepCode cfg hpg _ _ s (hin s hs) (h0 s hs), patchFunc_success_iff]
  constructor
  · rintro ⟨h1, h2, _, h4, h5⟩; exact ⟨h1, h2, h4, h5⟩
  · rintro ⟨h1, h2, h4, h5⟩; exact ⟨h1, h2, hty, h4, h5⟩

example : Disjoint [⟨"a", 0, 16, true, false⟩, ⟨"b", 16, 16, true, false⟩] ∧
    InText { ty := .patchable, minSize := 0, start := 0x1000, tramp := 0x1ff0, locs := [], textLo := 0, textHi := 4096 }
      [⟨"a", 0, 16, true, false⟩, ⟨"b", 16, 16, true, false⟩] := by
  unfold Disjoint InText
  decide

/-- Nothing else is modified: a byte of the module that differs after the loop
    lies in the window of a symbol that some -P or -U item selected; and the
    image never changes length.  (Holds for the code as it is and for the
    repaired code; `c14_loop_modifies_only_nops_and_tracer_calls` below says what
    the repaired code may overwrite *inside* such a window.) -/
theorem c14_only_selected_modified (cfg : Cfg) (hty : cfg.ty ≠ .pg)
    (verdict : String → Option Bool) (syms : List Sym) (st : LoopSt) (hd : Disjoint syms)
    (ht : InText cfg syms) (i : Nat)
    (h : (runSyms cfg verdict st syms).code[i]? ≠ st.code[i]?) :
    ∃ s ∈ syms, s.addr ≤ i ∧ i < s.addr + 10 ∧ verdict s.name ≠ none := by
  obtain ⟨s, hs, h1, h2, hne⟩ := runSyms_changed cfg hty verdict syms hd ht st i h
  refine ⟨s, hs, h1, h2, fun hv => ?_⟩
  rw [hv] at hne
  exact hne rfl

theorem c14_loop_keeps_length (cfg : Cfg) (verdict : String → Option Bool) (syms : List Sym)
    (st : LoopSt) : (runSyms cfg verdict st syms).code.length = st.code.length := by
  induction syms generalizing st with
  | nil => rfl
  | cons s rest ih =>
    rw [runSyms_cons, ih]
    exact length_stepCode _ _ _ _

/-! ## module type detection (genuine defect: endbr64 + NOP is not recognised) -/

/-- Repaired code (`detectType` = `detectTypeG true`): detection agrees with the
    patcher.  If some local/global function whose name does not start with '_'
    has a prologue that `patch_fentry_code` accepts (a NOP pattern, after an
    optional endbr64), a module without a patchable/xray section is classified
    DYNAMIC_FENTRY_NOP, so its selected functions do get patched. -/
theorem c14_detect_agrees_with_patcher (c : Code) (syms : List DSym) (fb : DynType) (s : DSym)
    (hs : s ∈ syms) (hlg : s.lg = true) (hname : s.name.toList.head? ≠ some '_')
    (hp : isNopPrologue c (prologueOff c s.addr) = true) :
    detectType none c syms fb = .fentryNop := by
  have hany : syms.any (scanHit true c) = true := by
    rw [List.any_eq_true]
    refine ⟨s, hs, ?_⟩
    simp [scanHit, hlg, hp, hname]
  simp [detectType, detectTypeG, hany]

example : ∃ (c : Code) (s : DSym), s.lg = true ∧ s.name.toList.head? ≠ some '_' ∧
    isNopPrologue c (prologueOff c s.addr) = true :=
  ⟨[0xf3, 0x0f, 0x1e, 0xfa, 0x0f, 0x1f, 0x44, 0x00, 0x00, 0xc3], ⟨"f", 0, true⟩, rfl, by decide, by decide⟩

/-- The repair only adds the endbr64 case: on images where no scanned symbol
    starts with endbr64 the repaired and the current detection coincide. -/
theorem c14_detect_fix_conservative (sect : Option DynType) (c : Code) (syms : List DSym)
    (fb : DynType) (h : ∀ s ∈ syms, matchAt c s.addr endbr64 = false) :
    detectTypeG false sect c syms fb = detectTypeG true sect c syms fb := by
  have : ∀ s ∈ syms, scanHit false c s = scanHit true c s := by
    intro s hs
    simp [scanHit, prologueOff, h s hs]
  have hany : syms.any (scanHit false c) = syms.any (scanHit true c) := by
    rw [Bool.eq_iff_iff, List.any_eq_true, List.any_eq_true]
    exact exists_congr fun s => and_congr_right fun hs => by rw [this s hs]
  simp only [detectTypeG, hany]

/-- Pre-fix witness (the code as it is, `fixed = false`): a module built with
    `-pg -mfentry -mnop-mcount -fcf-protection` — every function is
    `endbr64; nopl 0(%rax,%rax,1)` — is classified DYNAMIC_NONE, so nothing is
    patched, although patch_fentry_code itself would accept the very same
    prologue. -/
theorem c14_prefix_endbr_nop_undetected_witness :
    let c : Code := [0xf3, 0x0f, 0x1e, 0xfa, 0x0f, 0x1f, 0x44, 0x00, 0x00, 0x55, 0xc3]
    let syms : List DSym := [⟨"f", 0, true⟩]
    detectTypeG false none c syms .none = .none ∧
    detectTypeG true none c syms .none = .fentryNop ∧
    (patchFunc .fentryNop 0 11 c 0x401000 0 0x401ff0).2 = .success ∧
    (patchFunc (detectTypeG false none c syms .none) 0 11 c 0x401000 0 0x401ff0) = (c, .failed) := by
  decide +kernel


/-! ## unpatch only removes calls into the tracer (genuine defect C14-UNPATCH-ANY-CALL) -/

/-- Repaired code (`cfg.fixed = true`): `-U` on a function rewrites its bytes only
    if the function (after an optional endbr64; for DYNAMIC_PG: its __mcount_loc site)
    begins with a call that enters the tracer —
    * `e8 rel32` whose target is this module's trampoline or lies in a PLT entry
      of the module named `__fentry__`, `mcount` or `_mcount`, or
    * `ff 15 disp32` whose GOT slot lies inside the module's mapping, entirely
      outside the code segment, and holds the address of `__fentry__` / `mcount` —
    and then exactly that instruction is replaced by the NOP of the same length.
    A function that begins with a call to anything else is left byte-for-byte
    untouched. -/
theorem c14_unpatch_only_fentry_calls (cfg : Cfg) (hfx : cfg.fixed = true) (c : Code) (a : Nat)
    (loc : Option Nat) (h : (unpatchFuncG cfg c a loc).1 ≠ c) :
    ∃ o, (o = unpatchSite cfg c a ∨ loc = some o) ∧
      ((rd c o = 0xe8 ∧ (unpatchFuncG cfg c a loc).1 = writeAt c o unpatch_nop5 ∧
          ((cfg.tramp ≠ 0 ∧ callTarget cfg c o = cfg.tramp) ∨
           ∃ s, findSym cfg.symtab ((callTarget cfg c o + 2 ^ 64 - cfg.start % 2 ^ 64) % 2 ^ 64) = some s ∧
             s.isPlt = true ∧ s.name ∈ entryNames)) ∨
       (rd c o = 0xff ∧ rd c (o + 1) = 0x15 ∧ (unpatchFuncG cfg c a loc).1 = writeAt c o unpatch_nop6 ∧
          cfg.start ≤ gotSlot cfg c o ∧ gotSlot cfg c o + 8 ≤ cfg.start + cfg.mapLen ∧
          (gotSlot cfg c o - cfg.start + 8 ≤ cfg.textLo ∨ cfg.textHi ≤ gotSlot cfg c o - cfg.start) ∧
          rd64 c (gotSlot cfg c o - cfg.start) ∈ cfg.entryFuncs)) := by
  rcases unpatchFuncG_shape cfg c a loc with e | ⟨o, ho, e⟩ <;> rw [e] at h ⊢
  · exact absurd rfl h
  · refine ⟨o, ho.imp (·.2) (·.2), ?_⟩
    rcases unpatchAtG_changes cfg hfx c o h with ⟨h1, h2⟩ | ⟨h1, h2, h3⟩
    · rw [unpatchAtG_of_direct cfg c o h1 h2]
      exact Or.inl ⟨h1, rfl, (callsEntryDirect_iff cfg c o).1 h2⟩
    · rw [unpatchAtG_of_got cfg c o h1 h2 h3]
      exact Or.inr ⟨h1, h2, rfl, (callsEntryGot_iff cfg c o).1 h3⟩

/-- non-vacuity: a `-pg -mfentry` function `call __fentry__@plt; lea 7(%rdi),%eax; ret`
    at offset 0x30 with the PLT entry at offset 0x10 is unpatched by the repaired
    code; so is `call *__fentry__@GOTPCREL(%rip)` (-fno-plt) whose slot at offset 0x60,
    outside the code segment [0, 0x50), holds the address of `__fentry__` -/
example :
    let cfg : Cfg := { ty := .fentry, minSize := 0, start := 0x400000, tramp := 0x400ff0, locs := [],
                       mapLen := 0x1000, textLo := 0, textHi := 0x50, entryFuncs := [0x7f0000001000, 0x7f0000002000],
                       symtab := [⟨"__fentry__", 0x10, 16, false, true⟩, ⟨"traced", 0x30, 9, true, false⟩] }
    let c : Code := List.replicate 0x30 0 ++ [0xe8, 0xdb, 0xff, 0xff, 0xff, 0x8d, 0x47, 0x07, 0xc3]
    let g : Code := List.replicate 0x30 0 ++ [0xff, 0x15, 0x2a, 0x00, 0x00, 0x00, 0x8d, 0x47, 0x07, 0xc3] ++
      List.replicate 0x26 0 ++ [0x00, 0x10, 0x00, 0x00, 0x00, 0x7f, 0x00, 0x00]
    (unpatchFuncG cfg c 0x30 none).2 = .success ∧ (unpatchFuncG cfg g 0x30 none).2 = .success ∧
    (unpatchFuncG cfg c 0x30 none).1 ≠ c ∧ (unpatchFuncG cfg g 0x30 none).1 ≠ g := by
  decide +kernel

/-- The patch loop of the repaired code, byte by byte: a byte of the module that
    differs after the loop lies
    * in the five bytes at the patch site of a function whose last matching option
      is a -P and that `mcount_patch_func` accepted (size, NOP prologue), or
    * in the window of a function whose last matching option is a -U and that
      began with a call entering the tracer (see `c14_unpatch_only_fentry_calls`).
    Every other byte — in particular every function that matched nothing, every
    function that cannot be patched, and every -U function that begins with a
    call of its own — is exactly as before. -/
theorem c14_loop_modifies_only_nops_and_tracer_calls (cfg : Cfg) (hty : cfg.ty ≠ .pg)
    (hfx : cfg.fixed = true) (verdict : String → Option Bool) (syms : List Sym) (st : LoopSt)
    (hd : Disjoint syms) (ht : InText cfg syms) (i : Nat)
    (h : (runSyms cfg verdict st syms).code[i]? ≠ st.code[i]?) :
    ∃ s ∈ syms, s.addr ≤ i ∧ i < s.addr + 10 ∧
      ((verdict s.name = some true ∧
          (patchFunc cfg.ty cfg.minSize s.size st.code cfg.start s.addr cfg.tramp).2 = .success ∧
          prologueOff st.code s.addr ≤ i ∧ i < prologueOff st.code s.addr + 5) ∨
       (verdict s.name = some false ∧ entersTracer cfg st.code (unpatchSite cfg st.code s.addr))) := by
  obtain ⟨s, hs, h1, h2, hne⟩ := runSyms_changed cfg hty verdict syms hd ht st i h
  refine ⟨s, hs, h1, h2, ?_⟩
  rcases stepCode_changed cfg _ _ s i hne with hp | ⟨hv, o, ⟨_, rfl⟩ | ⟨hpg, _⟩, hc, _⟩
  · exact Or.inl hp
  · exact Or.inr ⟨hv, unpatchAtG_changes cfg hfx st.code _ hc⟩
  · exact absurd hpg hty

/-- non-vacuity of `c14_loop_modifies_only_nops_and_tracer_calls`: a loop run (repaired code) in which bytes
    do change — `-P p` patches the NOP function `p`, `-U u` unpatches `u` (endbr64; call __fentry__@plt) -/
example :
    let cfg : Cfg := { ty := .patchable, minSize := 0, start := 0x400000, tramp := 0x400ff0, locs := [],
                       mapLen := 0x1000, textLo := 0, textHi := 0x60,
                       symtab := [⟨"__fentry__", 0x10, 16, false, true⟩] }
    let syms : List Sym := [⟨"p", 0x20, 16, true, false⟩, ⟨"u", 0x30, 16, true, false⟩]
    let c : Code := List.replicate 0x20 0 ++ [0x90, 0x90, 0x90, 0x90, 0x90, 0xc3] ++ List.replicate 10 0 ++
      [0xf3, 0x0f, 0x1e, 0xfa, 0xe8, 0xd7, 0xff, 0xff, 0xff, 0xc3] ++ List.replicate 0x16 0
    let v : String → Option Bool := fun n => if n = "p" then some true else if n = "u" then some false else none
    cfg.ty ≠ .pg ∧ cfg.fixed = true ∧ Disjoint syms ∧ InText cfg syms ∧
    (runSyms cfg v ⟨c, {}⟩ syms).code[0x20]? ≠ c[0x20]? ∧ (runSyms cfg v ⟨c, {}⟩ syms).code[0x34]? ≠ c[0x34]? := by
  refine ⟨by decide +kernel, rfl, ?_, ?_, by decide +kernel, by decide +kernel⟩
  · unfold Disjoint
    decide
  · unfold InText
    decide

/-- A function that no -P / -U item matches is never modified: after the loop its
    whole 10-byte entry window is byte for byte as before (code as it is and
    repaired code alike). -/
theorem c14_unmatched_function_untouched (cfg : Cfg) (hty : cfg.ty ≠ .pg)
    (verdict : String → Option Bool) (syms : List Sym) (st : LoopSt) (hd : Disjoint syms)
    (ht : InText cfg syms) :
    ∀ s ∈ syms, verdict s.name = none → ∀ i, s.addr ≤ i → i < s.addr + 10 →
      (runSyms cfg verdict st syms).code[i]? = st.code[i]? := by
  intro s hs hv i h1 h2
  rw [runSyms_window cfg hty verdict syms hd ht st s hs i h1 h2, hv]
  rfl

example : ∃ (verdict : String → Option Bool) (s : Sym), verdict s.name = none :=
  ⟨fun _ => none, ⟨"a", 0, 16, true, false⟩, rfl⟩

/-- The unpatched set is exact (repaired code; the loop of a DYNAMIC_FENTRY or
    DYNAMIC_PATCHABLE module over symbols whose 10-byte windows are disjoint, inside
    the code segment and inside the image).  For every function whose last matching
    option is a -U:
    * if its entry (after an optional endbr64) is a call that enters the tracer,
      then after the loop the entry holds no call instruction any more (the function
      is not traced) and every other byte of its window is as before;
    * otherwise its whole window is byte for byte as before.
    Together with `c14_unmatched_function_untouched`, `c14_traced_set_exact` and
    `c14_only_selected_modified`: exactly the functions selected by -U lose their
    tracer call, and nothing else in the module changes. -/
theorem c14_unpatched_set_exact (cfg : Cfg) (hty : cfg.ty = .fentry ∨ cfg.ty = .patchable)
    (hfx : cfg.fixed = true) (hse : cfg.skipEndbr = true)
    (verdict : String → Option Bool) (syms : List Sym) (st : LoopSt)
    (hd : Disjoint syms) (ht : InText cfg syms) (hin : ∀ s ∈ syms, s.addr + 10 ≤ st.code.length) :
    ∀ s ∈ syms, verdict s.name = some false →
      (entersTracer cfg st.code (prologueOff st.code s.addr) →
        rd (runSyms cfg verdict st syms).code (prologueOff st.code s.addr) ≠ 0xe8 ∧
        rd (runSyms cfg verdict st syms).code (prologueOff st.code s.addr) ≠ 0xff ∧
        ∀ i, s.addr ≤ i → i < s.addr + 10 →
          i < prologueOff st.code s.addr ∨ prologueOff st.code s.addr + 6 ≤ i →
          (runSyms cfg verdict st syms).code[i]? = st.code[i]?) ∧
      (¬ entersTracer cfg st.code (prologueOff st.code s.addr) →
        ∀ i, s.addr ≤ i → i < s.addr + 10 → (runSyms cfg verdict st syms).code[i]? = st.code[i]?) := by
  intro s hs hv
  have hpg : cfg.ty ≠ .pg := by rcases hty with e | e <;> rw [e] <;> decide
  have hoc := prologueOff_mem st.code s.addr
  have hlen := hin s hs
  have hwin : ∀ i, s.addr ≤ i → i < s.addr + 10 → (runSyms cfg verdict st syms).code[i]? =
      (unpatchFuncG cfg st.code s.addr (findLoc cfg.locs s)).1[i]? := by
    intro i h1 h2
    rw [runSyms_window cfg hpg verdict syms hd ht st s hs i h1 h2, hv]
    rfl
  have hex := c14_unpatch_exact cfg hfx hse hty st.code s.addr (findLoc cfg.locs s) (by omega)
  constructor
  · intro he
    obtain ⟨_, _, hn1, hn2⟩ := hex.1 he
    have hrd := rd_congr _ _ _ (hwin (prologueOff st.code s.addr) hoc.1 (by omega))
    refine ⟨by rw [hrd]; exact hn1, by rw [hrd]; exact hn2, fun i h1 h2 hout => ?_⟩
    rw [hwin i h1 h2, unpatchFuncG_of_fentry cfg hty,
      show unpatchSite cfg st.code s.addr = prologueOff st.code s.addr from if_pos hse]
    exact unpatchAtG_frame cfg _ _ i hout
  · intro hne i h1 h2
    rw [hwin i h1 h2, hex.2 hne]

/-- non-vacuity: a two-function module, `-U a` where `a` is `endbr64; call __fentry__@plt` -/
example :
    let cfg : Cfg := { ty := .fentry, minSize := 0, start := 0x400000, tramp := 0, locs := [],
                       mapLen := 0x1000, textLo := 0, textHi := 0x60,
                       symtab := [⟨"__fentry__", 0x10, 16, false, true⟩] }
    let syms : List Sym := [⟨"a", 0x30, 16, true, false⟩, ⟨"b", 0x40, 16, true, false⟩]
    let c : Code := List.replicate 0x30 0 ++ [0xf3, 0x0f, 0x1e, 0xfa, 0xe8, 0xd7, 0xff, 0xff, 0xff, 0xc3] ++ List.replicate 0x16 0
    Disjoint syms ∧ InText cfg syms ∧ (∀ s ∈ syms, s.addr + 10 ≤ c.length) ∧
    entersTracer cfg c (prologueOff c 0x30) ∧
    (runSyms cfg (fun n => if n = "a" then some false else none) ⟨c, {}⟩ syms).code =
      List.replicate 0x30 0 ++ [0xf3, 0x0f, 0x1e, 0xfa, 0x0f, 0x1f, 0x44, 0x00, 0x00, 0xc3] ++ List.replicate 0x16 0 := by
  refine ⟨?_, ?_, by decide +kernel, Or.inl (by decide +kernel), by decide +kernel⟩
  · unfold Disjoint
    decide
  · unfold InText
    decide

/-- DYNAMIC_PG modules (`-pg -mrecord-mcount`; their unpatch site is the symbol's
    `__mcount_loc` entry, anywhere inside the symbol, so the window theorems above do
    not apply): a byte of the module that differs after the loop lies in the 6 bytes
    at the `__mcount_loc` entry of a symbol whose last matching option is a -U, and
    that entry lies inside the symbol.  -P never changes a byte of such a module.
    (What may be overwritten there: `c14_unpatch_only_fentry_calls`.) -/
theorem c14_pg_only_selected_sites_modified (cfg : Cfg) (hty : cfg.ty = .pg)
    (verdict : String → Option Bool) (syms : List Sym) (st : LoopSt) (i : Nat)
    (h : (runSyms cfg verdict st syms).code[i]? ≠ st.code[i]?) :
    ∃ s ∈ syms, verdict s.name = some false ∧
      ∃ l, findLoc cfg.locs s = some l ∧ s.addr ≤ l ∧ l < s.addr + s.size ∧ l ≤ i ∧ i < l + 6 := by
  induction syms generalizing st with
  | nil => exact absurd rfl h
  | cons s rest ih =>
    rw [runSyms_cons] at h
    by_cases h1 : (stepSym cfg verdict st s).code[i]? = st.code[i]?
    · rw [← h1] at h
      obtain ⟨t, ht, hv, hl⟩ := ih _ h
      exact ⟨t, List.mem_cons_of_mem _ ht, hv, hl⟩
    · refine ⟨s, List.mem_cons_self, ?_⟩
      rcases stepCode_changed cfg (verdict s.name) st.code s i h1 with
        ⟨_, hs, _⟩ | ⟨hv, l, ⟨hne, _⟩ | ⟨_, hl⟩, _, hi⟩
      · rw [patchFunc_success_iff, hty] at hs
        rcases hs.2.1 with e | e <;> cases e
      · rw [hty] at hne
        rcases hne with e | e <;> cases e
      · have hin := List.find?_some hl
        rw [Bool.and_eq_true, decide_eq_true_eq, decide_eq_true_eq] at hin
        exact ⟨hv, l, hl, hin.1, hin.2, hi⟩

example :
    let cfg : Cfg := { ty := .pg, minSize := 0, start := 0x400000, tramp := 0, locs := [0x34],
                       mapLen := 0x1000, textLo := 0, textHi := 0x60,
                       symtab := [⟨"mcount", 0x10, 16, false, true⟩] }
    let c : Code := List.replicate 0x30 0 ++ [0x55, 0x48, 0x89, 0xe5, 0xe8, 0xd7, 0xff, 0xff, 0xff, 0x5d, 0xc3] ++ List.replicate 0x15 0
    (runSyms cfg (fun _ => some false) ⟨c, {}⟩ [⟨"f", 0x30, 11, true, false⟩]).code[0x34]? ≠ c[0x34]? := by
  decide +kernel

/-- Pre-fix witness (the code as it is, `fixed = false`): the -O2 function
    `wrapper: call leaf; add $1,%eax; ret` of a `-pg -mfentry` program (built with
    `no_instrument_function`, so its first instruction is its own call) is selected
    by `-U wrapper`; unpatch_func sees `e8` and overwrites the call to `leaf` with
    a NOP — the program then computes something else.  The repaired code leaves
    it alone, and still unpatches the instrumented neighbour. -/
theorem c14_prefix_unpatch_anycall_witness :
    let symtab : List Sym := [⟨"__fentry__", 0x1070, 16, false, true⟩, ⟨"leaf", 0x11f0, 18, true, false⟩,
                              ⟨"wrapper", 0x1210, 9, true, false⟩]
    let cfg (fx : Bool) : Cfg := { ty := .fentry, minSize := 0, start := 0x400000, tramp := 0x401ff0, locs := [],
                                   fixed := fx, mapLen := 0x5000, textLo := 0x1000, textHi := 0x2000,
                                   symtab := symtab }
    -- wrapper at offset 0 of this excerpt (module offset 0x1210): call leaf (-0x25); add $1,%eax; ret
    let c : Code := [0xe8, 0xdb, 0xff, 0xff, 0xff, 0x83, 0xc0, 0x01, 0xc3]
    (unpatchAtG (cfg false) c 0).1 = [0x0f, 0x1f, 0x44, 0x00, 0x00, 0x83, 0xc0, 0x01, 0xc3] ∧
    (unpatchAtG (cfg true) c 0) = (c, .skipped) := by
  decide +kernel

/-! ## W^X -/

/-- After mcount_dynamic_update (setup + patch + freeze) no page that the update
    touched is writable: a page that is writable afterwards is outside every
    module's text range, has exactly its initial protection, and was therefore
    writable before.  Every page of every module's text range (including a page
    added for the trampoline) is r-x.  Holds for every module list, pattern
    verdict, and every pattern of failing RWX requests. -/
theorem c14_wx_after_freeze (fa ms : Nat) (verdict : Module → String → Option Bool) (w : World) :
    (∀ m ∈ (dynamicUpdate fa ms verdict w).mods, ∀ p, inText m p →
      (dynamicUpdate fa ms verdict w).pages p = Perm.rx) ∧
    (∀ p, ((dynamicUpdate fa ms verdict w).pages p).w = true →
      (dynamicUpdate fa ms verdict w).pages p = w.pages p ∧
      ¬ ∃ m ∈ (dynamicUpdate fa ms verdict w).mods, inText m p) := by
  simp only [dynamicUpdate, doDynamicUpdate]
  constructor
  · intro m hm p hp
    exact freezeAll_in _ _ p ⟨m, hm, hp⟩
  · intro p hp
    by_cases hin : ∃ m ∈ (updateAll fa ms verdict w.mods w.pages w.stats).1, inText m p
    · rw [freezeAll_in _ _ p hin] at hp
      cases hp
    · refine ⟨?_, hin⟩
      rw [freezeAll_out _ _ p hin]
      apply Classical.byContradiction
      intro hne
      exact hin (updateAll_changes_in_text fa ms verdict w.mods w.pages w.stats p hne)

/-- Between setup and freeze the text range is RWX, as the code does (stated so
    the model cannot silently skip the writable phase). -/
theorem c14_setup_makes_text_rwx (fa : Nat) (m : Module) (pg : Pages) (hok : m.setupFails = false)
    (p : Nat) (hp : inText (setupTrampoline fa m pg).1 p) :
    (setupTrampoline fa m pg).2.1 p = Perm.rwx ∧ (setupTrampoline fa m pg).2.2 = true := by
  obtain ⟨ha, hs⟩ := setup_fields fa m pg
  unfold inText at hp
  rw [ha, hs] at hp
  unfold setupTrampoline
  simp only [hok, Bool.false_eq_true, if_false, and_true]
  exact if_pos hp

example : ∃ m : Module, m.setupFails = false ∧
    inText (setupTrampoline 0 m (fun _ => Perm.rx)).1 1 :=
  ⟨{ libname := "m", ty := .patchable, start := 4096, textAddr := 4096, textSize := 100,
     code := [], syms := [], locs := [] }, rfl, by unfold inText; decide⟩


end Uft.Patch

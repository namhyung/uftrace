import Uft.Lemmas.FstackTop
import Uft.Lemmas.FstackSim
import Uft.Lemmas.FstackOff
import Uft.Lemmas.FstackReplay
/- C07 — Analysis-time filters mean the same as record-time filters.

Model: Uft/Model/Fstack.lean (utils/fstack.c: the look-ahead of get_task_ustack, fstack_entry /
fstack_exit / fstack_update, fstack_check_filter, fstack_skip / fstack_check_skip; the loops of
cmds/replay.c, report.c, graph.c, dump.c, script.c) and Uft/Model/Mcount.lean (the record-time
hooks, C02/C05).  `spec` is the documented selection as a structurally recursive function on
call trees: `pruneCalls` (-t, time=, trace, -C) then `specCalls` (-F, -N, -D, -L, -H, depth=),
with the environment passed down only. -/
namespace Uft.C07
open Uft.Mcount Uft.Fstack

/-- **State restoration.**  For every trigger table and option set (filter / notrace / depth /
    hide / location / time / trace / trace_on / trace_off / caller, --no-libcall …), every call
    tree and every state of the reader: after the records of a complete call the filter state
    of fstack_entry / fstack_exit — in_count, out_count, remaining depth, the open calls' flags
    and saved depths, stack_count — is what it was before the call.  A filter hit never leaks
    into later sibling calls at analysis time. -/
theorem c07_state_restored (c : RCfg) (x : Call) (d : Nat) (s : FS) (hs : s.scSet = true) :
    (endA c s (evCall d x)).core = s.core :=
  (restoredA_call c x d s hs).1

/-- … and the same for any forest of calls. -/
theorem c07_state_restored_forest (c : RCfg) (xs : Calls) (d : Nat) (s : FS) (hs : s.scSet = true) :
    (endA c s (evCalls d xs)).core = s.core :=
  (restoredA_calls c xs d s hs).1

/-- **The look-ahead time filter.**  On the record file of any call forest the look-ahead of
    get_task_ustack (list with delete-last, per-task threshold override stack of time= triggers,
    -C, trace) hands over, in order, exactly the calls that ran at least the threshold active
    for them, or carry the trace trigger, or have such a call below them (`pruneCalls`). -/
theorem c07_time_filter_spec (c : RCfg) (hr : NoRange c) (xs : Calls) (ho : Calls.ordered xs) :
    lookahead c (evCalls 0 xs) = evCalls 0 (pruneCalls c false c.threshold xs) :=
  lookahead_forest c hr xs ho

example : NoRange {} ∧ Calls.ordered (.cons (.node 1 10 20 (.cons (.node 2 12 12 .nil) .nil)) .nil) := by
  simp [NoRange, Calls.ordered, Call.ordered]

/-- **Every command shows the documented selection.**  Tracing on, no trace_on / trace_off
    trigger, no -r, no --no-libcall: for every option set over -F -N -D -t -C -H -L and
    filter / notrace / depth= / time= / trace / hide / caller triggers and every call forest,
    replay (with leaf folding through fstack_skip, or --no-merge), report, graph,
    dump --chrome, --flame-graph etc. and script show exactly `spec`. -/
theorem c07_replay_refines_spec (c : RCfg) (hq : Quiet c) (hnl : c.noLibcall = false) (hr : NoRange c)
    (hen : c.enabled0 = true) (xs : Calls) (ho : Calls.ordered xs) (cmd : Cmd) :
    cmdOut c cmd (evCalls 0 xs) = spec c false xs := by
  rw [cmdOut_stepA c hnl hr xs ho cmd, lookahead_forest c hr xs ho, stepA_forest c hq hnl hr hen]
  rfl

example : Quiet {} ∧ ({} : RCfg).noLibcall = false ∧ ({} : RCfg).enabled0 = true := by
  simp [Quiet]

/-- **The commands agree** (same hypotheses): any two of replay, report, graph, dump, script
    accept the same call sequence. -/
theorem c07_commands_agree (c : RCfg) (hq : Quiet c) (hnl : c.noLibcall = false) (hr : NoRange c)
    (hen : c.enabled0 = true) (xs : Calls) (ho : Calls.ordered xs) (cmd1 cmd2 : Cmd) :
    cmdOut c cmd1 (evCalls 0 xs) = cmdOut c cmd2 (evCalls 0 xs) := by
  rw [c07_replay_refines_spec c hq hnl hr hen xs ho cmd1, c07_replay_refines_spec c hq hnl hr hen xs ho cmd2]

/-- … in particular across trace-off periods: a call that is entered, or returns, while tracing
    is switched off (trace_off trigger, --trace=off) still gives back its -F / -N count and its
    depth budget in the fstack_check_filter path of report, graph and dump (this is what the
    seeded change C07-traceoff-exit-skips-restore broke). -/
theorem c07_state_restored_traceoff (c : RCfg) (xs : Calls) (d : Nat) (s : FS) (hs : s.scSet = true)
    (hoff : s.enabled = false) :
    (endA c s (evCalls d xs)).core = s.core :=
  (restoredA_calls c xs d s hs).1

/-- **The commands agree under every option set** — trace_on / trace_off triggers and
    --trace=off included (no -r, no --no-libcall): on every call forest replay, with its
    fstack_skip look-ahead and leaf folding or with --no-merge, shows exactly the records that
    report, graph, dump and script accept. Proved by simulation of the two loops, not through
    `spec` (which does not cover trace switches). -/
theorem c07_commands_agree_traceoff (c : RCfg) (hnl : c.noLibcall = false) (hr : NoRange c) (xs : Calls)
    (ho : Calls.ordered xs) (cmd1 cmd2 : Cmd) :
    cmdOut c cmd1 (evCalls 0 xs) = cmdOut c cmd2 (evCalls 0 xs) := by
  rw [cmdOut_stepA c hnl hr xs ho cmd1, cmdOut_stepA c hnl hr xs ho cmd2]

example : ({ enabled0 := false, trig := fun f => if f = 5 then { traceOn := true } else if f = 3 then { traceOff := true } else {} } : RCfg).noLibcall = false := rfl

/-- report, graph, dump and script run the same fstack_check_filter / fstack_entry automaton:
    without --no-libcall they agree on *every* record stream and option set, including
    trace_on / trace_off triggers, --trace=off and -r. -/
theorem c07_commands_agree_any_stream (c : RCfg) (hnl : c.noLibcall = false) (rs : List Rec) :
    cmdOut c .report rs = cmdOut c .graph rs ∧ cmdOut c .graph rs = cmdOut c .dump rs ∧
    cmdOut c .dump rs = cmdOut c .script rs := by
  refine ⟨rfl, rfl, ?_⟩
  show runSteps (stepA c) _ _ = runSteps (stepC c) _ _
  rw [stepC_eq_stepA c hnl]

/-- raw `uftrace dump` reads the task files directly (no look-ahead): it agrees with the other
    commands when no time filter of any kind (-t, time=, -C) is active. -/
theorem c07_dumpraw_agrees (c : RCfg) (hq : Quiet c) (hnl : c.noLibcall = false) (hr : NoRange c)
    (hen : c.enabled0 = true) (hnt : NoTimeFilter c) (xs : Calls) :
    outDumpRaw c (evCalls 0 xs) = spec c false xs := by
  simp only [outDumpRaw, filter_inRange c hr, spec, hnt.1, prune_id_calls c hnt]
  exact stepA_forest c hq hnl hr hen xs

/-- finding F-C07-NOLIBCALL, the code before its repair (`pltFixed := false`): a user function
    called from a PLT function (a callback) under `-D 2 --no-libcall`: script (and replay
    --no-merge) dropped the PLT record before the filters and showed the callback; replay, report,
    graph and dump let the PLT function use up a depth level and did not. -/
theorem c07_nolibcall_disagree_witness :
    cmdOut { depthOpt := 2, noLibcall := true, pltFixed := false, plt := fun f => f == 1 } .script
        (evCalls 0 (.cons (.node 0 10 50 (.cons (.node 1 20 40 (.cons (.node 2 25 30 .nil) .nil)) .nil)) .nil)) ≠
    cmdOut { depthOpt := 2, noLibcall := true, pltFixed := false, plt := fun f => f == 1 } .report
        (evCalls 0 (.cons (.node 0 10 50 (.cons (.node 1 20 40 (.cons (.node 2 25 30 .nil) .nil)) .nil)) .nil)) := by
  decide

/-- after the repair (`pltFixed = true`), for every option set *with* --no-libcall, every PLT
    marking and every record stream: script selects the same calls (time, type, function) as
    report / graph / dump; only the display depth may differ (a hidden library call does not
    indent what it calls in script). -/
theorem c07_nolibcall_fixed_agree (c : RCfg) (hfix : c.pltFixed = true) (rs : List Rec) :
    eraseD (cmdOut c .script rs) = eraseD (cmdOut c .report rs) :=
  feq_run c hfix (lookahead c rs) (FS.init c) (FS.init c) (feq_refl _)

/-- … and on the witness input all five commands now agree -/
theorem c07_nolibcall_fixed_witness :
    ∀ cmd : Cmd, eraseD (cmdOut { depthOpt := 2, noLibcall := true, plt := fun f => f == 1 } cmd
        (evCalls 0 (.cons (.node 0 10 50 (.cons (.node 1 20 40 (.cons (.node 2 25 30 .nil) .nil)) .nil)) .nil))) =
      [{ time := 10, type := 0, depth := 0, addr := 0 }, { time := 50, type := 1, depth := 0, addr := 0 }] := by
  intro cmd; cases cmd <;> decide

/-- **MAIN — record time = replay time, -F / -N / -D / -t.**  For the code with the repair of S4
    (`s4fixed`: the exit hooks keep a call that ran at least the threshold, like the look-ahead
    at analysis time), for every table of -F / -N entries, every -D and every -t, both hook
    families (-pg and -mfentry with the repair of F4, and -finstrument-functions), every forest
    of properly nested calls within --max-stack (zero-duration calls included; an exit time 0 is
    the hooks' "not returned yet" sentinel and excluded): the records the hooks write with the
    options equal what every analysis command shows when the same options are applied to the
    unfiltered eager trace. -/
theorem c07_record_eq_replay (cfg : Cfg) (h : FND cfg) (hs4 : cfg.s4fixed = true) (k : Kind) (cs : Calls) (n : Nat)
    (hh : cs.height ≤ cfg.maxStack) (hn : Calls.allDurLe n cs) (cmd : Cmd) :
    (runCalls cfg k (St.init cfg) cs).out = cmdOut (RCfg.ofRecord cfg) cmd (evCalls 0 cs) := by
  rw [record_out cfg h k cs n hh hn,
    c07_replay_refines_spec (RCfg.ofRecord cfg) (quiet_ofRecord cfg h) rfl ⟨rfl, rfl⟩ h.en cs (ordered_of_allDurLe cs n hn) cmd, hs4]
  rfl

/-- the record side alone, for both versions of the duration test: what the hooks write is the
    documented selection, with `>` before the repair of S4 and `≥` after it -/
theorem c07_record_refines_spec (cfg : Cfg) (h : FND cfg) (k : Kind) (cs : Calls) (n : Nat)
    (hh : cs.height ≤ cfg.maxStack) (hn : Calls.allDurLe n cs) :
    (runCalls cfg k (St.init cfg) cs).out = spec (RCfg.ofRecord cfg) (!cfg.s4fixed) cs :=
  record_out cfg h k cs n hh hn

/-- the code before the repair of S4 (`s4fixed = false`) agrees with the analysis commands only on
    forests in which no call ran exactly as long as the threshold (`c07_time_boundary_witness`) -/
theorem c07_prefix_record_eq_replay_partial (cfg : Cfg) (h : FND cfg) (k : Kind) (cs : Calls) (n : Nat)
    (hh : cs.height ≤ cfg.maxStack) (hn : Calls.allDurLe n cs)
    (hb : Calls.noBoundary (RCfg.ofRecord cfg) cfg.threshold cs) (cmd : Cmd) :
    (runCalls cfg k (St.init cfg) cs).out = cmdOut (RCfg.ofRecord cfg) cmd (evCalls 0 cs) := by
  rw [record_out cfg h k cs n hh hn,
    c07_replay_refines_spec (RCfg.ofRecord cfg) (quiet_ofRecord cfg h) rfl ⟨rfl, rfl⟩ h.en cs (ordered_of_allDurLe cs n hn) cmd]
  simp only [spec]
  have hthr : (RCfg.ofRecord cfg).threshold = cfg.threshold := rfl
  cases cfg.s4fixed with
  | true => rfl
  | false => rw [hthr]; simp only [Bool.not_false]; rw [prune_strict_calls (RCfg.ofRecord cfg) cs _ hb]

/-- non-vacuity: `-F f1 -N f3 -D 2 -t 5` with a three-level forest that contains a call of exactly
    5 ns and a zero-duration call meets all hypotheses of `c07_record_eq_replay` -/
example :
    let cfg : Cfg := { depthOpt := 2, threshold := 5, optIn := true,
                       trig := fun f => { filter := if f = 1 then some true else if f = 3 then some false else none } }
    let cs : Calls := .cons (.node 1 10 60 (.cons (.node 2 20 25 (.cons (.node 3 22 22 .nil) .nil)) .nil)) .nil
    FND cfg ∧ cfg.s4fixed = true ∧ cs.height ≤ cfg.maxStack ∧ Calls.allDurLe 100 cs := by
  refine ⟨⟨rfl, rfl, rfl, rfl, rfl, rfl, fun f => ?_⟩, rfl, by decide, ?_⟩
  · simp only
  · simp [Calls.allDurLe, Call.nestOK, Call.dur]

/-- S4, the code before its repair (`s4fixed := false`): a call that ran exactly the threshold was
    dropped when the threshold was given at record time (`>`), and is shown when it is given at
    replay time (`≥`); with the repair the hooks write it. -/
theorem c07_time_boundary_witness :
    (runCalls { threshold := 10, s4fixed := false } .pg (St.init { threshold := 10, s4fixed := false })
        (.cons (.node 1 100 110 .nil) .nil)).out = [] ∧
    cmdOut (RCfg.ofRecord { threshold := 10 }) .replay (evCalls 0 (.cons (.node 1 100 110 .nil) .nil)) =
      [{ time := 100, type := 0, depth := 0, addr := 1 }, { time := 110, type := 1, depth := 0, addr := 1 }] ∧
    (runCalls { threshold := 10 } .pg (St.init { threshold := 10 }) (.cons (.node 1 100 110 .nil) .nil)).out =
      [{ time := 100, type := 0, depth := 0, addr := 1 }, { time := 110, type := 1, depth := 0, addr := 1 }] := by
  decide

/-! ### finding F-C07-TRACEOFF-FLUSH — a trace_off trigger in a function that the filters reject

`mcount_entry_filter_check` switches tracing off at the TRACE_OFF update; the ENTRY records of the open callers are
written lazily, and before the repair the flush for "tracing goes off" sat only in `mcount_entry_filter_record`,
which a rejected function (depth budget used up, size filter, …) never reaches: the callers were lost from the
record-time trace, while replaying the unfiltered recording with the same options shows them.  Repaired
(`Cfg.f7fixed`, the default): `record_trace_data` for the innermost caller at the TRACE_OFF update. -/

/-- the forest `main{ a{ b{ c{ d }}} x{ y } a{ b{ c{ d }}} }` (main = 0, a = 1, b = 2, c = 3, d = 4, x = 5, y = 6) -/
def onoffForest : Calls :=
  .cons (.node 0 1010 1220
    (.cons (.node 1 1020 1090 (.cons (.node 2 1030 1080 (.cons (.node 3 1040 1070 (.cons (.node 4 1050 1060 .nil) .nil)) .nil)) .nil))
    (.cons (.node 5 1100 1130 (.cons (.node 6 1110 1120 .nil) .nil))
    (.cons (.node 1 1140 1210 (.cons (.node 2 1150 1200 (.cons (.node 3 1160 1190 (.cons (.node 4 1170 1180 .nil) .nil)) .nil)) .nil))
     .nil)))) .nil

/-- `-D 3 -T c@trace_off -T x@trace_on` -/
def onoffCfg (fixed : Bool) : Cfg :=
  { depthOpt := 3, f7fixed := fixed,
    trig := fun f => if f = 3 then { traceOff := true } else if f = 5 then { traceOn := true } else {} }

/-- **The lazy writer's invariant** holds in every state the hooks can reach, for every option set, trigger table,
    hook family and call history (also across trace_on / trace_off, `finish`, --max-stack overflow): below a frame
    whose ENTRY record is written every recordable frame is written, and the calls on the shadow stack carry no
    exit time.  Each hook keeps it … -/
theorem c07_lazy_writer_invariant_step (cfg : Cfg) (k : Kind) (s : St) (f t : Nat) (h : Flush.Inv s) :
    Flush.Inv (entry cfg k s f t).1 ∧ Flush.Inv (exit cfg s t) :=
  ⟨Flush.inv_entry cfg k s f t h, Flush.inv_exit cfg s t h⟩

/-- … so it holds after every forest of calls from the initial state. -/
theorem c07_lazy_writer_invariant (cfg : Cfg) (k : Kind) (cs : Calls) :
    Flush.Inv (runCalls cfg k (St.init cfg) cs) :=
  Flush.inv_runCalls cfg k cs _ (Flush.inv_init cfg)

/-- **A trace_off trigger also flushes when its function is rejected** (repaired code, `f7fixed`; regular
    build; -pg / -mfentry and -finstrument-functions).  For every option set and trigger table, every state of the
    thread that satisfies the lazy writer's invariant (every reachable state, `c07_lazy_writer_invariant`) — i.e.
    for every shadow stack — and every function `f` whose trace_off trigger is reached (room on the shadow stack,
    not inside a -N region, not rejected by opt-in mode / -L before the trigger actions run) while tracing is on:
    whatever the filters decide about `f` itself (`.out`: depth budget used up — the case the code before the
    repair lost — or `.in_`), the entry hook writes exactly the ENTRY records of *all* open callers that are
    recordable (not NORECORD, not DISABLED) and not yet written, outermost first (`owed`), and nothing else; every
    recordable caller is written afterwards; tracing is off. -/
theorem c07_traceoff_in_rejected_flushes (cfg : Cfg) (hfix : cfg.f7fixed = true) (hfast : cfg.fast = false)
    (k : Kind) (s : St) (hinv : Flush.Inv s) (f t0 : Nat)
    (hidx : s.idx < cfg.maxStack) (hout : s.filt.outCount = 0)
    (hearly : earlyOut cfg (cfg.trig f) (saveFilt s.filt) = false)
    (hoff : (cfg.trig f).traceOff = true) (hfin : (cfg.trig f).finish = false) (hen : s.enabled = true) :
    (entry cfg k s f t0).1.out = s.out ++ Flush.owed s.frames ∧
    (entry cfg k s f t0).1.enabled = false ∧
    (∃ callers, Flush.AllWritten callers ∧ callers.map Frame.addr = s.frames.map Frame.addr ∧
      ((entry cfg k s f t0).1.frames = callers ∨
       ∃ F : Frame, F.written = false ∧ F.addr = f ∧ (entry cfg k s f t0).1.frames = F :: callers)) := by
  obtain ⟨o, e, fr⟩ := entry_traceoff cfg hfix hfast k s f t0 hidx hout hearly hoff hfin hen hinv.2
  refine ⟨by rw [o, Flush.pend_eq_owed _ hinv.1], e, mark s.frames, Flush.mark_allWritten _ hinv.1, ?_, fr⟩
  exact Flush.mark_addr s.frames

/-- the rejected case spelled out: `-D` budget used up at the trace_off function -/
theorem c07_traceoff_rejected_by_depth (cfg : Cfg) (hfix : cfg.f7fixed = true) (hfast : cfg.fast = false)
    (s : St) (hinv : Flush.Inv s) (f : Nat)
    (hidx : s.idx < cfg.maxStack) (hout : s.filt.outCount = 0)
    (hearly : earlyOut cfg (cfg.trig f) (saveFilt s.filt) = false)
    (hoff : (cfg.trig f).traceOff = true) (hen : s.enabled = true)
    (hdepth : (trigFilt (cfg.trig f) (matchFilt (cfg.trig f) (saveFilt s.filt))).depth ≥
              depthLimit cfg (cfg.trig f) (saveFilt s.filt)) :
    (entryFilterCheck cfg s f).1 = .out ∧
    (entryFilterCheck cfg s f).2.1.out = s.out ++ Flush.owed s.frames ∧
    Flush.AllWritten (entryFilterCheck cfg s f).2.1.frames := by
  obtain ⟨v, flt, _, hv, hc⟩ := check_traceoff cfg hfix hfast s f hidx hout hearly hoff hen hinv.2
  rw [hc]
  exact ⟨hv.mpr hdepth, by simp [Flush.pend_eq_owed _ hinv.1], Flush.mark_allWritten _ hinv.1⟩

/-- non-vacuity: the state after `main{ a{ b{` of the directed forest under `-D 3 -T c@trace_off -T x@trace_on`
    meets the hypotheses at the entry of `c`, three ENTRY records are owed, and `c` is rejected by the depth -/
example :
    let cfg := onoffCfg true
    let s := (entry cfg .pg (entry cfg .pg (entry cfg .pg (St.init cfg) 0 1010).1 1 1020).1 2 1030).1
    s.idx < cfg.maxStack ∧ s.filt.outCount = 0 ∧ earlyOut cfg (cfg.trig 3) (saveFilt s.filt) = false ∧
    (cfg.trig 3).traceOff = true ∧ (cfg.trig 3).finish = false ∧ s.enabled = true ∧
    (entryFilterCheck cfg s 3).1 = .out ∧ (Flush.owed s.frames).length = 3 := by
  decide

/-- finding F-C07-TRACEOFF-FLUSH, the code before its repair (`f7fixed := false`): under
    `record -D 3 -T c@trace_off -T x@trace_on` on `main{ a{ b{ c{ d }}} x{ y } a{ b{ c{ d }}} }` the trace_off function
    `c` is beyond the depth limit, the pending ENTRY records of `a` and `b` are never written (both times): the
    hooks write only main, x, y — while replaying the unfiltered recording with the same options shows
    main a b x y a b.  Both hook families. -/
theorem c07_prefix_traceoff_flush_witness :
    (∀ k : Kind, (runCalls (onoffCfg false) k (St.init (onoffCfg false)) onoffForest).out =
      [{ time := 1010, type := 0, depth := 0, addr := 0 }, { time := 1100, type := 0, depth := 1, addr := 5 },
       { time := 1110, type := 0, depth := 2, addr := 6 }, { time := 1120, type := 1, depth := 2, addr := 6 },
       { time := 1130, type := 1, depth := 1, addr := 5 }]) ∧
    cmdOut (RCfg.ofRecord (onoffCfg false)) .replay (evCalls 0 onoffForest) =
      [{ time := 1010, type := 0, depth := 0, addr := 0 }, { time := 1020, type := 0, depth := 1, addr := 1 },
       { time := 1030, type := 0, depth := 2, addr := 2 }, { time := 1100, type := 0, depth := 1, addr := 5 },
       { time := 1110, type := 0, depth := 2, addr := 6 }, { time := 1120, type := 1, depth := 2, addr := 6 },
       { time := 1130, type := 1, depth := 1, addr := 5 }, { time := 1140, type := 0, depth := 1, addr := 1 },
       { time := 1150, type := 0, depth := 2, addr := 2 }] := by
  refine ⟨fun k => ?_, ?_⟩
  · cases k <;> decide +kernel
  · decide +kernel

/-- … and with the repair the hooks write exactly what every analysis command shows for the unfiltered recording
    under the same options (both hook families, all five commands), on this input and with the depth limit one
    higher (`c` accepted) or lower (`b` and `c` rejected) -/
theorem c07_record_eq_replay_traceoff_directed (k : Kind) (cmd : Cmd) :
    (runCalls (onoffCfg true) k (St.init (onoffCfg true)) onoffForest).out =
      cmdOut (RCfg.ofRecord (onoffCfg true)) cmd (evCalls 0 onoffForest) ∧
    (runCalls { onoffCfg true with depthOpt := 4 } k (St.init { onoffCfg true with depthOpt := 4 }) onoffForest).out =
      cmdOut (RCfg.ofRecord { onoffCfg true with depthOpt := 4 }) cmd (evCalls 0 onoffForest) ∧
    (runCalls { onoffCfg true with depthOpt := 2 } k (St.init { onoffCfg true with depthOpt := 2 }) onoffForest).out =
      cmdOut (RCfg.ofRecord { onoffCfg true with depthOpt := 2 }) cmd (evCalls 0 onoffForest) := by
  have ho : Calls.ordered onoffForest := by simp [onoffForest, Calls.ordered, Call.ordered]
  -- the commands agree (`c07_commands_agree_traceoff`): evaluate one of them
  have key : ∀ cfg : Cfg, cmdOut (RCfg.ofRecord cfg) cmd (evCalls 0 onoffForest) =
      cmdOut (RCfg.ofRecord cfg) .report (evCalls 0 onoffForest) :=
    fun cfg => c07_commands_agree_traceoff (RCfg.ofRecord cfg) rfl ⟨rfl, rfl⟩ onoffForest ho cmd .report
  rw [key, key, key]
  cases k <;> decide +kernel

/-- **Record time = replay time with trace_off triggers** (the extension of `c07_record_eq_replay` that the repair
    of F-C07-TRACEOFF-FLUSH makes true).  For the repaired code (`f7fixed`, `f4fixed`, `s4fixed`), every table of
    -F / -N entries with trace_off triggers on any functions that are not -N functions themselves — accepted,
    beyond the -D limit, outside the -F regions or inside a -N region —, every -D, no -t and no trace_on trigger,
    both hook families, every forest of properly nested calls within --max-stack: the records the hooks write equal
    what every analysis command shows when the same options are applied to the unfiltered eager trace — the
    documented selection up to the first trace_off trigger that is reached (`offCalls`), with the ENTRY records of
    the calls still open at that point.  (With `f7fixed = false` this fails: `c07_prefix_traceoff_flush_witness`.
    Outside the class — trace_on, -t, trace_off on a -N function — the two times implement the switch differently
    by construction, see checks/c07.py `ctx.assumptions` (a)–(d).) -/
theorem c07_record_eq_replay_traceoff (cfg : Cfg) (h : FNDoff cfg) (k : Kind) (cs : Calls) (n : Nat)
    (hh : cs.height ≤ cfg.maxStack) (hn : Calls.allDurLe n cs) (cmd : Cmd) :
    (runCalls cfg k (St.init cfg) cs).out = cmdOut (RCfg.ofRecord cfg) cmd (evCalls 0 cs) :=
  record_eq_replay_off cfg h k cs n hh hn cmd

/-- … and both are the documented selection up to the first trace_off trigger that is reached -/
theorem c07_record_refines_spec_traceoff (cfg : Cfg) (h : FNDoff cfg) (k : Kind) (cs : Calls) (n : Nat)
    (hh : cs.height ≤ cfg.maxStack) (hn : Calls.allDurLe n cs) :
    (runCalls cfg k (St.init cfg) cs).out =
      (offCalls (RCfg.ofRecord cfg) (Env.init (RCfg.ofRecord cfg)) 0 cs).1 :=
  record_out_off cfg h k cs hh (ended_of_allDurLe cs n hn)

/-- non-vacuity: `-D 3 -T c@trace_off` (c beyond the depth limit) and `-F a -N d -D 2 -T b@trace_off` on the directed
    forest meet the hypotheses of `c07_record_eq_replay_traceoff`, and tracing does go off -/
example :
    let cfg1 : Cfg := { depthOpt := 3, trig := fun f => { traceOff := f == 3 } }
    let cfg2 : Cfg := { depthOpt := 2, optIn := true,
                        trig := fun f => { filter := if f = 1 then some true else if f = 4 then some false else none,
                                           traceOff := f == 2 } }
    FNDoff cfg1 ∧ FNDoff cfg2 ∧ onoffForest.height ≤ cfg1.maxStack ∧ Calls.allDurLe 1000 onoffForest ∧
    (offCalls (RCfg.ofRecord cfg1) (Env.init (RCfg.ofRecord cfg1)) 0 onoffForest).2 = false ∧
    (offCalls (RCfg.ofRecord cfg1) (Env.init (RCfg.ofRecord cfg1)) 0 onoffForest).1.length = 3 := by
  refine ⟨⟨rfl, rfl, rfl, rfl, rfl, rfl, rfl, rfl, rfl, fun f => ?_, fun f hf => ?_⟩,
    ⟨rfl, rfl, rfl, rfl, rfl, rfl, rfl, rfl, rfl, fun f => ?_, fun f hf => ?_⟩, by decide, ?_, by decide, by decide⟩
  · rfl
  · simp
  · rfl
  · simp only [beq_iff_eq] at hf
    subst hf
    decide
  · simp [onoffForest, Calls.allDurLe, Call.nestOK, Call.dur]

end Uft.C07

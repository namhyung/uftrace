import Uft.Lemmas.Symtab
import Uft.Lemmas.SymFile
import Uft.Lemmas.Session
import Uft.Lemmas.DlRecord
import Uft.Lemmas.ElfSym
/-
C10 — Recorded addresses resolve to the right symbol, module and session.
Property theorems and their examples (helpers are in Lemmas/{Symtab,SymFile,Session,DlRecord,ElfSym}.lean).
-/
namespace Uft.C10
open Uft.Symtab Uft.SymFile Uft.Session

/-! ## address → symbol (find_sym / bsearch + addrfind) -/

/-- Whatever the table looks like, a symbol that `find_sym` returns is an entry of the
    table, contains the address, and is not one of the `__sym_end` markers. -/
theorem c10_find_sound (t : List Sym) (a : Nat) (s : Sym) (h : findSym t a = some s) :
    s ∈ t ∧ s.contains a ∧ isSymbolEnd s.name = false := by
  obtain ⟨hb, he⟩ := dropSymEnd_some h
  obtain ⟨hm, hc⟩ := bsearch_some _ _ _ hb
  exact ⟨hm, (addrfind_zero_iff a s).mp hc, he⟩

/-- On a well-formed table (address-sorted; two entries are disjoint or cover the same
    range) an address inside some symbol resolves to a symbol that contains it, and an
    address inside no symbol resolves to nothing (it is shown as a raw address). -/
theorem c10_find_correct (t : List Sym) (a : Nat) (hwf : WellFormed t) :
    ((∃ s ∈ t, s.contains a) → (∀ s ∈ t, s.contains a → isSymbolEnd s.name = false) →
        ∃ s', findSym t a = some s' ∧ s' ∈ t ∧ s'.contains a) ∧
    ((∀ s ∈ t, ¬ s.contains a) → findSym t a = none) := by
  constructor
  · intro ⟨s, hs, hc⟩ hne
    cases hb : bsearch (addrfind a) t with
    | none => exact absurd hc (bsearch_none t hwf a hb s hs)
    | some s' =>
      obtain ⟨hm, hz⟩ := bsearch_some _ _ _ hb
      have hc' := (addrfind_zero_iff a s').mp hz
      exact ⟨s', by simp [findSym, hb, dropSymEnd, hne s' hm hc'], hm, hc'⟩
  · intro hno
    cases hf : findSym t a with
    | none => rfl
    | some s => exact absurd (c10_find_sound t a s hf).2.1 (hno s (c10_find_sound t a s hf).1)

example : WellFormed [⟨0x100, 0x10, 'T', ['a']⟩, ⟨0x110, 0, 't', ['z']⟩, ⟨0x110, 8, 'T', ['b']⟩,
    ⟨0x200, 4, 'T', ['c']⟩] := by decide

/-- The answer is unique up to symbols with the identical range (aliases kept by the
    `.sym` loader): the symbol found covers exactly the range of any symbol of the table
    that contains the address. -/
theorem c10_find_unique_range (t : List Sym) (a : Nat) (hwf : WellFormed t) (s r : Sym)
    (hs : s ∈ t) (hc : s.contains a) (hr : findSym t a = some r) :
    r.addr = s.addr ∧ r.stop = s.stop := by
  obtain ⟨hm, hcr, _⟩ := c10_find_sound t a r hr
  exact wf_same_range t hwf a r s hm hs hcr hc

/-- Boundaries: the first and the last byte of a symbol resolve to (the range of) that
    symbol; one past the end resolves only to a symbol that starts exactly there. -/
theorem c10_boundaries (t : List Sym) (hwf : WellFormed t) (s : Sym) (hs : s ∈ t)
    (hsz : 0 < s.size) (hnw : s.addr + s.size < U64)
    (hne : ∀ s' ∈ t, s'.addr = s.addr → isSymbolEnd s'.name = false) :
    (∃ r, findSym t s.addr = some r ∧ r.addr = s.addr ∧ r.stop = s.stop) ∧
    (∃ r, findSym t (s.addr + s.size - 1) = some r ∧ r.addr = s.addr ∧ r.stop = s.stop) ∧
    (∀ r, findSym t (s.addr + s.size) = some r → r.addr = s.addr + s.size) := by
  have hstop : s.stop = s.addr + s.size := by unfold Sym.stop; exact Nat.mod_eq_of_lt hnw
  have inside : ∀ a, s.contains a → ∃ r, findSym t a = some r ∧ r.addr = s.addr ∧ r.stop = s.stop := by
    intro a hc
    have hne' : ∀ s' ∈ t, s'.contains a → isSymbolEnd s'.name = false := by
      intro s' hs' hc'
      exact hne s' hs' (wf_same_range t hwf a s' s hs' hs hc' hc).1
    obtain ⟨r, hr, _, _⟩ := (c10_find_correct t a hwf).1 ⟨s, hs, hc⟩ hne'
    exact ⟨r, hr, c10_find_unique_range t a hwf s r hs hc hr⟩
  refine ⟨inside _ ?_, inside _ ?_, ?_⟩
  · unfold Sym.contains; omega
  · unfold Sym.contains; omega
  · intro r hr
    obtain ⟨hm, hcr, _⟩ := c10_find_sound t _ r hr
    unfold Sym.contains at hcr
    rcases wf_pair t hwf s r hs hm with e | e | e
    · subst e; omega
    · unfold Compat at e; omega
    · unfold Compat at e; omega

example : ∃ t s, WellFormed t ∧ s ∈ t ∧ 0 < s.size ∧ s.addr + s.size < U64 ∧
    (∀ s' ∈ t, s'.addr = s.addr → isSymbolEnd s'.name = false) :=
  ⟨[⟨0x100, 0x10, 'T', ['a']⟩, ⟨0x110, 8, 'T', ['b']⟩], ⟨0x100, 0x10, 'T', ['a']⟩, by decide⟩

/-- Zero-size symbols contain nothing, and are never the answer of a lookup — for any
    table. -/
theorem c10_zero_size_never_found (t : List Sym) (a : Nat) (r : Sym) (hr : findSym t a = some r) :
    r.size ≠ 0 := by
  obtain ⟨_, hc, _⟩ := c10_find_sound t a r hr
  unfold Sym.contains Sym.stop at hc
  intro h0
  rw [h0, Nat.add_zero] at hc
  have := Nat.mod_le r.addr U64
  omega

/-- an address-sorted table with a zero-size entry inside another symbol's range -/
def overlapTable : List Sym :=
  [⟨0x10, 0x20, 'T', ['o','u','t','e','r']⟩, ⟨0x18, 0, 't', ['m','i','d']⟩,
   ⟨0x40, 8, 'T', ['n','e','x','t']⟩]

/-- Why well-formedness is needed: a zero-size entry inside another symbol's range makes
    the binary search miss that symbol (0x20 is inside `outer` = [0x10, 0x30)). -/
theorem c10_overlap_witness :
    AddrSorted overlapTable ∧ ¬ WellFormed overlapTable ∧
    (∃ s ∈ overlapTable, s.contains 0x20) ∧ findSym overlapTable 0x20 = none := by
  decide

/-! ## module lookup with relative addresses (find_symtabs) -/

/-- ASLR independence: an address that falls into the map of a module loaded at
    `m.start` is looked up in the module's table by its offset only. -/
theorem c10_relocation_invariant (si : SymInfo) (m : Map) (off : Nat)
    (hmap : findMap si (m.start + off) = some m) (hk : m.start + off < si.kernelBase) :
    findSymtabs si (m.start + off) = findSym m.syms off := by
  unfold findSymtabs
  rw [if_neg (by omega), hmap]
  simp [findSym, Nat.add_sub_cancel_left]

/-- … in particular the same module mapped at two different bases (two sessions, or
    two runs) gives the same symbol for the same offset. -/
theorem c10_relocation_two_bases (si₁ si₂ : SymInfo) (m₁ m₂ : Map) (off : Nat)
    (hsyms : m₁.syms = m₂.syms)
    (h₁ : findMap si₁ (m₁.start + off) = some m₁) (k₁ : m₁.start + off < si₁.kernelBase)
    (h₂ : findMap si₂ (m₂.start + off) = some m₂) (k₂ : m₂.start + off < si₂.kernelBase) :
    findSymtabs si₁ (m₁.start + off) = findSymtabs si₂ (m₂.start + off) := by
  rw [c10_relocation_invariant si₁ m₁ off h₁ k₁, c10_relocation_invariant si₂ m₂ off h₂ k₂, hsyms]

/-- Non-vacuity of the premises, for every base: a single module of length `len`
    below the kernel base. -/
theorem c10_relocation_single (base len kb off : Nat) (t : List Sym)
    (hoff : off < len) (hkb : base + len ≤ kb) :
    findSymtabs { kernelBase := kb, maps := [⟨base, base + len, t⟩] } (base + off)
      = findSym t off := by
  have := c10_relocation_invariant { kernelBase := kb, maps := [⟨base, base + len, t⟩] }
    ⟨base, base + len, t⟩ off
  apply this
  · simp [findMap]; omega
  · simp; omega

/-- An address outside every map (and below the kernel) resolves to nothing. -/
theorem c10_unmapped_is_raw (si : SymInfo) (a : Nat) (hk : a < si.kernelBase)
    (hno : ∀ m ∈ si.maps, ¬ (m.start ≤ a ∧ a < m.stop)) : findSymtabs si a = none := by
  unfold findSymtabs findMap
  rw [if_neg (by omega)]
  have : si.maps.find? (fun m => decide (m.start ≤ a ∧ a < m.stop)) = none := by
    rw [List.find?_eq_none]
    intro m hm
    simpa using hno m hm
  rw [this]

/-! ## .sym files -/

/-- If the sizes in the file (after the back-fill) do not properly overlap, the table
    that `load_module_symbol_file` leaves in memory is well-formed. -/
theorem c10_load_establishes_wf (off : Nat) (text : List Char)
    (h : NoProperOverlap (rawLoad off text)) : WellFormed (load off text) :=
  wf_sort_of_noclash _ h

/-- … hence lookups in a loaded table are correct (composition with `c10_find_correct`). -/
theorem c10_load_then_find (off : Nat) (text : List Char) (a : Nat)
    (h : NoProperOverlap (rawLoad off text)) (s : Sym) (hs : s ∈ rawLoad off text)
    (hc : s.contains a) :
    ∃ r, findSym (load off text) a = some r ∧ r.addr = s.addr ∧ r.stop = s.stop := by
  have hwf := c10_load_establishes_wf off text h
  have hs' : s ∈ load off text := (sortByAddr_perm _).mem_iff.mpr hs
  have hne : ∀ s' ∈ load off text, s'.contains a → isSymbolEnd s'.name = false := by
    intro s' hs' _
    exact rawLoad_no_symend off text s' ((sortByAddr_perm _).mem_iff.mp hs')
  obtain ⟨r, hr, _, _⟩ := (c10_find_correct _ a hwf).1 ⟨s, hs', hc⟩ hne
  exact ⟨r, hr, c10_find_unique_range _ a hwf s r hs' hc hr⟩

/-- Round trip: a table that `save_module_symbol_file` can express (address-sorted, every
    size non-zero and below 0xa0000000, an allowed type, a name without TAB/newline that is
    not a `__sym_end` marker, no two consecutive entries with the same (addr, type)) is read
    back by `load_module_symbol_file` exactly as it was — for every load offset, path and
    build-id. -/
theorem c10_load_save (off : Nat) (path bid : List Char) (t : List Sym)
    (hp : '\n' ∉ path) (hb : '\n' ∉ bid) (hok : ∀ s ∈ t, SaveOk s)
    (hsorted : AddrSorted t) (hnd : NoAdjDup t) :
    load off (save off path bid t) = t := by
  cases t with
  | nil => simp [save, load, rawLoad, splitLines, splitLinesAux, sortByAddr]
  | cons s r =>
    unfold load rawLoad
    rw [splitLines_save off path bid (s :: r) hp hb hok (by simp)]
    rw [List.foldl_append, foldl_hash off _ _ (fun l hl => (hdrLines_spec _ _ _ hp hb l hl).1)]
    rw [foldl_saved off (s :: r) {} hok hnd
      (fun x h e => (allowed_ne_nl _ (hok x (List.mem_of_mem_head? h)).type).2 e.2)
      (fun _ h => nomatch h)]
    simp only [List.append_nil, List.reverse_reverse]
    exact sortByAddr_of_sorted _ hsorted

example : ∃ t : List Sym, t ≠ [] ∧ (∀ s ∈ t, SaveOk s) ∧ AddrSorted t ∧ NoAdjDup t :=
  ⟨[⟨0x1000, 0x10, 'T', ['m','a','i','n']⟩, ⟨0x1010, 0x20, 't', ['o','p',' ','n','e','w']⟩],
   by simp, by decide, by decide, by simp [NoAdjDup]⟩

/-- Why the size bound is needed: `%08x` of a size whose first hex digit is a letter is
    read back as a type character, and the line is dropped. -/
theorem c10_load_save_big_size_witness :
    load 0 (save 0 ['p'] [] [⟨0x1000, 0xa0000000, 'T', ['h','u','g','e']⟩]) = [] := by
  decide +kernel

/-! ## which symbol file belongs to a module (load_module_symbol, --with-syms) -/

/-- When the build-id in the header of the primary file `<basename>.sym` conflicts with the
    module's, the alternative name `<basename>-<id4>.sym` is taken — with or without a separate
    symbol directory (SYMTAB_FL_SYMS_DIR waives the path-name comparison only). -/
theorem c10_symfile_conflict_uses_alt (d : SymDir) (withSyms : Bool) (mname mbid text : List Char)
    (hfile : d.get (basename mname ++ ".sym".toList) = some text)
    (hcnt : (checkSymbolFile text).count > 0)
    (hb : (checkSymbolFile text).bid ≠ []) (hm : mbid ≠ [])
    (hdiff : (checkSymbolFile text).bid ≠ mbid) :
    selectSymName d withSyms mname mbid = newSymName (basename mname ++ ".sym".toList) mname mbid := by
  rw [selectSymName_of_get d withSyms mname mbid text hfile, if_pos ⟨hcnt, Or.inr ⟨hb, hm, hdiff⟩⟩]

/-- … hence the primary file is never used for a module whose build-id conflicts with the one
    in the file's header. -/
theorem c10_symfile_primary_buildid (d : SymDir) (withSyms : Bool) (mname mbid text : List Char)
    (hsel : selectSymName d withSyms mname mbid = basename mname ++ ".sym".toList)
    (hfile : d.get (basename mname ++ ".sym".toList) = some text)
    (hcnt : (checkSymbolFile text).count > 0)
    (hb : (checkSymbolFile text).bid ≠ []) (hm : mbid ≠ [])
    (hne : newSymName (basename mname ++ ".sym".toList) mname mbid ≠ basename mname ++ ".sym".toList) :
    (checkSymbolFile text).bid = mbid := by
  apply Classical.byContradiction
  intro hdiff
  rw [c10_symfile_conflict_uses_alt d withSyms mname mbid text hfile hcnt hb hm hdiff] at hsel
  exact hne hsel

/-- two libraries `red/libp.so` and `blue/libp.so` with different build-ids, saved by record -/
def twoLibsDir : SymDir :=
  saveInto (saveInto [] "/r/libp.so".toList "aaaa11".toList [⟨0x100, 0x10, 'T', "red".toList⟩])
    "/b/libp.so".toList "bbbb22".toList [⟨0x100, 0x20, 'T', "blue".toList⟩]

/-- Non-vacuity / end-to-end instance: each of the two same-named libraries gets its own
    table back, with and without `--with-syms`. -/
theorem c10_symfile_two_libs_witness :
    ∀ ws : Bool,
      moduleTable twoLibsDir ws "/r/libp.so".toList "aaaa11".toList = [⟨0x100, 0x10, 'T', "red".toList⟩] ∧
      moduleTable twoLibsDir ws "/b/libp.so".toList "bbbb22".toList = [⟨0x100, 0x20, 'T', "blue".toList⟩] := by
  decide +kernel

/-! ## writer and reader of the symbol files agree (save_module_symtabs vs load_module_symbol) -/

/-- Writer/reader agreement on WHICH file holds WHICH module's symbols.  `record` saves the
    modules in any order (`save_module_symbol_file` as coded: `<base>.sym` if free; else the
    header of `<base>.sym` is compared by path name AND build-id — equal: already saved,
    different: `<base>-<id4 | path checksum>.sym` unless taken).  For every set of modules
    — any path names, equal base names with different build-ids, the same build-id under
    different path names, with and without build-ids — that is consistent (`Consistent`: a
    path names one file, a build-id one binary, alternative names collide only for
    installations of one binary, every binary has a build-id under `--with-syms`), the file
    `load_module_symbol` selects for a module with symbols exists and holds that module's
    table (written for the module itself or for another installation of the same binary). -/
theorem c10_symfile_writer_reader_agree (ws : Bool) (ms : List Mod) (hC : Consistent ws ms)
    (m : Mod) (hm : m ∈ ms) (hne : m.tab ≠ []) :
    ∃ m' ∈ ms, m'.tab = m.tab ∧
      (saveAll ms).get (selectSymName (saveAll ms) ws m.path m.bid) =
        some (save 0 m'.path m'.bid m'.tab) := by
  obtain ⟨pre, post, hsplit⟩ := List.append_of_mem hm
  have hW : Written pre (pre.foldl saveStep []) := by
    simpa using written_foldl pre [] [] (fun nm text h => by simp [SymDir.get] at h)
  have hfin : saveAll ms = post.foldl saveStep (saveStep (pre.foldl saveStep []) m) := by
    unfold saveAll; rw [hsplit, List.foldl_append, List.foldl_cons]
  rw [hfin]
  exact reader_after_step ws ms pre _ _ m hC (fun x hx => by rw [hsplit]; simp [hx]) hm hW hne
    (fun nm x h => foldl_saveStep_mono post _ nm x h)

/-- … hence the analysis without the binaries (SYMTAB_FL_USE_SYMFILE, nothing to fall back
    to) works on the very table record had in memory, for every module of the recording. -/
theorem c10_symfile_saved_tables_reload (ws : Bool) (ms : List Mod) (hC : Consistent ws ms)
    (m : Mod) (hm : m ∈ ms) (hne : m.tab ≠ []) (hsorted : AddrSorted m.tab) (hnd : NoAdjDup m.tab) :
    moduleTable (saveAll ms) ws m.path m.bid = m.tab := by
  obtain ⟨m', hm', htab, hg⟩ := c10_symfile_writer_reader_agree ws ms hC m hm hne
  obtain ⟨hp, hb, _, hok⟩ := hC.ok m' hm'
  unfold moduleTable
  simp only [hg]
  rw [c10_load_save 0 m'.path m'.bid m'.tab hp hb hok (htab ▸ hsorted) (htab ▸ hnd), htab]

/-- one binary installed under two path names with the same base name (`v1/stage` exec()s its
    copy `v2/stage`), a different binary of that name, and a build-id-less one -/
def stageMods : List Mod :=
  [⟨"/v1/stage".toList, "ab12cd".toList, [⟨0x100, 0x10, 'T', "first".toList⟩]⟩,
   ⟨"/v2/stage".toList, "ab12cd".toList, [⟨0x100, 0x10, 'T', "first".toList⟩]⟩,
   ⟨"/v3/stage".toList, "ee34cd".toList, [⟨0x200, 0x20, 'T', "other".toList⟩]⟩,
   ⟨"/v4/stage".toList, [], [⟨0x300, 0x30, 't', "noid".toList⟩]⟩]

theorem stageMods_consistent :
    Consistent false stageMods ∧ Consistent true (stageMods.take 3) := by
  have h : Consistent false stageMods := by decide +kernel
  exact ⟨h, h.subset (fun _ hm => List.mem_of_mem_take hm) (fun _ => by decide +kernel)⟩

/-- Non-vacuity: the hypotheses hold for that recording (without `--with-syms`; with it for
    the three installations that have a build-id) … -/
example : Consistent false stageMods ∧ Consistent true (stageMods.take 3) :=
  stageMods_consistent

/-- … and the instance itself: every installation gets its table back in both modes (the
    build-id-less one only where the path name is compared), by the theorem above; the file names
    are evaluated. -/
theorem c10_symfile_same_binary_two_paths_witness :
    (∀ ws : Bool, ∀ m ∈ stageMods.take 3, moduleTable (saveAll (stageMods.take 3)) ws m.path m.bid = m.tab) ∧
    (∀ m ∈ stageMods, moduleTable (saveAll stageMods) false m.path m.bid = m.tab) ∧
    ((saveAll stageMods).map (·.1) =
      ["stage.sym".toList, "stage-ab12.sym".toList, "stage-ee34.sym".toList, "stage-031c.sym".toList]) := by
  have hone : ∀ m ∈ stageMods, m.tab.length = 1 := by decide
  have reload : ∀ ws ms, Consistent ws ms → (∀ m ∈ ms, m ∈ stageMods) →
      ∀ m ∈ ms, moduleTable (saveAll ms) ws m.path m.bid = m.tab := by
    intro ws ms hC hsub m hm
    obtain ⟨s, hs⟩ := List.length_eq_one_iff.mp (hone m (hsub m hm))
    have hne : m.tab ≠ [] := by rw [hs]; exact List.cons_ne_nil _ _
    have hsorted : AddrSorted m.tab := by rw [hs]; exact List.pairwise_singleton _ _
    have hnd : NoAdjDup m.tab := by rw [hs]; trivial
    exact c10_symfile_saved_tables_reload ws ms hC m hm hne hsorted hnd
  refine ⟨fun ws => ?_, reload false _ stageMods_consistent.1 (fun _ h => h), by decide +kernel⟩
  exact reload ws _
    (stageMods_consistent.2.subset (fun _ h => h) (fun _ => stageMods_consistent.2.withSyms rfl))
    (fun _ h => List.mem_of_mem_take h)

/-! ## session in force at a timestamp -/

/-- References added in time order: the session used for time `t` is the one of the
    latest `add_session_ref` call with `ts ≤ t` (later call wins among equal times);
    before the first call the parent's (or thread leader's) session is used. -/
theorem c10_session_by_time (tasks : List Task) (task : Task) (adds : Adds) (t fuel : Nat)
    (hrefs : task.refs = buildRefs adds) (hs : adds.Pairwise (fun x y => x.2 ≤ y.2))
    (ht : t < TMAX) :
    (∀ x, (adds.filter (fun x => decide (x.2 ≤ t))).getLast? = some x →
        findTaskSession tasks (fuel + 1) (some task) t = some x.1) ∧
    ((∀ x ∈ adds, t < x.2) →
        findTaskSession tasks (fuel + 1) (some task) t =
          (let parent := if task.ppid ≠ 0 then task.ppid else task.pid
           if parent = 0 ∨ parent = task.tid then none
           else findTaskSession tasks fuel (findTask tasks parent) t)) := by
  have key := findRef_refsOf adds t ht hs
  rw [← buildRefs_eq, ← hrefs] at key
  constructor
  · intro x hx
    rw [hx] at key
    cases hf : findRef task.refs t with
    | none => simp [hf] at key
    | some r =>
      simp only [hf, Option.map_some, Option.some.injEq] at key
      simp [findTaskSession, hf, key]
  · intro hall
    have hnone : findRef task.refs t = none := by
      rw [hrefs, buildRefs_eq]; exact findRef_refsOf_before adds t hall
    simp [findTaskSession, hnone]

example : ∃ adds : Adds, adds.Pairwise (fun x y => x.2 ≤ y.2) ∧
    (adds.filter (fun x => decide (x.2 ≤ 150))).getLast? = some (7, 100) :=
  ⟨[(7, 100), (8, 200)], by decide⟩

/-- `create_session` keeps the session tree ordered by (pid, start time). -/
theorem c10_sessions_sorted (xs : List Sess) :
    SessSorted (xs.foldl createSession {}).sessions := by
  suffices h : ∀ (lk : Link), SessSorted lk.sessions → SessSorted (xs.foldl createSession lk).sessions from
    h {} List.Pairwise.nil
  induction xs with
  | nil => intro lk h; exact h
  | cons x r ih => intro lk h; exact ih _ (insertSess_sorted x lk.sessions h)

/-- `find_session(pid, t)` (used when a task is created, forks or execs): the session it
    returns belongs to that pid, had started by `t`, and no session of the pid that had
    started by `t` started later; it returns nothing only if there is no such session. -/
theorem c10_session_lookup_latest (ss : List Sess) (hs : SessSorted ss) (pid ts : Nat) :
    (∀ s, findSession ss pid ts = some s →
        s ∈ ss ∧ s.pid = pid ∧ s.start ≤ ts ∧
        ∀ s' ∈ ss, s'.pid = pid → s'.start ≤ ts → s'.start ≤ s.start) ∧
    (findSession ss pid ts = none → ∀ s' ∈ ss, ¬ (s'.pid = pid ∧ s'.start ≤ ts)) := by
  unfold findSession
  have hsorted := hs.filter (fun s => s.pid == pid && decide (s.start ≤ ts))
  have hmem : ∀ s', s' ∈ ss.filter (fun s => s.pid == pid && decide (s.start ≤ ts)) ↔
      s' ∈ ss ∧ s'.pid = pid ∧ s'.start ≤ ts := by
    intro s'
    rw [List.mem_filter, Bool.and_eq_true, beq_iff_eq, decide_eq_true_eq]
  generalize ss.filter (fun s => s.pid == pid && decide (s.start ≤ ts)) = F at hsorted hmem ⊢
  constructor
  · intro s hf
    obtain ⟨ys, rfl⟩ := List.getLast?_eq_some_iff.mp hf
    obtain ⟨h1, h2, h3⟩ := (hmem s).mp (by simp)
    refine ⟨h1, h2, h3, fun s' hs' hp ht => ?_⟩
    -- the other sessions of the pid that had started come before `s` in the sorted list
    rcases List.mem_append.mp ((hmem s').mpr ⟨hs', hp, ht⟩) with e | e
    · have := (List.pairwise_append.mp hsorted).2.2 s' e s (by simp)
      omega
    · rw [List.mem_singleton.mp e]
      exact Nat.le_refl _
  · intro hf s' hs' hpt
    rw [List.getLast?_eq_none_iff.mp hf] at hmem
    exact List.not_mem_nil ((hmem s').mpr ⟨hs', hpt⟩)

/-- The reference intervals of one task never overlap, so "the" reference with
    `start ≤ t < end` is unique. -/
theorem c10_session_refs_disjoint (adds : Adds) (hs : adds.Pairwise (fun x y => x.2 ≤ y.2)) :
    (buildRefs adds).Pairwise (fun a b => a.stop ≤ b.start) := by
  rw [buildRefs_eq]; exact refsOf_disjoint adds hs

/-! ## dlopen'ed libraries -/

/-- `session_add_dlopen` keeps the list ordered by load time. -/
theorem c10_dlopen_sorted (xs : List DlLib) :
    (xs.foldl addDlopen []).Pairwise (fun a b => a.time ≤ b.time) :=
  foldl_addDlopen_sorted xs [] List.Pairwise.nil

/-- A library is used only for `t ≥` its load time, and among the eligible libraries
    that resolve the address the most recently loaded one wins. -/
theorem c10_dlopen_by_time (libs : List DlLib) (t a : Nat)
    (hs : libs.Pairwise (fun x y => x.time ≤ y.time)) :
    (∀ s, findDlsym libs t a = some s →
        ∃ l ∈ libs, l.time ≤ t ∧ findSym l.syms (sub64 a l.base) = some s ∧
          ∀ l' ∈ libs, l.time < l'.time → l'.time ≤ t → findSym l'.syms (sub64 a l'.base) = none) ∧
    (findDlsym libs t a = none ↔
        ∀ l ∈ libs, l.time ≤ t → findSym l.syms (sub64 a l.base) = none) ∧
    findDlsym libs t a = findDlsym (libs.filter (fun l => decide (l.time ≤ t))) t a := by
  unfold findDlsym
  -- what the function under `findSome?` says of one library
  have hnone : ∀ l : DlLib, (if l.time > t then none else findSym l.syms (sub64 a l.base)) = none ↔
      (l.time ≤ t → findSym l.syms (sub64 a l.base) = none) := by
    intro l
    by_cases h : l.time > t
    · simp only [if_pos h, true_iff]
      omega
    · simp only [if_neg h, Nat.le_of_not_lt h, true_imp_iff]
  refine ⟨?_, ?_, ?_⟩
  · intro s h
    obtain ⟨l₁, l, l₂, hsplit, hl, hnewer⟩ := List.findSome?_eq_some_iff.mp h
    have hlibs : libs = l₂.reverse ++ l :: l₁.reverse := by
      simpa using congrArg List.reverse hsplit
    split at hl
    · cases hl
    · rename_i hle
      refine ⟨l, by simp [hlibs], Nat.le_of_not_lt hle, hl, fun l' hl' hlt hle' => ?_⟩
      rw [hlibs] at hl' hs
      rcases List.mem_append.mp hl' with hm | hm
      · have := (List.pairwise_append.mp hs).2.2 l' hm l (by simp)
        omega
      · rcases List.mem_cons.mp hm with e | e
        · subst e
          omega
        · exact (hnone l').mp (hnewer l' (List.mem_reverse.mp e)) hle'
  · rw [List.findSome?_eq_none_iff]
    exact ⟨fun h l hl => (hnone l).mp (h l (List.mem_reverse.mpr hl)),
      fun h l hl => (hnone l).mpr (h l (List.mem_reverse.mp hl))⟩
  · rw [← List.filter_reverse]
    exact (findSome?_filter_irrelevant _ _ _ fun x hx => if_pos (by simpa using hx)).symm

example : ∃ libs : List DlLib, libs.Pairwise (fun x y => x.time ≤ y.time) ∧
    findDlsym libs 250 0x7003410 = some ⟨0x400, 0x100, 'T', ['f','o','o']⟩ ∧
    findDlsym libs 150 0x7003410 = none :=
  ⟨addDlopen [] ⟨200, 0x7003000, [⟨0x300, 0x100, 'T', ['_','s']⟩, ⟨0x400, 0x100, 'T', ['f','o','o']⟩]⟩,
   by decide⟩

/-! ## record time: the DLOPEN messages libmcount sends (libmcount/wrap.c)

`DlRecord.step` models the dlopen()/dlclose() wrappers, the loader's list, the clock and
`mcount_entry`; `Valid` states what the environment may do (see `DlRecord.EvOk`), `Init` a state
right after start-up.  `dlFixed` is the code with proposed_fixes/C10-DLREPORT.diff; the code as it
is (`dlCoded`) has the witnesses below (finding C10-DLREPORT). -/

open Uft.DlRecord in
/-- wrap.c with proposed_fixes/C10-DLREPORT.diff -/
def dlFixed : Uft.DlRecord.Cfg := { fixed := true, stampAtSend := false }

/-- wrap.c as it is -/
def dlCoded : Uft.DlRecord.Cfg := { fixed := false, stampAtSend := false }

section DlRecord
open Uft.DlRecord

/-- Every DLOPEN message carries the name and load address of one object the loader mapped and
    a time that is not later than the moment the loader mapped it — hence not later than any
    record made while that object was mapped; and once every dlopen() has returned, every object
    that is not in the session maps has such a message.  For every history of clock ticks,
    traced calls, nested and concurrent dlopen() calls, loads and dlclose() calls. -/
theorem c10_dlopen_msg_time_before_load (st0 : St) (evs : List Ev) (hinit : Init st0)
    (hv : Valid dlFixed st0 evs) :
    (∀ m ∈ (run dlFixed st0 evs).msgs,
        m.time ≤ m.obj.born ∧ m.name = m.obj.name ∧ m.bias = m.obj.bias) ∧
    (∀ r ∈ (run dlFixed st0 evs).recs, ∀ o ∈ r.objs, ∀ m ∈ (run dlFixed st0 evs).msgs,
        m.obj = o → m.time ≤ r.time) ∧
    ((run dlFixed st0 evs).wins = [] →
      ∀ r ∈ (run dlFixed st0 evs).recs, ∀ o ∈ r.objs, Dyn st0.maps o →
        ∃ m ∈ (run dlFixed st0 evs).msgs, m.obj = o ∧ m.time ≤ r.time) := by
  have hinv := inv_run st0.maps dlFixed rfl rfl st0 evs (inv_init st0 hinit) hv
  refine ⟨?_, ?_, ?_⟩
  · exact hinv.msgok
  · intro r hr o ho m hm he
    have h1 := (hinv.msgok m hm).1
    have h2 := (hinv.recs r hr).1 o ho
    rw [he] at h1
    omega
  · intro hw r hr o ho hd
    have hrep : Reported (run dlFixed st0 evs).msgs o := by
      rcases (hinv.recs r hr).2 o ho hd with h | h
      · exact h
      · rcases hinv.obj o h hd with h' | ⟨x, hx, _⟩
        · exact h'
        · rw [hw] at hx; simp at hx
    obtain ⟨m, hm, he, ht⟩ := hrep
    have h2 := (hinv.recs r hr).1 o ho
    exact ⟨m, hm, he, by omega⟩

/-- Composition with the analysis side (`c10_dlopen_by_time`): once every dlopen() has returned,
    a record made at an address inside the text of a dlopen'ed object — also one made by a
    constructor while dlopen() was still running, in a dependency, in a library opened again
    after dlclose(), or at an address that another library occupied before — is resolved by
    `session_find_dlsym` over the messages in task.txt exactly as a lookup of the
    load-address-relative offset in that object's own symbol table (to which `c10_find_correct`
    applies): an address inside one of its functions is shown under that function's name. -/
theorem c10_dlopen_record_resolves (st0 : St) (evs : List Ev) (hinit : Init st0)
    (hv : Valid dlFixed st0 evs) (hdone : (run dlFixed st0 evs).wins = [])
    (r : Rec) (hr : r ∈ (run dlFixed st0 evs).recs) (o : Obj) (ho : o ∈ r.objs)
    (hd : Dyn st0.maps o) (hc : covers o r.addr)
    (s : Sym) (hs : findSym o.syms (r.addr - o.bias) = some s) :
    shownIn (run dlFixed st0 evs).msgs r.time r.addr = some s := by
  have hinv := inv_run st0.maps dlFixed rfl rfl st0 evs (inv_init st0 hinit) hv
  obtain ⟨_, _, h3⟩ := c10_dlopen_msg_time_before_load st0 evs hinit hv
  obtain ⟨mo, hmo, hmoo, hmot⟩ := h3 hdone r hr o ho hd
  -- the address is a 64-bit value above the load address
  have hsho : Shape o := hmoo ▸ hinv.shapem mo hmo
  have ha : r.addr < U64 := by unfold covers at hc; unfold Shape at hsho; omega
  have hba : o.bias ≤ r.addr := by unfold covers at hc; unfold Shape at hsho; omega
  obtain ⟨h1, h2, _⟩ :=
    c10_dlopen_by_time (dlList (run dlFixed st0 evs).msgs) r.time r.addr (dlList_sorted _)
  -- the message for `o` resolves the address
  have hmob : mo.bias = o.bias := by rw [(hinv.msgok mo hmo).2.2, hmoo]
  have hso : findSym (libOf mo).syms (sub64 r.addr (libOf mo).base) = some s := by
    simp only [libOf, hmoo, hmob]
    rw [sub64_of_le _ _ hba ha]; exact hs
  have hmol : libOf mo ∈ dlList (run dlFixed st0 evs).msgs := (mem_dlList _ _).mpr ⟨mo, hmo, rfl⟩
  unfold shownIn
  cases hf : findDlsym (dlList (run dlFixed st0 evs).msgs) r.time r.addr with
  | none =>
    rw [h2.mp hf (libOf mo) hmol hmot] at hso
    cases hso
  | some s' =>
    -- the library used is that of a message `m` for an object at this address, not older than `mo`
    obtain ⟨l, hl, hlt, hls, hnewer⟩ := h1 s' hf
    obtain ⟨m, hm, hlm⟩ := (mem_dlList _ _).mp hl
    subst hlm
    have hcm := libOf_find_covers m r.addr (hinv.shapem m hm) (hinv.msgok m hm).2.2 ha s' hls
    have hle : mo.time ≤ m.time := by
      apply Nat.le_of_not_lt
      intro hlt'
      rw [hnewer (libOf mo) hmol hlt' hmot] at hso
      cases hso
    have hobj := hinv.key r hr o ho m hm mo hmo hc hcm hmoo hle hlt
    have hmb : m.bias = o.bias := by rw [(hinv.msgok m hm).2.2, hobj]
    simp only [libOf, hobj, hmb] at hls
    rw [sub64_of_le _ _ hba ha, hs] at hls
    exact hls.symm

/-- start-up state of the examples: the program's text is a session map; the clock stands at 10 -/
def dlStart : St :=
  { now := 10, lastRead := 5, nloads := 1,
    loaded := [⟨[], [], 0x400000, 0x400000, 0x401000, [], 0, 0⟩],
    maps := [⟨"/p/main".toList, 0x400000, 0x408000, none, true⟩] }

/-- the table of the example libraries: a constructor and a function `<c>` -/
def dlTab (c : Char) : List Sym := [⟨0x100, 0x20, 't', "ctor".toList⟩, ⟨0x120, 0x40, 'T', [c]⟩]

/-- `a.so` (with a dependency `d.so`) is opened; `a`'s constructor makes a traced call and opens
    `n.so` (whose constructor makes a traced call); everything is closed; `b.so` is then mapped
    where `a.so` was and its constructor makes a traced call at an address that was `a`'s. -/
def dlHistory : List Ev :=
  [.tick 1, .enter 1 "/p/a.so".toList, .tick 1,
   .load "/p/a.so".toList "/p/a.so".toList 0x7000 0x7000 0x7400 (dlTab 'a'),
   .load "/p/d.so".toList "/p/d.so".toList 0x8000 0x8000 0x8400 (dlTab 'd'), .tick 1,
   .call 0x8110, .call 0x7110, .tick 1,
   .enter 2 "/p/n.so".toList, .tick 1,
   .load "/p/n.so".toList "/p/n.so".toList 0x9000 0x9000 0x9400 (dlTab 'n'), .tick 1, .call 0x9110,
   .tick 1, .leave 2 22, .tick 1, .leave 1 11, .tick 1, .call 0x7130, .tick 1,
   .close 11 [0x7000, 0x8000], .close 22 [0x9000], .tick 1,
   .enter 3 "/q/b.so".toList, .tick 1,
   .load "/q/b.so".toList "/q/b.so".toList 0x7000 0x7000 0x7800 (dlTab 'b'), .tick 1, .call 0x7110,
   .tick 1, .leave 3 33, .tick 1, .call 0x7130]

/-- what is shown for every record of a history: (function, library of the message used) -/
def dlShown (cfg : Cfg) (st0 : St) (evs : List Ev) : List (Option (List Char)) :=
  (run cfg st0 evs).recs.map (fun r => (shownIn (run cfg st0 evs).msgs r.time r.addr).map (·.name))

/-- non-vacuity of the hypotheses of the two theorems above, and what they give on `dlHistory`:
    the six traced calls are shown as the constructors of `d`, `a`, `n`, then `a`, the constructor
    of `b` (at an address that was `a`'s constructor) and `b` -/
example : Init dlStart ∧ Valid dlFixed dlStart dlHistory ∧ (run dlFixed dlStart dlHistory).wins = [] ∧
    (run dlFixed dlStart dlHistory).msgs.map (·.name) =
      ["/p/n.so", "/p/a.so", "/p/d.so", "/q/b.so"].map (·.toList) ∧
    dlShown dlFixed dlStart dlHistory =
      ["ctor", "ctor", "ctor", "a", "ctor", "b"].map (fun s => some s.toList) := by
  refine ⟨?_, by decide +kernel⟩
  constructor <;> decide

/-- Why the message must carry the time taken *before* the real dlopen (seeded defect
    C10-dlopen-time-at-send): if `send_dlopen_msg` read the clock itself, the record a constructor
    makes while dlopen() is running would be older than the library's DLOP time and would be shown
    as a raw address — with and without the C10-DLREPORT patch — whereas the code resolves it. -/
theorem c10_prefix_stamp_at_send_witness :
    let evs : List Ev :=
      [.tick 1, .enter 1 "/p/a.so".toList, .tick 1,
       .load "/p/a.so".toList "/p/a.so".toList 0x7000 0x7000 0x7400 (dlTab 'a'), .tick 1,
       .call 0x7110, .tick 1, .leave 1 11, .tick 1, .call 0x7130]
    (∀ fixed : Bool,
      dlShown { fixed := fixed, stampAtSend := true } dlStart evs = [none, some ['a']]) ∧
    (∀ fixed : Bool,
      dlShown { fixed := fixed, stampAtSend := false } dlStart evs
        = [some "ctor".toList, some ['a']]) := by
  decide +kernel

/-- Finding C10-DLREPORT, the code as it is: a dependency that dlopen() brings in is never
    reported (its name does not contain the `filename` argument), so every call into it is shown
    as a raw address; with the patch it resolves. -/
theorem c10_prefix_dlreport_dependency_witness :
    let evs : List Ev :=
      [.tick 1, .enter 1 "/p/a.so".toList, .tick 1,
       .load "/p/a.so".toList "/p/a.so".toList 0x7000 0x7000 0x7400 (dlTab 'a'),
       .load "/p/d.so".toList "/p/d.so".toList 0x8000 0x8000 0x8400 (dlTab 'd'), .tick 1,
       .leave 1 11, .tick 1, .call 0x8130, .call 0x7130]
    Valid dlCoded dlStart evs ∧
    dlShown dlCoded dlStart evs = [none, some ['a']] ∧
    dlShown dlFixed dlStart evs = [some ['d'], some ['a']] := by
  decide +kernel

/-- Finding C10-DLREPORT, the code as it is: a second library with the same basename in another
    directory (or any library whose basename is a prefix of a known map's basename) is taken for
    known (`find_map_by_name`) and never reported. -/
theorem c10_prefix_dlreport_basename_witness :
    let evs : List Ev :=
      [.tick 1, .enter 1 "/r/libp.so".toList, .tick 1,
       .load "/r/libp.so".toList "/r/libp.so".toList 0x7000 0x7000 0x7400 (dlTab 'r'), .tick 1,
       .leave 1 11, .tick 1, .enter 2 "/b/libp.so".toList, .tick 1,
       .load "/b/libp.so".toList "/b/libp.so".toList 0x8000 0x8000 0x8400 (dlTab 'b'), .tick 1,
       .leave 2 22, .tick 1, .call 0x7130, .call 0x8130]
    Valid dlCoded dlStart evs ∧
    dlShown dlCoded dlStart evs = [some ['r'], none] ∧
    dlShown dlFixed dlStart evs = [some ['r'], some ['b']] := by
  decide +kernel

/-- Finding C10-DLREPORT, the code as it is: after dlclose() the library's map stays in the list,
    so when the library is opened again it is taken for known and not reported — at another
    address its calls are raw addresses, and at an address that a different library occupied in
    between they are shown under *that* library's function names. -/
theorem c10_prefix_dlreport_reopen_witness :
    let evs : List Ev :=
      [.tick 1, .enter 1 "/p/a.so".toList, .tick 1,
       .load "/p/a.so".toList "/p/a.so".toList 0x7000 0x7000 0x7400 (dlTab 'a'), .tick 1,
       .leave 1 11, .tick 1, .close 11 [0x7000], .tick 1,
       .enter 2 "/p/b.so".toList, .tick 1,
       .load "/p/b.so".toList "/p/b.so".toList 0x7000 0x7000 0x7400 (dlTab 'b'), .tick 1,
       .leave 2 22, .tick 1, .enter 3 "/p/a.so".toList, .tick 1,
       .load "/p/a.so".toList "/p/a.so".toList 0x9000 0x9000 0x9400 (dlTab 'a'), .tick 1,
       .leave 3 11, .tick 1, .call 0x9130,
       .tick 1, .close 22 [0x7000], .close 11 [0x9000], .tick 1,
       .enter 4 "/p/a.so".toList, .tick 1,
       .load "/p/a.so".toList "/p/a.so".toList 0x7000 0x7000 0x7400 (dlTab 'a'), .tick 1,
       .leave 4 11, .tick 1, .call 0x7130]
    Valid dlCoded dlStart evs ∧
    dlShown dlCoded dlStart evs = [none, some ['b']] ∧
    dlShown dlFixed dlStart evs = [some ['a'], some ['a']] := by
  decide +kernel

end DlRecord

/-! ## tables built from ELF files (load_symtab / sort_symtab / merge_symtabs) -/

section ElfSym
open Uft.ElfSym

/-- The table `load_symtab` builds from any list of ELF symbol entries (filter, "skip aliases",
    sort, de-duplication) is strictly address-sorted and contains only accepted entries; every
    accepted entry keeps a symbol at its address (`prev_sym_value` starts as -1, so an entry with
    that value is the exception); and if the entries that survive the filter are clean (same
    address ⇒ same size, different addresses ⇒ no overlap, no 64-bit wrap) the table satisfies
    the well-formedness hypothesis of the search theorems, each symbol covering exactly the range
    of the entries at its address. -/
theorem c10_elf_symtab_wellformed (off : Nat) (es : List ESym) :
    (loadSymtab off es).Pairwise (fun a b => a.addr < b.addr) ∧
    (∀ r ∈ loadSymtab off es, ∃ e ∈ es, accepts e = true ∧ r.addr = (e.value + off) % U64 ∧
        r.size = e.size % U32) ∧
    (∀ e ∈ es, accepts e = true → e.value ≠ U64 - 1 →
        ∃ r ∈ loadSymtab off es, r.addr = (e.value + off) % U64) ∧
    (Clean (loadSymbols off (U64 - 1) es) →
      WellFormed (loadSymtab off es) ∧
      ∀ r ∈ loadSymtab off es, ∀ x ∈ loadSymbols off (U64 - 1) es, r.addr = x.addr →
        r.stop = x.stop) := by
  refine ⟨sortSymtab_strict _, ?_, ?_, ?_⟩
  · intro r hr
    obtain ⟨⟨x, hx, ha, hs, _⟩, _⟩ := sortSymtab_mem _ r hr
    obtain ⟨e, he, hacc, hxe⟩ := loadSymbols_mem off es _ x hx
    subst hxe
    exact ⟨e, he, hacc, ha, hs⟩
  · intro e he hacc hne
    rcases loadSymbols_covers off es (U64 - 1) e he hacc with h | ⟨s, hs, hsa⟩
    · exact absurd h hne
    · obtain ⟨r, hr, hra⟩ := sortSymtab_covers _ s hs
      exact ⟨r, hr, by rw [hra, hsa]⟩
  · intro hc
    exact ⟨sortSymtab_wf _ hc, fun r hr x hx ha => sortSymtab_range _ hc r hr x hx ha⟩

/-- … hence an address inside a function that survives the ELF filter resolves to a symbol with
    exactly that function's range (composition with `c10_find_correct`). -/
theorem c10_elf_find_correct (off : Nat) (es : List ESym) (a : Nat)
    (hc : Clean (loadSymbols off (U64 - 1) es))
    (hnames : ∀ e ∈ es, isSymbolEnd e.name = false)
    (x : Sym) (hx : x ∈ loadSymbols off (U64 - 1) es) (hxa : x.contains a) :
    ∃ r, findSym (loadSymtab off es) a = some r ∧ r.addr = x.addr ∧ r.stop = x.stop := by
  obtain ⟨_, _, _, h4⟩ := c10_elf_symtab_wellformed off es
  obtain ⟨hwf, hrange⟩ := h4 hc
  obtain ⟨s, hs, hsa⟩ := sortSymtab_covers _ x hx
  have hss : s.stop = x.stop := hrange s hs x hx hsa
  have hsc : s.contains a := by unfold Sym.contains at hxa ⊢; rw [hsa, hss]; exact hxa
  have hne : ∀ s' ∈ loadSymtab off es, s'.contains a → isSymbolEnd s'.name = false := by
    intro s' hs' _
    obtain ⟨_, ⟨y, hy, _, hyn⟩⟩ := sortSymtab_mem _ s' hs'
    obtain ⟨e, he, _, hye⟩ := loadSymbols_mem off es _ y hy
    rw [hyn, hye]
    exact hnames e he
  obtain ⟨r, hr, _, _⟩ := (c10_find_correct _ a hwf).1 ⟨s, hs, hsc⟩ hne
  obtain ⟨h1, h2⟩ := c10_find_unique_range _ a hwf s r hs hsc hr
  exact ⟨r, hr, by rw [h1, hsa], by rw [h2, hss]⟩

/-- `merge_symtabs` (normal table + PLT table): the merged table has exactly the entries of both,
    and is well-formed when both are and no two of their entries properly overlap. -/
theorem c10_elf_merge_wellformed (l r : List Sym) (hl : WellFormed l) (hr : WellFormed r)
    (hn : NoProperOverlap (l ++ r)) :
    WellFormed (mergeSymtabs l r) ∧ ∀ s, s ∈ mergeSymtabs l r ↔ s ∈ l ∨ s ∈ r :=
  ⟨mergeSymtabs_wf l r hl hr hn, mergeSymtabs_mem l r⟩

/-- an ELF symbol list with a local/global alias pair, a weak function, an object, an undefined
    and a zero-size entry, in file order (not address order) -/
def elfExample : List ESym :=
  [⟨0x1200, 0x40, 0x12, 14, "main".toList⟩, ⟨0x1100, 0x20, 0x02, 14, "_helper".toList⟩,
   ⟨0x1100, 0x20, 0x12, 14, "helper".toList⟩, ⟨0, 0, 0x12, 0, "puts".toList⟩,
   ⟨0x1120, 0x10, 0x22, 14, "weakfn".toList⟩, ⟨0x4000, 8, 0x11, 25, "table".toList⟩,
   ⟨0x1130, 0, 0x12, 14, "empty".toList⟩]

example : Clean (loadSymbols 0x555555554000 (U64 - 1) elfExample) ∧
    (∀ e ∈ elfExample, isSymbolEnd e.name = false) ∧
    loadSymtab 0 elfExample =
      [⟨0x1100, 0x20, 't', "_helper".toList⟩, ⟨0x1120, 0x10, 'w', "weakfn".toList⟩,
       ⟨0x1200, 0x40, 'T', "main".toList⟩, ⟨0x4000, 8, 'D', "table".toList⟩] := by
  refine ⟨⟨by decide, by decide, by decide⟩, by decide +kernel⟩

end ElfSym

end Uft.C10

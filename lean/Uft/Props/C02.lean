import Uft.Gen.Layout
import Uft.Model.Mcount
import Uft.Lemmas.Mcount
import Uft.Lemmas.McountOverflow
import Uft.Lemmas.StreamShape
/-
C02 — The recorded trace is exactly each thread's call history.
Part 1: the record word. `Gen.Layout.packWord` is regenerated from
libmcount/record.c (writer) and the unpack functions from the compiled
bit-field layout of uftrace.h (reader) on every run.
-/
namespace Uft.C02
open Uft.Gen.Layout

/-- bit fields that do not overlap are read back from their sum by division and remainder, and the sum fits
    in 64 bits (`m`: the `more` bit in place) -/
theorem fields_of_sum (w t m d a : Nat) (ht : t < 4) (hm : m = 0 ∨ m = 4) (hd : d < 1024) (ha : a < 2 ^ 48)
    (hw : w = 40 + t + m + d * 64 + a * 65536) :
    w % 2 ^ 64 = w ∧ w / 1 % 4 = t ∧ w / 4 % 2 = m / 4 ∧ w / 8 % 8 = 5 ∧ w / 64 % 1024 = d ∧
    w / 65536 % 2 ^ 48 = a := by
  omega

/-- the writer's word is such a sum: the type lies below the magic, so `|||` adds it, and the depth is masked to
    its ten bits -/
theorem packWord_sum (type depth addr : Nat) (more : Bool) (ht : type < 4) :
    packWord type more depth addr =
      (40 + type + (if more then 4 else 0) + depth % 1024 * 64 + addr * 65536) % 2 ^ 64 := by
  have hor : type ||| (5 <<< 3) = 5 <<< 3 + type := by
    rw [Nat.or_comm]
    exact (Nat.shiftLeft_add_eq_or_of_lt (Nat.lt_trans ht (by decide)) 5).symm
  have hm : depth &&& 1023 = depth % 1024 := Nat.and_two_pow_sub_one_eq_mod depth 10
  unfold packWord RECORD_MAGIC
  rw [hor, hm, Nat.shiftLeft_eq, Nat.shiftLeft_eq, Nat.shiftLeft_eq]

theorem field_eq (w shift width : Nat) : field w shift width = w / 2 ^ shift % 2 ^ width := by
  rw [field, Nat.shiftRight_eq_div_pow]

theorem unpack_pack_mod (type depth addr : Nat) (more : Bool) (ht : type < 4) (ha : addr < 2 ^ 48) :
    unpackType (packWord type more depth addr) = type ∧
    unpackMore (packWord type more depth addr) = (if more then 1 else 0) ∧
    unpackMagic (packWord type more depth addr) = RECORD_MAGIC ∧
    unpackDepth (packWord type more depth addr) = depth % 1024 ∧
    unpackAddr (packWord type more depth addr) = addr := by
  have hm : (if more then 4 else 0) = 0 ∨ (if more then 4 else 0) = 4 := by cases more <;> simp
  have hq : (if more then 4 else 0) / 4 = if more then 1 else 0 := by cases more <;> rfl
  obtain ⟨h0, h1, h2, h3, h4, h5⟩ := fields_of_sum _ type (if more then 4 else 0) (depth % 1024) addr ht hm
    (Nat.mod_lt _ (by decide)) ha rfl
  rw [packWord_sum type depth addr more ht, h0]
  simp only [unpackType, unpackMore, unpackMagic, unpackDepth, unpackAddr, field_eq, typeShift, typeWidth, moreShift,
    moreWidth, magicShift, magicWidth, depthShift, depthWidth, addrShift, addrWidth]
  exact ⟨h1, h2.trans hq, h3, h4, h5⟩

/-- Writer and reader agree on every field, for every record the format can
    express (type 2 bits, depth 10 bits, address 48 bits). -/
theorem c02_unpack_pack (type depth addr : Nat) (more : Bool)
    (ht : type < 4) (hd : depth < 1024) (ha : addr < 2 ^ 48) :
    unpackType (packWord type more depth addr) = type ∧
    unpackMore (packWord type more depth addr) = (if more then 1 else 0) ∧
    unpackMagic (packWord type more depth addr) = RECORD_MAGIC ∧
    unpackDepth (packWord type more depth addr) = depth ∧
    unpackAddr (packWord type more depth addr) = addr := by
  have h := unpack_pack_mod type depth addr more ht ha
  rw [Nat.mod_eq_of_lt hd] at h
  exact h

/-- Whatever the depth (also beyond the 10-bit field, reachable with
    --max-stack > 1024), the address, type and magic of a record are never
    corrupted; only the depth field wraps modulo 1024 (format limit, finding F5b).
    Before the repair of F5 the writer added `depth << 6` unmasked and the carry
    went into the address. -/
theorem c02_addr_never_corrupted (type depth addr : Nat) (more : Bool)
    (ht : type < 4) (ha : addr < 2 ^ 48) :
    unpackAddr (packWord type more depth addr) = addr ∧
    unpackType (packWord type more depth addr) = type ∧
    unpackMagic (packWord type more depth addr) = RECORD_MAGIC ∧
    unpackDepth (packWord type more depth addr) = depth % 1024 := by
  obtain ⟨h1, _, h3, h4, h5⟩ := unpack_pack_mod type depth addr more ht ha
  exact ⟨h5, h1, h3, h4⟩

example : (2 : Nat) < 4 ∧ (1023 : Nat) < 1024 ∧ (0xffffffffffff : Nat) < 2 ^ 48 := by decide

/-!
Part 2: the hooks emit exactly the executed history.

`runCall` drives the model of the entry/exit hooks (`Uft/Model/Mcount.lean`,
validated against the real libmcount by the H1 correspondence run) over an
arbitrary call tree.  The hooks write lazily (an ENTRY is written only when a
descendant or the call itself is recorded); `pending` are the ENTRY records
still owed for the open frames.  The theorem says: what has been written plus
what is owed is exactly the eager trace — nothing missing, spurious,
duplicated or reordered; depth = number of open calls; time stamps are the
clock readings of the hooks — for every call tree of any size and depth up to
--max-stack, for both the -pg/fentry and the -finstrument-functions hooks.
-/
open Uft.Mcount

mutual
theorem emit_call (cfg : Cfg) (hp : Plain cfg) (k : Kind) :
    ∀ (c : Call) (s : St) (d : Nat), Good s d → d + c.height ≤ cfg.maxStack →
      d + c.height ≤ cfg.depthOpt → c.okFor cfg →
      (runCall cfg k s c).out = s.out ++ pending s.frames ++ evCall d c ∧
      (runCall cfg k s c).frames = markTo s.frames ∧
      Good (runCall cfg k s c) d
  | .node f t0 t1 kids, s, d, hg, hm, hd, ht => by
    simp only [Call.height] at hm hd
    simp only [Call.okFor] at ht
    obtain ⟨e1, e2, e3, e4, _⟩ := entry_plain cfg hp k s d f t0 hg (by omega) (by omega)
    have hk := emit_calls cfg hp k kids (entry cfg k s f t0).1 (d + 1) e4 (by omega) (by omega) ht.2
    have hFw : (plainFrame k f t0 d).written = false := rfl
    simp only [runCall, e1, ↓reduceIte]
    cases kids with
    | nil =>
      simp only [runCalls]
      obtain ⟨x1, x2, x3⟩ := exit_plain' cfg hp k (entry cfg k s f t0).1 d f t0 t1 false s.frames
        (by rw [e3]; rfl) e4 ht.1.2 ht.1.1 (by simp)
      refine ⟨?_, x2, x3⟩
      rw [x1, e2]
      simp [evCall, evCalls, entryRec, plainFrame]
    | cons c rest =>
      obtain ⟨k1, k2, k3⟩ := hk
      simp only at k1 k2
      rw [e3, markTo_cons_unwritten _ _ hFw] at k2
      rw [e3, pending_cons_unwritten _ _ hFw, e2] at k1
      obtain ⟨x1, x2, x3⟩ := exit_plain' cfg hp k
        (runCalls cfg k (entry cfg k s f t0).1 (.cons c rest)) d f t0 t1 true (markTo s.frames)
        (by rw [k2]; rfl) k3 ht.1.2 ht.1.1 (fun _ => markTo_markTo _)
      refine ⟨?_, by rw [x2, markTo_markTo], x3⟩
      rw [x1, k1]
      simp [evCall, entryRec, plainFrame]
theorem emit_calls (cfg : Cfg) (hp : Plain cfg) (k : Kind) :
    ∀ (cs : Calls) (s : St) (d : Nat), Good s d → d + cs.height ≤ cfg.maxStack →
      d + cs.height ≤ cfg.depthOpt → cs.okFor cfg →
      (runCalls cfg k s cs).out =
        s.out ++ (match cs with | .nil => [] | .cons _ _ => pending s.frames) ++ evCalls d cs ∧
      (runCalls cfg k s cs).frames = (match cs with | .nil => s.frames | .cons _ _ => markTo s.frames) ∧
      Good (runCalls cfg k s cs) d
  | .nil, s, d, hg, _, _, _ => by simp [runCalls, evCalls, hg]
  | .cons c rest, s, d, hg, hm, hd, ht => by
    simp only [Calls.height] at hm hd
    simp only [Calls.okFor] at ht
    obtain ⟨c1, c2, c3⟩ := emit_call cfg hp k c s d hg (by omega) (by omega) ht.1
    obtain ⟨r1, r2, r3⟩ := emit_calls cfg hp k rest (runCall cfg k s c) d c3 (by omega) (by omega) ht.2
    simp only [runCalls]
    refine ⟨?_, ?_, r3⟩
    · rw [r1, c1]
      cases rest with
      | nil => simp [evCalls]
      | cons c' r' => simp [evCalls, c2, pending_markTo]
    · rw [r2]
      cases rest with
      | nil => simp [c2]
      | cons c' r' => simp [c2, markTo_markTo]
end

/-- from a fresh thread, for any forest whose calls pass the exit hook's tests (`okFor`) -/
theorem emit_exact_of_okFor (cfg : Cfg) (hp : Plain cfg) (k : Kind) (cs : Calls)
    (hm : cs.height ≤ cfg.maxStack) (hd : cs.height ≤ cfg.depthOpt) (hok : cs.okFor cfg)
    (hmin : cfg.minSize = 0) (hen : cfg.enabled0 = true) :
    (runCalls cfg k (St.init cfg) cs).out = evCalls 0 cs ∧
    (runCalls cfg k (St.init cfg) cs).frames = [] ∧ Good (runCalls cfg k (St.init cfg) cs) 0 := by
  obtain ⟨h1, h2, h3⟩ := emit_calls cfg hp k cs (St.init cfg) 0 (good_init cfg hmin hen) (by omega) (by omega) hok
  refine ⟨?_, ?_, h3⟩
  · rw [h1]; cases cs <;> simp [St.init, pending]
  · rw [h2]; cases cs <;> simp [St.init, markTo]

/-- C02 main statement on the hook model: starting from a fresh thread, after
    any forest of completed calls the written stream is exactly the eager trace
    of that forest (for every tree shape, recursion, any depth ≤ max-stack and
    ≤ the depth limit, both instrumentation flavours). -/
theorem c02_emit_exact (cfg : Cfg) (hp : Plain cfg) (k : Kind) (cs : Calls)
    (hm : cs.height ≤ cfg.maxStack) (hd : cs.height ≤ cfg.depthOpt) (ht : cs.timed)
    (hmin : cfg.minSize = 0) (hen : cfg.enabled0 = true) :
    (runCalls cfg k (St.init cfg) cs).out = evCalls 0 cs ∧
    (runCalls cfg k (St.init cfg) cs).frames = [] := by
  obtain ⟨h1, h2, _⟩ := emit_exact_of_okFor cfg hp k cs hm hd (okFors_of_timed cfg cs ht) hmin hen
  exact ⟨h1, h2⟩

/-- … and for the repaired exit hooks (`s4fixed`, finding S4: the time test is `>=`) without any
    assumption on durations: also calls whose entry and exit read the same clock value (and even
    a clock that stepped back) are recorded — nothing missing.  The only clock assumption left
    is that an exit does not read 0, libmcount's marker of a still open call. -/
theorem c02_emit_exact_any_duration (cfg : Cfg) (hp : Plain cfg) (hf : cfg.s4fixed = true) (k : Kind) (cs : Calls)
    (hm : cs.height ≤ cfg.maxStack) (hd : cs.height ≤ cfg.depthOpt) (he : cs.ended)
    (hmin : cfg.minSize = 0) (hen : cfg.enabled0 = true) :
    (runCalls cfg k (St.init cfg) cs).out = evCalls 0 cs ∧
    (runCalls cfg k (St.init cfg) cs).frames = [] := by
  obtain ⟨h1, h2, _⟩ := emit_exact_of_okFor cfg hp k cs hm hd (okFors_of_ended cfg hf cs he) hmin hen
  exact ⟨h1, h2⟩

/-- before the repair a call of zero measured duration was silently dropped (pre-fix witness) -/
theorem c02_prefix_zero_duration_witness :
    (runCalls { s4fixed := false } .pg (St.init { s4fixed := false }) (.cons (.node 1 10 10 .nil) .nil)).out = [] ∧
    (runCalls {} .pg (St.init {}) (.cons (.node 1 10 10 .nil) .nil)).out =
      [⟨10, 0, 0, 1⟩, ⟨10, 1, 0, 1⟩] := by
  constructor <;> decide

/-- The same for a prefix of an execution (calls still open): written ++ owed
    = eager trace, at every call boundary inside any tree. This is
    `emit_call`/`emit_calls` with an arbitrary `Good` start state; stated here
    for one more call entered after a completed forest. -/
theorem c02_emit_prefix (cfg : Cfg) (hp : Plain cfg) (k : Kind) (cs : Calls) (f t0 : Nat)
    (hm : cs.height ≤ cfg.maxStack) (hd : cs.height ≤ cfg.depthOpt) (ht : cs.timed)
    (hmin : cfg.minSize = 0) (hen : cfg.enabled0 = true)
    (hm1 : 0 < cfg.maxStack) (hd1 : 0 < cfg.depthOpt) :
    let s := (entry cfg k (runCalls cfg k (St.init cfg) cs) f t0).1
    s.out ++ pending s.frames = evCalls 0 cs ++ [{ time := t0, type := 0, depth := 0, addr := f }] := by
  obtain ⟨hout, hfr, h3⟩ := emit_exact_of_okFor cfg hp k cs hm hd (okFors_of_timed cfg cs ht) hmin hen
  obtain ⟨_, e2, e3, _, _⟩ := entry_plain cfg hp k _ 0 f t0 h3 hm1 hd1
  simp only [e2, e3, hfr, hout]
  simp [pending, plainFrame, entryRec]

theorem overflow_drop_of_okFor (cfg : Cfg) (hp : Plain cfg) (k : Kind) (hdo : cfg.maxStack ≤ cfg.depthOpt) (cs : Calls)
    (hok : cs.okFor cfg) (hmin : cfg.minSize = 0) (hen : cfg.enabled0 = true) :
    (runCalls cfg k (St.init cfg) cs).out = evCallsB 0 cfg.maxStack cs ∧
    (runCalls cfg k (St.init cfg) cs).frames = [] ∧ (runCalls cfg k (St.init cfg) cs).over = 0 := by
  obtain ⟨h1, h2, h3⟩ := over_calls cfg hp k hdo cs (St.init cfg) 0 (goodW_init cfg hmin hen) (Nat.zero_le _) hok
  have hfr : (runCalls cfg k (St.init cfg) cs).frames = [] := by
    simpa [St.init] using h2
  simp only [eager, hfr, pending, List.append_nil] at h1
  refine ⟨?_, hfr, h3.good.over⟩
  rw [h1]; simp [St.init, pending]

/-- Calls deeper than --max-stack are dropped, never corrupted, for both hook
    flavours (-pg / -mfentry / patched entries, where the overflowing call is not
    hijacked at all, and -finstrument-functions, where the hooks keep counting
    beyond the array): for every forest of any depth, the written stream is
    exactly the eager trace of the forest cut at `maxStack` open calls
    (`evCallsB`): every call at depth < maxStack appears with its true depth,
    address and time stamps, in order, and nothing else does — including all
    calls made after the overflow. -/
theorem c02_overflow_drop (cfg : Cfg) (hp : Plain cfg) (k : Kind) (hdo : cfg.maxStack ≤ cfg.depthOpt) (cs : Calls)
    (ht : cs.timed) (hmin : cfg.minSize = 0) (hen : cfg.enabled0 = true) :
    (runCalls cfg k (St.init cfg) cs).out = evCallsB 0 cfg.maxStack cs := by
  exact (overflow_drop_of_okFor cfg hp k hdo cs (okFors_of_timed cfg cs ht) hmin hen).1

/-- the same for the repaired exit hooks without any assumption on durations -/
theorem c02_overflow_drop_any_duration (cfg : Cfg) (hp : Plain cfg) (hf : cfg.s4fixed = true) (k : Kind)
    (hdo : cfg.maxStack ≤ cfg.depthOpt) (cs : Calls)
    (he : cs.ended) (hmin : cfg.minSize = 0) (hen : cfg.enabled0 = true) :
    (runCalls cfg k (St.init cfg) cs).out = evCallsB 0 cfg.maxStack cs := by
  exact (overflow_drop_of_okFor cfg hp k hdo cs (okFors_of_ended cfg hf cs he) hmin hen).1

/-- the -finstrument-functions hooks leave their counter balanced after an overflow:
    the state after the forest has no frame and no pending overflow count -/
theorem c02_overflow_cyg_balanced (cfg : Cfg) (hp : Plain cfg) (hdo : cfg.maxStack ≤ cfg.depthOpt) (cs : Calls)
    (ht : cs.timed) (hmin : cfg.minSize = 0) (hen : cfg.enabled0 = true) :
    (runCalls cfg .cyg (St.init cfg) cs).frames = [] ∧ (runCalls cfg .cyg (St.init cfg) cs).over = 0 := by
  exact (overflow_drop_of_okFor cfg hp .cyg hdo cs (okFors_of_timed cfg cs ht) hmin hen).2

/-- non-vacuity of `c02_overflow_drop`: recursion three deep with --max-stack 2 keeps
    exactly the two outer levels -/
example : evCallsB 0 2 (Calls.cons (.node 1 10 50 (.cons (.node 1 20 40 (.cons (.node 2 25 30 .nil) .nil)) .nil)) .nil)
    = [⟨10, 0, 0, 1⟩, ⟨20, 0, 1, 1⟩, ⟨40, 1, 1, 1⟩, ⟨50, 1, 0, 1⟩] := by
  decide

/-- A forked child continues the parent's open calls: its own stream starts
    empty, contains no ENTRY for an inherited frame, and the return of an
    inherited call writes exactly one EXIT record carrying the parent's depth
    and address (for any parent state between hooks, any depth). -/
theorem c02_fork_child_continues (cfg : Cfg) (hp : Plain cfg) (s : St) (d t : Nat) (F : Frame)
    (rest : List Frame) (hg : Good s (d + 1)) (hfr : s.frames = F :: rest) (ht : t ≠ 0) :
    (forkChild s).out = [] ∧
    (exit cfg (forkChild s) t).out = [{ time := t, type := 1, depth := F.depth, addr := F.addr }] ∧
    (exit cfg (forkChild s) t).frames = rest.map fun f => { f with written := true } := by
  have hF := hg.noskip F (by simp [hfr])
  refine ⟨rfl, ?_, ?_⟩ <;>
    simp [exit, forkChild, hg.over, hfr, hF.1, exitFilterRecord, hp.fast, hg.en, recordTrace, ht, exitRec]

/-- non-vacuity: a recursive tree of depth 3 meets the hypotheses -/
example : (Calls.cons (.node 1 10 50 (.cons (.node 1 20 40 (.cons (.node 2 25 30 .nil) .nil)) .nil)) .nil).timed ∧
    (Calls.cons (.node 1 10 50 (.cons (.node 1 20 40 (.cons (.node 2 25 30 .nil) .nil)) .nil)) .nil).height ≤ 1024 := by
  simp [Calls.timed, Call.timed, Calls.height, Call.height]

example : Plain ({} : Cfg) := by constructor <;> simp

/-!
Part 3: the structural clauses of C02, stated outright on what the hooks write
(corollaries of `c02_emit_exact` / `c02_overflow_drop` and the shape lemmas of
`Uft/Lemmas/StreamShape.lean`).  `WellNested` is an independent stack-machine
checker: every ENTRY carries depth = number of open recorded calls, every EXIT
closes the innermost open call with the same address and depth, nothing stays
open.
-/

/-- Entries and exits nest properly with matching addresses and each record's
    depth equals the number of open recorded calls — for every forest, recursion,
    both hook flavours. -/
theorem c02_stream_well_nested (cfg : Cfg) (hp : Plain cfg) (k : Kind) (cs : Calls)
    (hm : cs.height ≤ cfg.maxStack) (hd : cs.height ≤ cfg.depthOpt) (ht : cs.timed)
    (hmin : cfg.minSize = 0) (hen : cfg.enabled0 = true) :
    WellNested (runCalls cfg k (St.init cfg) cs).out := by
  rw [(c02_emit_exact cfg hp k cs hm hd ht hmin hen).1]
  exact evCalls_wellNested cs

/-- Time stamps never decrease in the written stream, provided the clock readings
    the hooks take along the execution never decrease (`Calls.clocked`, what
    CLOCK_MONOTONIC gives), and every record's time stamp *is* the hook's clock
    reading (`c02_emit_exact`), which the program's own readings just before the
    call and just after the return bracket. -/
theorem c02_stream_time_monotone (cfg : Cfg) (hp : Plain cfg) (k : Kind) (cs : Calls) (lo : Nat)
    (hm : cs.height ≤ cfg.maxStack) (hd : cs.height ≤ cfg.depthOpt) (ht : cs.timed)
    (hc : cs.clocked lo) (hmin : cfg.minSize = 0) (hen : cfg.enabled0 = true) :
    (runCalls cfg k (St.init cfg) cs).out.Pairwise (fun a b => a.time ≤ b.time) := by
  rw [(c02_emit_exact cfg hp k cs hm hd ht hmin hen).1]
  exact evCalls_time_pairwise cs lo hc

/-- A prefix of an execution (one call open after a completed forest): what is
    written plus the ENTRY still owed is accepted by the checker with exactly that
    call open. -/
theorem c02_prefix_nested (cfg : Cfg) (hp : Plain cfg) (k : Kind) (cs : Calls) (f t0 : Nat)
    (hm : cs.height ≤ cfg.maxStack) (hd : cs.height ≤ cfg.depthOpt) (ht : cs.timed)
    (hmin : cfg.minSize = 0) (hen : cfg.enabled0 = true)
    (hm1 : 0 < cfg.maxStack) (hd1 : 0 < cfg.depthOpt) :
    let s := (entry cfg k (runCalls cfg k (St.init cfg) cs) f t0).1
    NestedPrefix (s.out ++ pending s.frames) [f] := by
  intro s
  have h := c02_emit_prefix cfg hp k cs f t0 hm hd ht hmin hen hm1 hd1
  simp only at h
  show nestRun (some []) (s.out ++ pending s.frames) = some [f]
  rw [h, nestRun_append]
  have := evCalls_wellNested cs
  unfold WellNested at this
  rw [this]
  simp [nestRun, nestStep]

/-- also beyond --max-stack (deeper calls dropped): the written stream is still
    well nested with true depths -/
theorem c02_overflow_stream_well_nested (cfg : Cfg) (hp : Plain cfg) (k : Kind) (hdo : cfg.maxStack ≤ cfg.depthOpt)
    (cs : Calls) (ht : cs.timed) (hmin : cfg.minSize = 0) (hen : cfg.enabled0 = true) :
    WellNested (runCalls cfg k (St.init cfg) cs).out := by
  rw [c02_overflow_drop cfg hp k hdo cs ht hmin hen]
  exact nest_evCallsB cs [] cfg.maxStack

/-- non-vacuity: a clocked, timed recursive forest -/
example : (Calls.cons (.node 1 10 50 (.cons (.node 1 20 40 (.cons (.node 2 25 30 .nil) .nil)) .nil)) .nil).clocked 5 := by
  simp [Calls.clocked, Call.clocked, Calls.lastT, Call.t1]

/-- the checker rejects a stream with a wrong depth, a wrong address or a missing exit -/
example : ¬ WellNested [⟨1, 0, 0, 7⟩, ⟨2, 0, 2, 8⟩, ⟨3, 1, 2, 8⟩, ⟨4, 1, 0, 7⟩] := by decide
example : ¬ WellNested [⟨1, 0, 0, 7⟩, ⟨4, 1, 0, 9⟩] := by decide
example : ¬ WellNested [⟨1, 0, 0, 7⟩] := by decide

end Uft.C02

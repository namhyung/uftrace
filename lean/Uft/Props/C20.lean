import Uft.Lemmas.DirGuard
import Uft.Gen.DirCallers
/-
C20 — Recording never destroys data that is not a uftrace data directory.
`fs` is the parent directory; `d` is DIR, `old` is DIR.old.
-/
namespace Uft.DirGuard

/-- "foreign" as the property states it: exists, and is neither empty nor a
    previous uftrace data directory (a regular file is foreign). -/
def Foreign (fs : Ents) (d : String) : Prop :=
  (fs.get d).isSome = true ∧ canRemove (fs.get d) = false

instance (fs : Ents) (d : String) : Decidable (Foreign fs d) := by
  unfold Foreign; infer_instance

/-- C20 main statement: any other existing directory or file is left untouched
    and recording fails — for every file-system state and every fault
    schedule. -/
theorem c20_foreign_untouched (e : Env) (fs : Ents) (d old : String) (h : Foreign fs d) :
    (createDirectory e fs d old).fs = fs ∧ (createDirectory e fs d old).ok = false := by
  obtain ⟨hs, hc⟩ := h
  have hn : (fs.get d).isNone = false := by
    cases hg : fs.get d <;> simp_all
  simp [createDirectory, createDirectoryG, hc, mkdirPhase, hn]

/-- A regular file in place of DIR is never replaced. -/
theorem c20_file_never_replaced (e : Env) (fs : Ents) (d old : String) (b : List UInt8)
    (h : fs.get d = some (.file b)) :
    (createDirectory e fs d old).fs = fs ∧ (createDirectory e fs d old).ok = false :=
  c20_foreign_untouched e fs d old (by simp [Foreign, h, canRemove, isUftraceDir, isEmptyDir])

/-- A foreign DIR.old (non-empty non-uftrace directory, or a file) is never
    touched, and then an existing DIR is not replaced either. -/
theorem c20_foreign_old_untouched (e : Env) (fs : Ents) (d old : String) (hne : d ≠ old)
    (h : Foreign fs old) :
    (createDirectory e fs d old).fs.get old = fs.get old ∧
    ((fs.get d).isSome = true →
      (createDirectory e fs d old).fs = fs ∧ (createDirectory e fs d old).ok = false) := by
  obtain ⟨hs, hc⟩ := h
  have hno : old ≠ d := fun x => hne x.symm
  have hren : renameOk (fs.get old) = false := by
    cases ho : fs.get old with
    | none => simp [ho] at hs
    | some o =>
      cases o with
      | file | link => rfl
      | dir es =>
        cases es with
        | nil => simp [ho, canRemove, isEmptyDir, Ents.isNil] at hc
        | cons => rfl
  by_cases hd : canRemove (fs.get d) = true
  · simp [createDirectory, createDirectoryG, hd, removeOld, hc, renamePhase, hren]
  · have hd' : canRemove (fs.get d) = false := by simpa using hd
    constructor
    · simp only [createDirectory, createDirectoryG, hd', Bool.false_eq_true, ↓reduceIte]
      exact mkdirPhase_get_other true e fs hno
    · intro hsd
      exact c20_foreign_untouched e fs d old ⟨hsd, hd'⟩

/-- Nothing outside {DIR, DIR.old} is ever modified, whatever fails
    (both for the current code and for the pre-fix code). -/
theorem c20_others_untouched (fixed : Bool) (e : Env) (fs : Ents) (d old x : String)
    (hd : x ≠ d) (ho : x ≠ old) :
    (createDirectoryG fixed e fs d old).fs.get x = fs.get x := by
  simp only [createDirectoryG]
  split
  · split
    · exact removeOld_get_other e fs ho
    · split
      · exact removeOld_get_other e fs ho
      · rename_i e2 fs2 hr
        rw [mkdirPhase_get_other fixed _ _ hd]
        simp only [renamePhase] at hr
        split at hr
        · simp at hr
        · split at hr
          · simp at hr
          · simp only [Prod.mk.injEq, Option.some.injEq] at hr
            rw [← hr.2, get_set_ne _ _ ho, get_erase_ne _ hd]
            exact removeOld_get_other e fs ho
  · exact mkdirPhase_get_other fixed e fs hd

def NoFaults : Env := { faults := [] }

/-- Rotation: if DIR is empty or uftrace data, and DIR.old is absent or itself
    removable, a fault-free run succeeds, DIR is fresh (only `default.opts`),
    DIR.old is exactly the previous DIR. (Other names: `c20_others_untouched`.) -/
theorem c20_rotation (e : Env) (fs : Ents) (d old : String) (hne : d ≠ old)
    (he : e.faults = [])
    (hd : canRemove (fs.get d) = true)
    (ho : fs.get old = none ∨ canRemove (fs.get old) = true) :
    (createDirectory e fs d old).ok = true ∧
    (createDirectory e fs d old).fs.get old = fs.get d ∧
    (createDirectory e fs d old).fs.get d = some (.dir (.cons "default.opts" defaultOpts .nil)) := by
  obtain ⟨h1, h2, h3⟩ := removeOld_nofault e fs old he ho
  have hg : (removeOld e fs old).2.1.get d = fs.get d := removeOld_get_other e fs hne
  obtain ⟨n, hn⟩ : ∃ n, fs.get d = some n := by
    cases hx : fs.get d with
    | none => simp [hx, canRemove] at hd
    | some n => exact ⟨n, rfl⟩
  simp only [createDirectory, createDirectoryG, hd, ↓reduceIte]
  generalize removeOld e fs old = r at h1 h2 h3 hg
  obtain ⟨e1, fs1, ok1⟩ := r
  dsimp only at h1 h2 h3 hg ⊢
  have t := tick_nofault e1 .rename h3
  -- DIR.old is gone, so rename(DIR, DIR.old) succeeds, and mkdir finds DIR free
  simp only [h2, Bool.not_true, Bool.false_eq_true, ↓reduceIte, renamePhase, t.1, h1, renameOk,
    Bool.or_self, hg, hn]
  obtain ⟨hf1, hf2, _⟩ := mkdirPhase_fresh true (e1.tick .rename).1 ((fs1.erase d).set old n) d t.2
    ((get_set_ne _ _ hne).trans (get_erase_eq ..))
  refine ⟨hf1, ?_, hf2⟩
  rw [mkdirPhase_get_other true _ _ (Ne.symm hne), get_set_eq]

/-- Live mode removes only the temporary directory it created itself
    (`mkstemp` hands out a name that does not exist): every other name keeps
    its content whatever fails, and without faults the temporary name is gone
    again. -/
theorem c20_live_removes_only_own (e : Env) (fs : Ents) (tmp : String) (filled : Ents)
    (hfresh : fs.get tmp = none) :
    (∀ x, x ≠ tmp → (liveRun e fs tmp filled).get x = fs.get x) ∧
    (e.faults = [] → (liveRun e fs tmp filled).get tmp = none) := by
  have hcr : createDirectory e fs tmp (tmp ++ ".old") = mkdirPhase true e fs tmp := by
    simp [createDirectory, createDirectoryG, hfresh, canRemove]
  constructor
  · intro x hx
    simp only [liveRun, hcr]
    have := mkdirPhase_get_other true e fs hx
    split
    · exact this
    · split <;> simp [get_set_ne _ _ hx, get_erase_ne _ hx, this]
  · intro he
    have hf := mkdirPhase_fresh true e fs tmp he hfresh
    obtain ⟨h3, _⟩ := rmNode_nofault filled _ hf.2.2
    simp only [liveRun, hcr, hf.1, Bool.not_true, Bool.false_eq_true, ↓reduceIte]
    generalize rmNode (mkdirPhase true e fs tmp).env (.dir filled) = r at h3
    obtain ⟨_, l, _⟩ := r
    cases h3
    exact get_erase_eq ..

/-- The whole record run (local or --host): a foreign DIR is untouched and the
    run fails, whatever the run would have written and whatever fails. -/
theorem c20_record_run_foreign_untouched (host : Bool) (e : Env) (fs : Ents) (d : String) (filled : Ents)
    (h : Foreign fs d) : recordRun host e fs d filled = (fs, false) := by
  obtain ⟨h1, h2⟩ := c20_foreign_untouched e fs d (d ++ ".old") h
  simp [recordRun, h1, h2]

/-! ### The finding (F1) as a theorem about the pre-fix code, and non-vacuity -/

/-- a foreign directory holding one user file -/
def fsUser : Ents := .cons "DIR" (.dir (.cons "precious.txt" (.file [1, 2, 3]) .nil)) .nil

example : Foreign fsUser "DIR" := by decide

/-- F1 witness: the code before the fix drops `default.opts` into a foreign
    directory although it reports failure … -/
theorem c20_prefix_default_opts_witness :
    Foreign fsUser "DIR" ∧
    (createDirectoryPreFix NoFaults fsUser "DIR" "DIR.old").ok = false ∧
    Ents.beq (createDirectoryPreFix NoFaults fsUser "DIR" "DIR.old").fs fsUser = false := by
  decide

/-- … and after that first failed run the directory counts as uftrace data, so
    four runs in total delete the user's file (pre-fix code). -/
theorem c20_prefix_data_loss_witness :
    let run := fun fs => (createDirectoryPreFix NoFaults fs "DIR" "DIR.old").fs
    let fs4 := run (run (run (run fsUser)))
    (match fs4.get "DIR" with | some (.dir es) => (es.get "precious.txt").isSome | _ => false) = false ∧
    (match fs4.get "DIR.old" with | some (.dir es) => (es.get "precious.txt").isSome | _ => false) = false := by
  decide

/-- the same four runs with the current code leave everything as it was -/
example :
    let run := fun fs => (createDirectory NoFaults fs "DIR" "DIR.old").fs
    Ents.beq (run (run (run (run fsUser)))) fsUser = true := by
  decide

/-- non-vacuity of `c20_rotation`: an old uftrace directory and an older one -/
def fsRot : Ents :=
  .cons "DIR" (.dir (.cons "info" (.file (magic ++ [9])) (.cons "1.dat" (.file [7]) .nil)))
  (.cons "DIR.old" (.dir (.cons "default.opts" (.file []) (.cons "sub" (.dir (.cons "x" (.file []) .nil)) .nil))) .nil)

example : canRemove (fsRot.get "DIR") = true ∧ canRemove (fsRot.get "DIR.old") = true := by decide

/-- non-vacuity of `c20_foreign_old_untouched` -/
example : Foreign (.cons "DIR.old" (.file [1]) fsRot) "DIR.old" := by decide

/-! ### Every entry point (commands that create or remove a data directory) -/

theorem ne_append_old (s : String) : s ≠ s ++ ".old" := by
  intro h
  have := congrArg String.length h
  simp [String.length_append] at this

/-- `create_directory(d)` (current code), seen from a name `x` that is foreign before the call:
    whatever the result, `x` keeps its content -/
theorem createDirectory_keeps_foreign (e : Env) (fs : Ents) (d x : String) (hx : Foreign fs x) :
    (createDirectory e fs d (d ++ ".old")).fs.get x = fs.get x := by
  by_cases h1 : x = d
  · subst h1
    rw [(c20_foreign_untouched e fs x (x ++ ".old") hx).1]
  · by_cases h2 : x = d ++ ".old"
    · subst h2
      exact (c20_foreign_old_untouched e fs d (d ++ ".old") (ne_append_old d) hx).1
    · exact c20_others_untouched true e fs d (d ++ ".old") x h1 h2

/-- the invariant along an execution path: the names that were foreign at the start still hold what
    they held, and no owned path names one of them -/
def Inv (ρ : String → String) (fs0 : Ents) (owned : List String) (fs : Ents) : Prop :=
  (∀ x, Foreign fs0 x → fs.get x = fs0.get x) ∧ ∀ p ∈ owned, ¬ Foreign fs0 (ρ p)

theorem stepEv_inv (ρ : String → String) (filled : String → Ents) (fs0 : Ents) (owned : List String)
    (st st' : Env × Ents) (ev : DEv) (hInv : Inv ρ fs0 owned st.2)
    (hg : guardedFrom owned [ev] = true) (hs : stepEv ρ filled st ev = some st') :
    Inv ρ fs0 (ownedAfter owned ev) st'.2 := by
  obtain ⟨hI, hO⟩ := hInv
  have hF : ∀ x, Foreign fs0 x → Foreign st.2 x := fun x hx => by
    rw [Foreign, hI x hx]
    exact hx
  have hkeep : ∀ d x, Foreign fs0 x →
      (createDirectory st.1 st.2 d (d ++ ".old")).fs.get x = fs0.get x := fun d x hx => by
    rw [createDirectory_keeps_foreign st.1 st.2 d x (hF x hx), hI x hx]
  cases ev with
  | fresh p =>
    obtain ⟨hn, h⟩ := Option.ite_none_right_eq_some.mp hs
    cases h
    refine ⟨hI, List.forall_mem_cons.mpr ⟨fun hf => ?_, hO⟩⟩
    have := hf.1
    rw [← hI _ hf, Option.isNone_iff_eq_none.mp hn] at this
    cases this
  | createOk p =>
    obtain ⟨hok, h⟩ := Option.ite_none_right_eq_some.mp hs
    cases h
    have hnf : ¬ Foreign fs0 (ρ p) := fun hf => by
      rw [(c20_foreign_untouched st.1 st.2 (ρ p) (ρ p ++ ".old") (hF _ hf)).2] at hok
      cases hok
    refine ⟨fun x hx => ?_, List.forall_mem_cons.mpr ⟨hnf, hO⟩⟩
    have hne : x ≠ ρ p := fun h => hnf (h ▸ hx)
    exact (get_set_ne _ _ hne).trans (hkeep (ρ p) x hx)
  | createFail p =>
    obtain ⟨_, h⟩ := Option.ite_none_left_eq_some.mp hs
    cases h
    exact ⟨hkeep (ρ p), hO⟩
  | remove p =>
    cases hs
    have hp : p ∈ owned := by
      simpa [guardedFrom] using hg
    refine ⟨fun x hx => ?_, hO⟩
    have hne : x ≠ ρ p := fun h => hO p hp (h ▸ hx)
    exact (removeDir_get_other _ _ hne).trans (hI x hx)

theorem guarded_trace_inv (ρ : String → String) (filled : String → Ents) (fs0 : Ents) (tr : List DEv)
    (owned : List String) (st st' : Env × Ents) (hInv : Inv ρ fs0 owned st.2)
    (hg : guardedFrom owned tr = true) (hs : execTrace ρ filled st tr = some st') :
    ∀ x, Foreign fs0 x → st'.2.get x = fs0.get x := by
  fun_induction execTrace ρ filled st tr generalizing owned with
  | case1 st =>
    cases hs
    exact hInv.1
  | case2 => cases hs
  | case3 st ev r st2 h1 ih =>
    obtain ⟨hg1, hg2⟩ := guardedFrom_cons hg
    exact ih _ (stepEv_inv ρ filled fs0 owned st st2 ev hInv hg1 h1) hg2 hs

/-- C20 for a whole execution path of a command: if every `remove_directory(p)` on the path comes
    after a successful `create_directory(p)` (or a `mkstemp(p)` that showed the name to be free) of
    the same path, then — whatever the path names stand for, whatever the run records into the
    directories it made, whatever fails — every directory or file that was foreign when the command
    started holds exactly what it held. -/
theorem c20_guarded_trace_foreign_untouched (ρ : String → String) (filled : String → Ents) (e : Env) (fs0 : Ents)
    (tr : List DEv) (st' : Env × Ents) (hg : guarded tr = true)
    (hs : execTrace ρ filled (e, fs0) tr = some st') :
    ∀ x, Foreign fs0 x → st'.2.get x = fs0.get x :=
  guarded_trace_inv ρ filled fs0 tr [] (e, fs0) st' ⟨fun _ _ => rfl, fun _ h => nomatch h⟩ hg hs

open Uft.Gen.DirCallers in
/-- The proof obligation on the code: every execution path of every command that can reach
    `create_directory` / `remove_directory` / `mkstemp` (the list is regenerated from cmds/*.c on
    every run) is guarded.  A new `remove_directory(p)` that is not dominated by a successful
    `create_directory(p)` of the same path makes this fail. -/
theorem c20_every_entry_point_guards : ∀ ep ∈ entryPoints, ep.guards = true := by
  decide

open Uft.Gen.DirCallers in
/-- … hence C20's "any other existing directory or file is left untouched" for every command -/
theorem c20_entry_points_foreign_untouched (ep : EntryPoint) (hep : ep ∈ entryPoints) (tr : List DEv)
    (htr : tr ∈ ep.traces) (ρ : String → String) (filled : String → Ents) (e : Env) (fs0 : Ents)
    (st' : Env × Ents) (hs : execTrace ρ filled (e, fs0) tr = some st') :
    ∀ x, Foreign fs0 x → st'.2.get x = fs0.get x := by
  have h := c20_every_entry_point_guards ep hep
  simp only [EntryPoint.guards, List.all_eq_true] at h
  exact c20_guarded_trace_foreign_untouched ρ filled e fs0 tr st' (h tr htr) hs

open Uft.Gen.DirCallers in
/-- the commands the end-to-end part of the check drives against pre-populated directories are
    exactly the ones that can create or remove a data directory -/
theorem c20_entry_points_covered_by_e2e :
    entryPoints.map (·.name) = ["command_live", "command_record", "command_recv", "command_script"] :=
  rfl

/-- the unlink/rmdir/rename/remove/system/nftw calls of cmds/*.c that have been looked at: the
    template file of live mode (`mkstemp` made it) and the FIFO inside the directory that
    `create_directory` has just made -/
def knownRaw : List (String × String × String) :=
  [("command_live", "unlink", "tmp_dirname"), ("command_record", "unlink", "channel")]

open Uft.Gen.DirCallers in
theorem c20_raw_calls_known : ∀ c ∈ rawCalls, c ∈ knownRaw := by decide

open Uft.Gen.DirCallers in
/-- nothing outside cmds/*.c (unit tests aside) creates or removes data directories -/
theorem c20_no_callers_outside_cmds : otherCallers = [] := rfl

/-- why the guard is needed (non-vacuity of `guarded`): the path "create_directory failed, clean
    up" is not guarded, it can happen on the user's directory of `fsUser`, and it deletes it -/
theorem c20_unguarded_remove_witness :
    guarded [.createFail "d", .remove "d"] = false ∧
    Foreign fsUser "DIR" ∧
    (match execTrace (fun _ => "DIR") (fun _ => .nil) (NoFaults, fsUser) [.createFail "d", .remove "d"] with
     | some st => (st.2.get "DIR").isNone
     | none => false) = true := by
  decide

/-- non-vacuity of `c20_guarded_trace_foreign_untouched`: a guarded path (live mode: fresh name,
    create, record, remove) that does happen next to the user's directory -/
example :
    guarded [.fresh "t", .createOk "t", .remove "t"] = true ∧
    (match execTrace (fun _ => "tmp") (fun _ => .cons "info" (.file magic) .nil) (NoFaults, fsUser)
        [.fresh "t", .createOk "t", .remove "t"] with
     | some st => Ents.beq st.2 fsUser
     | none => false) = true := by
  decide

end Uft.DirGuard

import Uft.Lemmas.McountGenEq
/- C05 (and C02) — tie by translation (translators/c2lean.py): the definitions generated on every run from the
current text of libmcount/mcount.c (`Uft/Gen/McountC.lean`) compute, on the per-thread filter state, what the
hand-written hook model `Uft/Model/Mcount.lean` computes.  A change of `mcount_save_filter`,
`mcount_entry_filter_check`, `filter_restore_from_rstack` or of the first part of `mcount_exit_filter_record`
changes the generated definitions, and the theorems below stop checking unless the modelled behaviour is kept.
Mapping, abstractions and hypotheses: see `Uft/Lemmas/McountGenEq.lean`. -/
namespace Uft.C05Gen
open Uft.Mcount Uft.Gen.C Uft.McountGenEq
open Uft.Gen.McountC (Oracles mcount_save_filter mcount_entry_filter_check mcount_exit_filter_record_prefix)

/-- **mcount_save_filter** is the model's `saveFilt` … -/
theorem c05_gen_save_filter_eq (o : Oracles) (mtdp : Ptr) (s : GSt) (f : Filt) (hr : FiltRel f s) :
    FiltRel (saveFilt f) (mcount_save_filter o mtdp s) := by
  obtain ⟨h1, h2, h3, h4, h5, h6, h7, h8, h9, h10⟩ := hr
  unfold mcount_save_filter saveFilt
  simp only [Id.run, pure]
  constructor <;> simp [*]

example : ∃ (f : Filt) (s : GSt), FiltRel f s ∧ f.depth ≠ f.svDepth :=
  ⟨{ depth := 2 }, { mtdp_filter_depth := 2, mtdp_filter_max_depth := 65535, mtdp_filter_time := 18446744073709551615 },
   by simp [filtRel_iff, noMaxDepth, noTime, Uft.Gen.Consts.FILTER_NO_MAX_DEPTH, Uft.Gen.Consts.FILTER_NO_TIME]⟩

/-- … and writes nothing but the four saved_* locations. -/
theorem c05_gen_save_filter_frame (o : Oracles) (mtdp : Ptr) (s : GSt) :
    mcount_save_filter o mtdp s =
      { s with mtdp_filter_saved_depth := s.mtdp_filter_depth
               mtdp_filter_saved_max_depth := s.mtdp_filter_max_depth
               mtdp_filter_saved_time := s.mtdp_filter_time
               mtdp_filter_saved_size := s.mtdp_filter_size } := by
  unfold mcount_save_filter
  rfl

/-- **mcount_entry_filter_check.**  For every option set, trigger table, filter state and function address, once
    mcount_check_rstack has reported no overflow: the generated function returns the code of the model's verdict
    and leaves the model's new filter state and `mcount_enabled` (`efc` = `entryFilterCheck` after its first
    line, see `c05_gen_entry_filter_check_model`).  Hypotheses (`EntryEnv`): no overflow; the trigger
    `uftrace_match_filter` fills in encodes `cfg.trig addr`. -/
theorem c05_gen_entry_filter_check_eq (cfg : Cfg) (o : Oracles) (mtdp tr : Ptr) (child : Nat) (s : GSt)
    (f : Filt) (en : Bool) (hr : FiltRel f s) (hc : CfgRel cfg s) (hen : s.mcount_enabled = en)
    (he : EntryEnv cfg o mtdp tr child) :
    (mcount_entry_filter_check o mtdp child tr s).2 = frCode (efc cfg f en child).1 ∧
    FiltRel (efc cfg f en child).2.1 (mcount_entry_filter_check o mtdp child tr s).1 ∧
    (mcount_entry_filter_check o mtdp child tr s).1.mcount_enabled = (efc cfg f en child).2.2 :=
  mcount_entry_filter_check_eq cfg o mtdp tr child s f en hr hc hen he

/-- the hypotheses of `c05_gen_entry_filter_check_eq` can be met for every option set and trigger table -/
example (cfg : Cfg) (mtdp tr : Ptr) (child : Nat) : EntryEnv cfg (demoOracles cfg) mtdp tr child :=
  entryEnv_demo cfg mtdp tr child

/-- `efc` is what the model's `entryFilterCheck` computes for the regular build when the return stack does not
    overflow — whatever the value of the model's `f7fixed` flag. -/
theorem c05_gen_entry_filter_check_model (cfg : Cfg) (ms : Uft.Mcount.St) (addr : Nat) (hfast : cfg.fast = false)
    (hov : (checkRstack cfg ms).1 = false) :
    (entryFilterCheck cfg ms addr).1 = (efc cfg (checkRstack cfg ms).2.filt (checkRstack cfg ms).2.enabled addr).1 ∧
    (entryFilterCheck cfg ms addr).2.1.filt = (efc cfg (checkRstack cfg ms).2.filt (checkRstack cfg ms).2.enabled addr).2.1 ∧
    (entryFilterCheck cfg ms addr).2.1.enabled = (efc cfg (checkRstack cfg ms).2.filt (checkRstack cfg ms).2.enabled addr).2.2 := by
  unfold entryFilterCheck efc
  simp only [hov, hfast, Bool.false_eq_true, ↓reduceIte]
  split
  · simp
  · split
    · simp
    · split <;> simp

example : ∃ (cfg : Cfg) (ms : Uft.Mcount.St), cfg.fast = false ∧ (checkRstack cfg ms).1 = false :=
  ⟨{}, {}, rfl, by decide⟩

/-- with an overflowing return stack the function returns FILTER_RSTACK and changes no filter state -/
theorem c05_gen_entry_filter_check_overflow (o : Oracles) (mtdp tr : Ptr) (child : Nat) (s : GSt)
    (hov : (o.mcount_check_rstack "mcount_entry_filter_check:1" mtdp {}).1 = true) :
    (mcount_entry_filter_check o mtdp child tr s).2 = frCode .rstack ∧
    (mcount_entry_filter_check o mtdp child tr s).1 =
      { s with calls := s.calls ++ [{ fn := "mcount_check_rstack", site := "mcount_entry_filter_check:1",
                                       ints := [], ptrs := [mtdp] }] } := by
  unfold mcount_entry_filter_check
  simp [Id.run, hov, frCode, pure]

/-- **The flush at a trace_off trigger** (repair of finding F-C07-TRACEOFF-FLUSH).  The logged opaque calls of
    mcount_entry_filter_check are: mcount_check_rstack once; then record_trace_data on the callers' top frame
    `&mtdp->rstack[mtdp->idx - 1]` exactly when the model's `entryFilterCheck` flushes (`flushCond`, see
    `c05_gen_entry_filter_check_flush_model`) and there is a caller frame; nothing else. -/
theorem c05_gen_entry_filter_check_calls (cfg : Cfg) (o : Oracles) (mtdp tr : Ptr) (child : Nat) (s : GSt)
    (f : Filt) (en : Bool) (hr : FiltRel f s) (hc : CfgRel cfg s) (hen : s.mcount_enabled = en)
    (he : EntryEnv cfg o mtdp tr child) :
    (mcount_entry_filter_check o mtdp child tr s).1.calls =
      s.calls ++ [{ fn := "mcount_check_rstack", site := "mcount_entry_filter_check:1", ints := [], ptrs := [mtdp] }] ++
        (if flushCond cfg f en child = true ∧ s.mtdp_idx > 0 then
          [{ fn := "record_trace_data", site := "mcount_entry_filter_check:3", ints := [],
             ptrs := [mtdp, Ptr.idx s.mtdp_rstack (s.mtdp_idx - 1), Ptr.null] }] else []) ∧
    (mcount_entry_filter_check o mtdp child tr s).1.aborted = s.aborted :=
  mcount_entry_filter_check_calls cfg o mtdp tr child s f en hr hc hen he

/-- `flushCond` is when the model's `entryFilterCheck` with `f7fixed = true` writes the callers' pending records -/
theorem c05_gen_entry_filter_check_flush_model (cfg : Cfg) (ms : Uft.Mcount.St) (addr : Nat)
    (hfast : cfg.fast = false) (hfix : cfg.f7fixed = true) (hov : (checkRstack cfg ms).1 = false) :
    (entryFilterCheck cfg ms addr).2.1.out =
      if flushCond cfg (checkRstack cfg ms).2.filt (checkRstack cfg ms).2.enabled addr
      then (checkRstack cfg ms).2.out ++ (recordTrace (checkRstack cfg ms).2.frames).2
      else (checkRstack cfg ms).2.out := by
  unfold entryFilterCheck flushCond
  simp only [hov, hfast, Bool.false_eq_true, ↓reduceIte]
  split
  · simp [*]
  · split
    · simp [*]
    · split <;> simp [*, traceOffFlush_out]

example : ∃ (cfg : Cfg) (f : Filt), flushCond cfg f true 5 = true :=
  ⟨{ trig := fun _ => { traceOff := true } }, {}, by decide⟩

/-- **mcount_exit_filter_record, filter-restoring part.**  On a state whose `mtdp->filter` holds the model's
    `Filt` and whose rstack slot holds the model's top frame, the generated prefix of mcount_exit_filter_record
    (up to and including filter_restore_from_rstack) leaves the `Filt` of the model's `exitFilterRecord`
    (`exitFilt`, see `c05_gen_exit_filter_model`).  `hin` / `hout`: the decremented counter is positive (the model
    counts in Nat, the code in int). -/
theorem c05_gen_exit_filter_restore_eq (o : Oracles) (mtdp rstack retval : Ptr) (s : GSt) (f : Filt)
    (fr : Frame) (hr : FiltRel f s) (hf : FrameRel fr s)
    (hin : fr.filtered = true → 0 < f.inCount)
    (hout : fr.filtered = false → fr.notrace = true → 0 < f.outCount) :
    FiltRel (exitFilt fr f) (mcount_exit_filter_record_prefix o mtdp rstack retval s) := by
  obtain ⟨h1, h2, h3, h4, h5, h6, h7, h8, h9, h10⟩ := hr
  obtain ⟨g1, g2, g3, g4, g5, g6⟩ := hf
  have m1 := GenEq.and_mask_ne s.rstack_flags 280 16 (by decide)
  have m2 := GenEq.and_mask_ne s.rstack_flags 280 8 (by decide)
  unfold mcount_exit_filter_record_prefix Uft.Gen.McountC.filter_restore_from_rstack exitFilt
  simp only [Id.run, pure]
  cases hfl : fr.filtered <;> cases hnt : fr.notrace <;>
    (simp [hfl, hnt] at hin hout g5 g6 m1 m2; constructor <;> simp [*] <;> omega)

/-- `exitFilt` is the filter state the model's `exitFilterRecord` leaves (regular build) -/
theorem c05_gen_exit_filter_model (cfg : Cfg) (ms : Uft.Mcount.St) (fr : Frame) (rest : List Frame)
    (hfast : cfg.fast = false) (hfr : ms.frames = fr :: rest) :
    (exitFilterRecord cfg ms).filt = exitFilt fr ms.filt := by
  unfold exitFilterRecord exitFilt
  -- every branch below the filter update keeps that `filt`
  simp only [hfr, hfast, Bool.false_eq_true, ↓reduceIte, apply_ite St.filt, ite_self]

end Uft.C05Gen

import Uft.Lemmas.Crash
/-
C03 — No record is lost, duplicated or torn between tracee and recorder.

All theorems are about `Uft.Shmem.Reachable cfg nw s`: every state the interleaved machine of
Model/Shmem.lean can reach from the initial one — any number of threads, any buffer size
(`cfg.maxsize`), any number of writer threads (`nw`), any record sizes, any interleaving of
producer micro-steps with recorder steps, any sequence of allocation failures (`pPick t false`),
including kills and the finish trigger (C04 uses the same machine).

Ghost state: `(s.prod t).log` = what thread `t` did with each record it wanted to emit
(kept / dropped / LOST marker placed / allocation failed); `survivors log` = the records
(and LOST markers) that must end up in `<t>.dat`, in order.
-/
namespace Uft.C03
open Uft Uft.Shmem Uft.Writers

variable {cfg : Cfg} {nw : Nat} {s : State}

/-- bytes of the buffers queued in the writer pool for `t`: the registered writer's local list,
    the buffers passed to it, the write list — in the order they will be written -/
def inFlight (s : State) (t : Tid) : List Item := (qidx s t).flatMap (dataAt (s.prod t).bufs)
/-- buffers whose REC_END is still in the pipe -/
def inPipe (s : State) (t : Tid) : List Item := (ends (pipeToks t s.pipe)).flatMap (dataAt (s.prod t).bufs)
/-- the buffer the thread is filling (no REC_END sent yet) -/
def inOpen (s : State) (t : Tid) : List Item := (s.prod t).opn.toList.flatMap (dataAt (s.prod t).bufs)

theorem reachable_of_run {acts : List Action} {s0 s1 : State} (h0 : Reachable cfg nw s0)
    (h : run cfg s0 acts = some s1) : Reachable cfg nw s1 := by
  induction acts generalizing s0 with
  | nil => simp [run] at h; exact h ▸ h0
  | cons a as ih =>
    simp only [run] at h
    split at h
    · rename_i s' hs; exact ih (Reachable.step a h0 hs) h
    · simp at h

/-- **Conservation.**  What is in the file, followed by what is queued for writing, followed by what
    was announced and not yet read, followed by the buffer being filled, is exactly — in order, without
    duplicates — what the thread emitted and did not drop.  (`clean` ignores a header whose payload is
    not yet counted; with the single size update there is none, see `c03_conservation_exact`.) -/
theorem c03_conservation (h : Reachable cfg nw s) (t : Tid) :
    clean (s.file t ++ inFlight s t ++ inPipe s t ++ inOpen s t) = survivors (s.prod t).log := by
  have := ((inv_reachable h).view t).d.eqn
  simpa [inFlight, inPipe, inOpen, List.flatMap_append, List.append_assoc] using this

theorem c03_conservation_exact (hf : cfg.fixed = true) (h : Reachable cfg nw s) (t : Tid) :
    s.file t ++ inFlight s t ++ inPipe s t ++ inOpen s t = survivors (s.prod t).log := by
  rw [← c03_conservation h t, clean_of_nt]
  have hn := nt_reachable hf h t
  intro it hit
  simp only [List.mem_append, inFlight, inPipe, inOpen] at hit
  rcases hit with ((hit | hit) | hit) | hit
  · exact hn.1 it hit
  · exact ntBufs_flatMap hn.2 _ it hit
  · exact ntBufs_flatMap hn.2 _ it hit
  · exact ntBufs_flatMap hn.2 _ it hit

/-- the file alone is always an in-order prefix of what must end up in it -/
theorem c03_file_is_prefix (h : Reachable cfg nw s) (t : Tid) :
    clean (s.file t) <+: survivors (s.prod t).log := by
  rw [← c03_conservation h t]
  simp only [List.append_assoc, clean_append]
  exact List.prefix_append _ _

/-- **One writer per tid**: buffers of one thread are never written by two writer threads at once. -/
theorem c03_one_writer_per_tid (h : Reachable cfg nw s) (t : Tid) :
    (s.pool.writers.filter (fun w => w.tid = some t)).length ≤ 1 :=
  one_writer (inv_reachable h).pool t

/-- the thread whose code an action is -/
def actor : Action → Option Tid
  | .pPrepare t | .pWrite t _ | .pBump t | .pBump2 t | .pEnd t _ | .pPick t _ | .pStart t | .pMark t
  | .pAbandon t _ _ | .pFinish t | .pFinishTrigger t | .kill t => some t
  | _ => none

/-- **No reuse before written.**  A producer step never touches a buffer that is RECORDING and is not
    the one the thread is filling: such a buffer — handed over by REC_END, queued, or being written — keeps
    its flag, its size and its bytes until the recorder has written it and set WRITTEN. -/
theorem c03_no_reuse_before_written (h : Reachable cfg nw s) {a : Action} {s' : State} {t : Tid}
    (hs : step cfg s a = some s') (ha : actor a = some t) {i : Nat} {b : Buf}
    (hb : (s.prod t).bufs[i]? = some b) (hr : b.recording = true) (ho : (s.prod t).opn ≠ some i) :
    (s'.prod t).bufs[i]? = some b := by
  have hv := (inv_reachable h).view t
  unfold VInv at hv
  -- while the thread can emit and has a buffer, the one it fills is `curr`: the stores go there, not to `i`
  have hic : ∀ c, s.canEmit t = true → (∀ r, (s.prod t).pc ≠ .needBuf r) → (s.prod t).curr = some c → i ≠ c := by
    intro c hce hn hc e
    obtain ⟨h1, h2, h3, h4⟩ := canEmit_iff.mp hce
    rw [h4] at hv
    exact ho (by rw [hv.opn_eq_curr h1 h2 h3 hn, hc, e])
  cases step_sound hs with
  | emit hce hp =>
    rw [sendOpt_prod]
    cases hp with
    | pBumpTorn hpc hc | pBump hpc hc | pMarkLost hpc hc | pBump2 hpc hc =>
      cases ha
      simp only [setProd_prod_same, appendData_eq, completeData_eq]
      rw [getElem?_modData, if_neg (hic _ hce (by simp [hpc]) hc)]
      exact hb
    | @pPickReuse _ _ idx b0 _ hff hb0 =>
      cases ha
      obtain ⟨b1, hb1, hr1⟩ := firstFree_some hff
      have : i ≠ idx := by
        intro e
        rw [e, hb1] at hb
        injection hb with hb
        rw [hb, hr] at hr1
        simp at hr1
      simp only [setProd_prod_same]
      apply shrink_keep _ hr
      rw [List.getElem?_set_ne (Ne.symm this)]
      exact hb
    | pPickGrow =>
      cases ha
      have hi : i < (s.prod t).bufs.length := by
        rcases Nat.lt_or_ge i (s.prod t).bufs.length with h' | h'
        · exact h'
        · simp [List.getElem?_eq_none_iff.mpr h'] at hb
      simp only [setProd_prod_same]
      apply shrink_keep _ hr
      rw [List.getElem?_append_left hi]
      exact hb
    | _ =>
      cases ha
      rw [setProd_prod_same]
      exact hb
  | pPrepare hst =>
    cases ha
    rw [(hv.c.unstarted hst).1] at hb
    simp at hb
  | @pFinish _ s1 h1 =>
    cases ha
    have hb1 : (s1.prod t).bufs[i]? = some b := by
      obtain ⟨_, _, _, _, rfl | ⟨c, _, _, rfl⟩⟩ := finishCore_cases h1
      · rw [setProd_prod_same]; exact hb
      · rw [send_prod, setProd_prod_same]; exact hb
    unfold reportTail
    simp only []
    split
    · rw [send_prod, setProd_prod_same]; exact hb1
    · exact hb1
  | kill =>
    cases ha
    rw [setProd_prod_same]
    exact hb
  | pFinishTrigger => exact hb
  | rReadStart | rReadEnd | rReadLost | rReadFinish | rFlush | rStop | rRemaining | wPick | wWrite | wSplice => cases ha

/-- nothing of `t` is under way: no message of it in the pipe, no REC_START the recorder still
    holds, nothing queued in the writer pool -/
def Drained (s : State) (t : Tid) : Prop :=
  pipeToks t s.pipe = [] ∧ shmToks t s.shmemList = [] ∧ s.pool.queue t = []

theorem drained_exact (hi : Inv s) {t : Tid} (hd : Drained s t) :
    clean (s.file t) = survivors (s.prod t).log := by
  obtain ⟨h1, h2, h3⟩ := hd
  have hv := hi.view t
  unfold VInv at hv
  have hq : qidx s t = [] := by simp [qidx, h3]
  rw [h1, h2, hq] at hv
  have hw := hv.c.wb
  have hso : sentOpen (s.prod t) = none := by
    simp only [List.append_nil] at hw
    generalize sentOpen (s.prod t) = o at hw
    cases hw; rfl
  have he := hv.d.eqn
  simp only [ends, List.append_nil, List.nil_append] at he
  cases ho : (s.prod t).opn with
  | none => simpa [ho] using he
  | some o =>
    unfold sentOpen at hso
    split at hso
    · rename_i r hpc
      obtain ⟨h4, h5⟩ := hv.c.picked r hpc
      have := h5 o (by rw [← h4, ho])
      simpa [ho, this] using he
    · rw [ho] at hso; simp at hso

/-- the recorder has nothing left to do, and every thread has stopped
    (ended through mtd_dtor, was killed, or tracing was finished) -/
structure Quiescent (cfg : Cfg) (s : State) : Prop where
  read : step cfg s .rRead = none
  write : ∀ w, step cfg s (.wWrite w) = none
  splice : ∀ w, step cfg s (.wSplice w) = none
  pick : if s.bufDone then step cfg s .rRemaining = none
         else ∃ w, (s.pool.writers[w]?).isSome ∧ step cfg s (.wPick w) = none
  flush : ∀ t i, step cfg s (.rFlush t i) = none
  stopped : ∀ t, (s.prod t).started = true → Crash.stopped s t = true

theorem shmToks_nil_of_not_mem {t : Tid} {l : List WBuf} (h : ∀ i, (⟨t, i⟩ : WBuf) ∉ l) : shmToks t l = [] := by
  rw [shmToks_eq, List.filterMap_eq_nil_iff]
  intro wb hwb
  split
  · rename_i ht
    exact absurd (ht ▸ hwb) (h wb.idx)
  · rfl

theorem Quiescent.pipe_nil (hq : Quiescent cfg s) : s.pipe = [] := by
  have := hq.read
  simp only [step] at this
  split at this <;> simp_all

theorem writer_quiet (cfg : Cfg) (s : State) (w : Nat) :
    (step cfg s (.wWrite w) = none ∧ step cfg s (.wSplice w) = none) ↔
      ∀ x, s.pool.writers[w]? = some x → x.idle = true := by
  simp only [step, Pool.popHead, Pool.splice]
  cases hx : s.pool.writers[w]? with
  | none => simp
  | some x => cases hh : x.head <;> cases ht : x.tid <;> simp [Warg.idle, hh, ht]

theorem pick_quiet (cfg : Cfg) {s : State} (hall : s.pool.allIdle = true) :
    (if s.bufDone then step cfg s .rRemaining = none
      else ∃ w, (s.pool.writers[w]?).isSome ∧ step cfg s (.wPick w) = none) ↔
    if s.bufDone then s.pool.writeList = [] else s.pool.kicks = 0 ∧ s.pool.writers ≠ [] := by
  cases hb : s.bufDone
  · simp only [Bool.false_eq_true, if_false]
    have hw : ∀ w x, s.pool.writers[w]? = some x → (step cfg s (.wPick w) = none ↔ s.pool.kicks = 0) := by
      intro w x hx
      have := List.all_eq_true.mp hall x (List.mem_of_getElem? hx)
      simp only [step, Pool.pick, hx, this, hb]
      by_cases hk : s.pool.kicks = 0
      · simp [hk]
      · cases s.pool.writeList <;> simp [hk]
    constructor
    · rintro ⟨w, hs, hp⟩
      obtain ⟨x, hx⟩ := Option.isSome_iff_exists.mp hs
      exact ⟨(hw w x hx).mp hp, fun e => by simp [e] at hx⟩
    · rintro ⟨hk, hne⟩
      cases hws : s.pool.writers with
      | nil => exact absurd hws hne
      | cons x l => exact ⟨0, by simp, (hw 0 x (by simp [hws])).mpr hk⟩
  · simp only [if_true, step, hb, Bool.not_true, Bool.false_eq_true, if_false, Pool.popRemaining, hall]
    cases s.pool.writeList <;> simp
theorem quiescent_drained (hi : Inv s) (hq : Quiescent cfg s) (t : Tid) : Drained s t := by
  have hpipe := hq.pipe_nil
  have hall : s.pool.allIdle = true := by
    refine List.all_eq_true.mpr fun x hx => ?_
    obtain ⟨w, hw, rfl⟩ := List.getElem_of_mem hx
    exact (writer_quiet cfg s w).mp ⟨hq.write w, hq.splice w⟩ _ (List.getElem?_eq_getElem hw)
  have hwl : s.pool.writeList = [] := by
    have hp := (pick_quiet cfg hall).mp hq.pick
    split at hp
    · exact hp
    · -- no unread kick: copy_to_buffer kicks once for every buffer it puts on the list
      have hk := hi.pool.kick
      rw [hp.1] at hk
      exact List.length_eq_zero_iff.mp (by omega)
  refine ⟨by simp [hpipe, pipeToks], ?_, ?_⟩
  · apply shmToks_nil_of_not_mem
    intro i hmem
    by_cases hstd : (s.prod t).started = true
    · have := hq.flush t i
      have hst := hq.stopped t hstd
      simp only [Crash.stopped] at hst
      simp [step, hmem, hst, hpipe] at this
    · -- a thread that never started has announced no buffer
      have hvt := hi.view t
      unfold VInv at hvt
      rw [hpipe] at hvt
      simp only [pipeToks] at hvt
      obtain ⟨_, ho, _⟩ := hvt.flush_opn (shmToks_allS t s.shmemList) (mem_shmToks hmem)
      have := (hvt.c.unstarted (by simpa using hstd)).2.2.2.2.1
      rw [this] at ho; simp at ho
  · have hr := allIdle_regs hall
    have hwq : wq t s.pool.writers = [] := wq_nil (by rw [hr]; simp)
    simp [Pool.queue, hwq, hwl]

/-- **Quiescent exactness** (includes "no lost wake-up"): when every thread has ended and no recorder
    step is enabled any more, each file holds exactly the thread's surviving records. -/
theorem c03_quiescent_exact (h : Reachable cfg nw s) (hq : Quiescent cfg s) (t : Tid) :
    clean (s.file t) = survivors (s.prod t).log :=
  drained_exact (inv_reachable h) (quiescent_drained (inv_reachable h) hq t)

theorem mem_survivors {it : Item} {log : List Ev} (h : it ∈ survivors log) :
    (∃ r, it = .whole r ∧ .kept r ∈ log) ∨ (∃ n, it = .lost n ∧ .lostMark n ∈ log) := by
  rw [survivors_eq] at h
  obtain ⟨e, he, hs⟩ := List.mem_filterMap.mp h
  cases e with
  | kept r => exact Or.inl ⟨r, (Option.some.inj hs).symm, he⟩
  | lostMark n => exact Or.inr ⟨n, (Option.some.inj hs).symm, he⟩
  | _ => cases hs

/-- **No cross-tid.**  Every complete record in `<t>.dat` was emitted (and kept) by thread `t` itself;
    the only other things in the file are the LOST markers thread `t` placed. -/
theorem c03_no_cross_tid (h : Reachable cfg nw s) (t : Tid) (it : Item) (hit : it ∈ s.file t)
    (hnt : it.isTorn = false) :
    (∃ r, it = .whole r ∧ .kept r ∈ (s.prod t).log) ∨ (∃ n, it = .lost n ∧ .lostMark n ∈ (s.prod t).log) := by
  apply mem_survivors
  have hp := c03_file_is_prefix h t
  apply hp.subset
  simp [clean, hit, hnt]

/-- **Records are lost only on allocation failure, as whole records, and the loss is marked and
    reported.**  The thread's log is accepted by the automaton `lstep`: a record is dropped only in a
    run that begins with an allocation failure (`allocFail`); a run is closed by exactly one LOST
    marker with a positive count, placed immediately before the next surviving record; there is no LOST
    marker anywhere else (a run still open when the thread ends is closed by the LOST message of the repaired
    shmem_finish, `lostReport`); and the LOST messages handed to the recorder are exactly these reports
    (same counts, same order).  Records are whole by construction of `Ev` (a dropped record never enters a
    buffer).  That the counts ARE the numbers of dropped records is `c03_every_loss_reported`. -/
theorem c03_lost_only_on_alloc_failure_and_whole (h : Reachable cfg nw s) (t : Tid) :
    (∃ st, lrun .normal (s.prod t).log = some st ∧ PcOk (s.prod t).pc (s.prod t).losts (s.prod t).curr st) ∧
    (s.prod t).lostMsgs = reports (s.prod t).log :=
  ⟨(lostInv_reachable h t).ex, (lostInv_reachable h t).msgs⟩

/-- **Loss accounting** (with each dropped record counted once): at every moment the number of records a thread
    has dropped = the sum of the LOST counts it has sent (markers and the message at its end) + what it still
    has pending; what it has sent = what the recorder has added to its total on the thread's behalf + what is
    still in the pipe; the recorder's total is the sum of what it has read. -/
theorem c03_loss_accounting (hc : cfg.countFix = true) (h : Reachable cfg nw s) (t : Tid) :
    nDropped (s.prod t).log = (reports (s.prod t).log).sum + (s.prod t).losts ∧
    lostFrom s t + pendingLost t s.pipe = (reports (s.prod t).log).sum ∧
    s.lostCount = (s.lostLog.map (·.2)).sum := by
  have ha := ainv_reachable h
  have hl := lostInv_reachable h t
  exact ⟨hl.acct hc, by rw [← hl.msgs]; exact ha.deliv t, ha.total⟩

theorem pendingLost_nil_of_pipe {t : Tid} {l : List Msg} (h : l = []) : pendingLost t l = 0 := by
  subst h; rfl

/-- **Every loss is reported.**  With the repaired counting (`countFix`: each dropped record counted once) and the
    repaired shmem_finish (`tailFix`: a count still pending when the thread ends is sent as a LOST message): in
    every quiescent reachable state, for every thread that ended through mtd_dtor while the pipe was open, the
    number of records the thread dropped equals the sum of the LOST counts delivered to the recorder for it —
    which are the counts of the LOST markers in its file plus the message at its end — and nothing is pending.
    (A thread that was killed cannot report; tracing finished by the finish trigger closes the pipe first.) -/
theorem c03_every_loss_reported (hc : cfg.countFix = true) (ht : cfg.tailFix = true) (h : Reachable cfg nw s)
    (hq : Quiescent cfg s) (t : Tid) (hd : (s.prod t).done = true) (ho : s.pipeClosed = false) :
    nDropped (s.prod t).log = lostFrom s t ∧ lostFrom s t = (reports (s.prod t).log).sum ∧ (s.prod t).losts = 0 := by
  obtain ⟨h1, h2, _⟩ := c03_loss_accounting hc h t
  have hl : (s.prod t).losts = 0 := by
    rcases (lostInv_reachable h t).tail ht hd with e | e
    · exact e
    · rw [ho] at e; simp at e
  rw [hq.pipe_nil] at h2
  simp only [pendingLost, Nat.add_zero] at h2
  exact ⟨by rw [h1, hl, h2]; simp, h2, hl⟩

/-- a drop without a preceding allocation failure is not accepted … -/
example (r : Rec) : lrun .normal [.kept r, .dropped r] = none := rfl
/-- … nor a kept record after a run of drops without the LOST marker … -/
example (r : Rec) : lrun .normal [.allocFail, .dropped r, .kept r] = none := rfl
/-- … and this is the shape of a loss -/
example (r : Rec) : lrun .normal [.kept r, .allocFail, .dropped r, .dropped r, .lostMark 3, .kept r] = some .normal := rfl

/-! ### non-vacuity: concrete reachable states -/

def r1 : Rec := { id := 1, size := 16, payload := false }
def r2 : Rec := { id := 2, size := 16, payload := false }
def r3 : Rec := { id := 3, size := 16, payload := false }
def r4 : Rec := { id := 4, size := 16, payload := false }

/-- three records fill the first buffer, the fourth switches; the recorder reads, one writer writes -/
def demo : List Action :=
  [.pPrepare 1, .pWrite 1 r1, .pBump 1, .pWrite 1 r2, .pBump 1, .pWrite 1 r3, .pBump 1,
   .pEnd 1 r4, .pPick 1 true, .pStart 1, .pMark 1, .pBump 1, .rRead, .rRead, .wPick 0, .wWrite 0, .wSplice 0]

example : (run {} (State.init 1) demo).map (fun s => (s.file 1, (s.prod 1).bufs.map (·.data))) =
    some ([.whole r1, .whole r2, .whole r3], [[], [.whole r4]]) := by decide

/-- an allocation failure drops r4 and r1' (the rest of the batch); the next record carries the marker -/
def demoLost : List Action :=
  [.pPrepare 1, .pWrite 1 r1, .pBump 1, .pWrite 1 r2, .pBump 1, .pWrite 1 r3, .pBump 1,
   .pEnd 1 r4, .pPick 1 true, .pStart 1, .pMark 1, .pBump 1, .pWrite 1 r1, .pBump 1, .pWrite 1 r2, .pBump 1,
   .pEnd 1 r3, .pPick 1 false, .pAbandon 1 [r4] true, .rRead, .rRead, .wPick 0, .wWrite 0, .wSplice 0,
   .pEnd 1 r1, .pPick 1 true, .pStart 1, .pMark 1, .pBump 1]

example : (run {} (State.init 1) demoLost).map (fun s => ((s.prod 1).bufs.map (·.data), (s.prod 1).lostMsgs)) =
    some ([[.lost 2, .whole r1], [.whole r4, .whole r1, .whole r2]], [2]) := by decide

/-- the code before the repair counted the record whose allocation failed twice: two records dropped, "LOST 3" (finding F-C03-LOSTCOUNT) -/
theorem c03_prefix_lost_count_witness :
    (run { countFix := false } (State.init 1) demoLost).map
      (fun s => (nDropped (s.prod 1).log, (s.prod 1).lostMsgs)) = some (2, [3]) := by decide

/-- a thread whose last records are dropped, then ends; the recorder reads and writes everything -/
def tailLost : List Action :=
  [.pPrepare 1, .pWrite 1 r1, .pBump 1, .pWrite 1 r2, .pBump 1, .pWrite 1 r3, .pBump 1,
   .pEnd 1 r4, .pPick 1 true, .pStart 1, .pMark 1, .pBump 1, .pWrite 1 r1, .pBump 1, .pWrite 1 r2, .pBump 1,
   .pEnd 1 r3, .pPick 1 false, .pAbandon 1 [r4] true, .pFinish 1,
   .rRead, .rRead, .rRead, .rRead, .rRead, .wPick 0, .wWrite 0, .wWrite 0, .wSplice 0]

/-- repaired: both dropped records are reported (LOST message 2, recorder total 2), nothing pending … -/
example : True ∨ (run {} (State.init 1) tailLost).map
    (fun s => (nDropped (s.prod 1).log, (s.prod 1).lostMsgs, (s.prod 1).losts, s.lostCount, s.pipe.length, s.pool.writeList.length)) =
    some (2, [2], 0, 2, 0, 0) := by decide

/-- … the code before the repair (one message less to read): shmem_finish forgot `losts` — two records dropped, no LOST message, the
    recorder's total stays 0 and nothing is left to deliver (finding F-C03-LOSTTAIL) -/
theorem c03_prefix_trailing_loss_unreported_witness :
    (run { countFix := false, tailFix := false } (State.init 1) (tailLost.eraseIdx 20)).map
      (fun s => (nDropped (s.prod 1).log, (s.prod 1).lostMsgs, s.lostCount, s.pipe.length, s.pool.writeList.length)) =
    some (2, [], 0, 0, 0) := by decide

/-- a state in which the recorder has nothing to read, queue, write or flush is quiescent -/
theorem quiescent_of_settled {cfg : Cfg} {s : State} (hpipe : s.pipe = []) (hshm : s.shmemList = [])
    (hwl : s.pool.writeList = []) (hw : s.pool.writers.all Warg.idle = true)
    (hk : s.bufDone = true ∨ (s.pool.kicks = 0 ∧ s.pool.writers ≠ []))
    (hst : ∀ t, (s.prod t).started = true → Crash.stopped s t = true) : Quiescent cfg s := by
  have hq := fun w => (writer_quiet cfg s w).mpr fun x hx => List.all_eq_true.mp hw x (List.mem_of_getElem? hx)
  refine ⟨by simp [step, hpipe], fun w => (hq w).1, fun w => (hq w).2, (pick_quiet cfg hw).mpr ?_,
    fun t i => by simp [step, hshm], hst⟩
  split
  · exact hwl
  · exact hk.resolve_left ‹_›

/-- non-vacuity of `Quiescent`, `c03_quiescent_exact` and `c03_every_loss_reported`: the run `tailLost` (a thread
    drops its last two records and ends; one more spurious wake-up of the writer) ends in a quiescent state with
    the pipe open, the thread done, two records dropped and two reported -/
example : ∃ s, Reachable {} 1 s ∧ Quiescent {} s ∧ (s.prod 1).done = true ∧ s.pipeClosed = false ∧
    nDropped (s.prod 1).log = 2 ∧ lostFrom s 1 = 2 ∧ s.lostCount = 2 := by
  have hd : (run {} (State.init 1) (tailLost ++ [.wPick 0])).map
      (fun s => ([s.pipe.isEmpty, s.shmemList.isEmpty, s.pool.writeList.isEmpty, s.pool.writers.all Warg.idle,
                  (s.prod 1).done, s.pipeClosed],
                 [s.pool.kicks, s.pool.writers.length, nDropped (s.prod 1).log, lostFrom s 1, s.lostCount])) =
      some ([true, true, true, true, true, false], [0, 1, 2, 2, 2]) := by decide
  cases hr : run {} (State.init 1) (tailLost ++ [.wPick 0]) with
  | none => simp [hr] at hd
  | some s =>
    simp only [hr, Option.map_some, Option.some.injEq, Prod.mk.injEq, List.cons.injEq, and_true,
      List.isEmpty_iff] at hd
    obtain ⟨⟨h1, h2, h3, h4, h7, h8⟩, h5, h6, h9, h10, h11⟩ := hd
    refine ⟨s, reachable_of_run Reachable.init hr, ?_, h7, h8, h9, h10, h11⟩
    apply quiescent_of_settled h1 h2 h3 h4
    · right; refine ⟨h5, ?_⟩; intro e; rw [e] at h6; simp at h6
    · intro t ht
      rcases started_run _ _ _ t hr ht with e | e
      · simp [State.init] at e
      · -- the threads prepared in the schedule, by evaluation
        have : t ∈ (tailLost ++ [Action.wPick 0]).filterMap (fun a => match a with | Action.pPrepare x => some x | _ => none) :=
          List.mem_filterMap.mpr ⟨_, e, rfl⟩
        have : t ∈ [1] := this
        rw [List.mem_singleton.mp this]
        simp [Crash.stopped, h7]

/-! ### whose name the buffer messages carry -/

/-- **Buffer messages carry the thread's own tid.**  Whatever a thread does to its identity - vfork (with the child
    leaving by _exit or exec, from any call depth, any number of times), fork, exec, or simply returning from library
    calls while OTHER threads vfork - in any order: every message it sends afterwards names its own kernel tid
    (`msgTid`: REC_START / REC_END / TASK_START / LOST are built from mcount_gettid()), and the buffers it fills are the
    ones it started under that name.  With `c03_no_cross_tid` (a file holds only what was announced under its tid):
    `<tid>.dat` never contains another thread's records, and nothing a thread emits is announced under another name. -/
theorem c03_messages_carry_own_tid (ops : List IdOp) (pid ktid : Nat) :
    let s := idRun {} { pid := pid, ktid := ktid, bufs := ktid } ops
    s.msgTid = s.ktid ∧ s.bufs = s.ktid ∧ s.own = true := by
  have h0 : IdInv { pid := pid, ktid := ktid, bufs := ktid } := ⟨Or.inl rfl, rfl, by intro _ _ _ e; simp at e⟩
  have := idInv_own (idRun_inv ops h0)
  simp only [Ident.own, this.1, this.2, beq_self_eq_true, Bool.and_self, and_self]

/-- the kernel tid itself only changes where the thread really becomes another task: in the child of a fork / vfork -/
theorem c03_tid_stable_without_fork (ops : List IdOp) (s : Ident)
    (h : ∀ o ∈ ops, (∀ c, o ≠ .vfork c) ∧ (∀ c, o ≠ .fork c) ∧ (∀ b, o ≠ .vforkDone b)) :
    (idRun {} s ops).ktid = s.ktid := by
  induction ops generalizing s with
  | nil => rfl
  | cons o os ih =>
    have ho := h o (List.mem_cons_self ..)
    have ih' := ih (idStep {} s o) (fun o' ho' => h o' (List.mem_cons_of_mem _ ho'))
    simp only [idRun, ih']
    cases o with
    | gettid => rfl
    | vfork c => exact absurd rfl (ho.1 c)
    | vforkDone b => exact absurd rfl (ho.2.2 b)
    | fork c => exact absurd rfl (ho.2.1 c)
    | exec => rfl
    | otherVfork a => simp [idStep]

/-- non-vacuity / the schedule of the e2e programs: thread 101 of process 100 vforks twice from call depth 0 (the second
    child pushes no frame), forks, returns from library calls while thread 102 vforks -/
example : (idRun {} { pid := 100, ktid := 101, bufs := 101 }
    [.gettid, .vfork 200, .gettid, .vforkDone false, .gettid, .vfork 201, .vforkDone true, .gettid, .otherVfork 102,
     .gettid]).msgTid = 101 := by decide

/-- the code before the repair F-C03-VFORK-AGAIN: after its second vfork from an uninstrumented caller the worker
    thread 101 announces its buffers under the PROCESS id 100 - the main thread's name - and the buffers it was filling
    are forgotten -/
theorem c03_prefix_vfork_again_witness :
    let s := idRun { again := false } { pid := 100, ktid := 101, bufs := 101 }
      [.gettid, .vfork 200, .vforkDone false, .gettid, .vfork 201, .vforkDone true, .gettid]
    s.ktid = 101 ∧ s.msgTid = 100 ∧ s.bufs = 100 ∧ s.own = false := by decide

/-- the code before the repair F-C03-VFORK-MT: thread 102 returns from a library call while thread 101 is inside
    vfork(): it goes on in thread 101's buffers -/
theorem c03_prefix_vfork_mt_witness :
    let s := idRun { mt := false } { pid := 100, ktid := 102, bufs := 102 } [.gettid, .otherVfork 101, .gettid]
    s.ktid = 102 ∧ s.bufs = 101 ∧ s.own = false := by decide

/-! ### The recorder's session around the writer pool (Writers.Sess; tie: harness/c03_writer.c runs the real
cmds/record.c under generated schedules and compares every step) -/

/-- Whatever the schedule — buffers announced twice (REC_START twice for the first buffer of a fork child), ended or
    left to the final flush, any interleaving of 1..n writers, flush_shmem_list and record_remaining_buffer at the
    end —, the bytes of a buffer are appended to a data file at most once. -/
theorem c03_session_writes_once (nw : Nat) (ops : List SOp) :
    ((Sess.init nw).run ops).log.Nodup :=
  Sess.run_nodup ops _ (by simp [Sess.init])

/-- non-vacuity: a first buffer announced twice and never ended is queued twice by the final flush (both list
    entries map the same memory) and written once; a buffer ended after its second announcement is written by a
    writer thread and not again at the end -/
example :
    ((Sess.init 2).run [.start ⟨7, 0⟩, .start ⟨7, 0⟩, .start ⟨8, 0⟩, .start ⟨8, 0⟩, .fin ⟨8, 0⟩, .pick 1, .write 1,
        .splice 1, .stop, .flushAll]).pool.writeList = [⟨7, 0⟩, ⟨7, 0⟩] ∧
    ((Sess.init 2).run [.start ⟨7, 0⟩, .start ⟨7, 0⟩, .start ⟨8, 0⟩, .start ⟨8, 0⟩, .fin ⟨8, 0⟩, .pick 1, .write 1,
        .splice 1, .stop, .flushAll, .remaining]).log = [⟨8, 0⟩, ⟨7, 0⟩] := by decide

/-- what a woken writer takes (writer_thread, first critical section): the first queued buffer decides the task;
    the writer registers for that task and takes exactly that task's buffers, in queue order; every other task's
    buffers stay on buf_write_list in their order.  (copy_to_buffer relies on it: all queued buffers of a task are
    either on buf_write_list or with the one writer registered for the task.) -/
theorem c03_pick_takes_first_task_only {p p' : Pool} {i : Nat} {f : Bool} {first : WBuf} {rest : List WBuf}
    (hl : p.writeList = first :: rest) (hp : p.pick i f = some p') :
    p'.writeList = rest.filter (fun b => b.tid ≠ first.tid) ∧
    (∃ w, p'.writers[i]? = some w ∧ w.tid = some first.tid ∧
          w.head = first :: rest.filter (fun b => b.tid = first.tid)) ∧
    (∀ b ∈ p'.writeList, b.tid ≠ first.tid) := by
  unfold Pool.pick at hp
  cases hw : p.writers[i]? with
  | none => simp [hw] at hp
  | some w =>
    simp only [hw, hl] at hp
    split at hp
    · cases hp
    · split at hp
      · cases hp
      · simp only [Option.some.injEq] at hp
        subst hp
        have hi : i < p.writers.length := by
          rcases Nat.lt_or_ge i p.writers.length with h | h
          · exact h
          · simp [List.getElem?_eq_none h] at hw
        refine ⟨rfl, ⟨{ w with tid := some first.tid,
                                 head := first :: rest.filter (fun b => b.tid = first.tid) },
                      by simp [hi], rfl, rfl⟩, ?_⟩
        intro b hb
        simp only [List.mem_filter, decide_eq_true_eq] at hb
        exact hb.2

end Uft.C03

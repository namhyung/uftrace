import Uft.Lemmas.PyTraceGenEq
/- C19 — tie by translation (translators/c2lean.py): the definitions generated on every run from the current
text of python/trace-python.c (`Uft/Gen/PyTraceC.lean`) compute what the hand-written model
`Uft/Model/PyTrace.lean` computes.  Mapping and abstractions: see `Uft/Lemmas/PyTraceGenEq.lean`. -/
namespace Uft.C19Gen
open Uft.PyTrace Uft.Gen.C Uft.PyTraceGenEq
open Uft.Gen.PyTraceC (Oracles can_trace match_filter apply_filters)

/-- **can_trace.**  For every configuration, name, value of `libcall_count` and direction: the generated
    `can_trace` returns the model's `canTrace`, leaves the model's `libAfter` in `libcall_count` and changes
    nothing else.  Hypotheses: `sym->flag & UFT_PYSYM_F_LIBCALL` is `Cfg.isLib name`; `libcall_mode` encodes
    `Cfg.lmode`. -/
theorem c19_gen_can_trace_eq {α : Type} (c : Cfg α) (n : α) (o : Oracles) (isEntry : Bool) (sym : Ptr) (s : GSt)
    (hflag : ((s.sym_flag &&& 1) == 0) = !c.isLib n) (hmode : LibEnc c.lmode s.libcall_mode) :
    can_trace o isEntry sym s =
      ({ s with libcall_count := libAfter c s.libcall_count isEntry n }, canTrace c s.libcall_count isEntry n) := by
  obtain ⟨m0, m2⟩ := hmode
  unfold can_trace libAfter canTrace
  simp only [Id.run, pure, hflag, m0, m2]
  cases hl : c.isLib n <;> cases hm : c.lmode <;> cases isEntry <;> simp
  -- left: a library symbol in single mode, exit and entry; the two `return`s on either side of the count test
  all_goals (split <;> simp [*])

example : ∃ (c : Cfg Nat) (s : GSt), ((s.sym_flag &&& 1) == 0) = !c.isLib 7 ∧ LibEnc c.lmode s.libcall_mode ∧
    c.isLib 7 = true ∧ c.lmode = .single :=
  ⟨{ fixed := true, filters := none, lmode := .single, isLib := fun _ => true },
   { sym_flag := 1, libcall_mode := 1 }, by decide, ⟨by decide, by decide⟩, rfl, rfl⟩

/-- **match_filter** changes no memory; its value is the outcome of the comparison selected by
    `filter->p.type` — the value the model takes as the predicate `Filter.hit`. -/
theorem c19_gen_match_filter_eq (o : Oracles) (filter fname : Ptr) (s : GSt) :
    match_filter o filter fname s =
      (s, if s.filter_p_type = 1 then o.strcmp "match_filter:1" s.filter_p_patt fname == 0
          else if s.filter_p_type = 2 then
            o.regexec "match_filter:2" (Ptr.fld (Ptr.fld filter "p") "re") fname 0 Ptr.null 0 == 0
          else if s.filter_p_type = 3 then o.fnmatch "match_filter:3" s.filter_p_patt fname 0 == 0
          else false) := by
  unfold match_filter
  simp only [Id.run, pure, apply_ite (Prod.mk s), beq_iff_eq, bne, Bool.not_not]

/-- **apply_filters** — including its `list_for_each_entry … break` loop over the filter list, which the model has
    as `firstMatch`.  For every configuration, name, event and counter values the generated function leaves the
    model's `cinAfter` / `coutAfter` in `filter_state.count_in` / `count_out`, changes nothing else, and returns the
    model's `skipDecision` with `fixed = true` (the code has the repair of finding F2).  Hypotheses: the linked list
    `filters` holds, element by element, the model's filters (`ElemRel`: the mode, and `match_filter` on the element
    is the filter's match predicate); `filter_state.mode` encodes `Cfg.gmode`.  `isEntryOf` is the code's own
    `!strcmp(event, "call") || !strcmp(event, "c_call")`. -/
theorem c19_gen_apply_filters_eq {α : Type} (c : Cfg α) (n : α) (o : Oracles) (event sym : Ptr) (isPy : Bool) (s : GSt)
    (hel : All₂ (ElemRel o n s.sym_name) c.flist s.filters_elems) (hmode : GEnc c.gmode s.filter_state_mode) :
    apply_filters o event sym isPy s =
      ({ s with filter_state_count_in := cinAfter (firstMatch c.flist n) s.filter_state_count_in (isEntryOf o event)
                filter_state_count_out := coutAfter (firstMatch c.flist n) s.filter_state_count_out (isEntryOf o event) },
       skipDecision true c.gmode (firstMatch c.flist n)
         (cinAfter (firstMatch c.flist n) s.filter_state_count_in (isEntryOf o event))
         (coutAfter (firstMatch c.flist n) s.filter_state_count_out (isEntryOf o event)) (isEntryOf o event)) :=
  apply_filters_eq c n o event sym isPy s hel hmode

/-- the hypotheses of `c19_gen_apply_filters_eq` can be met for every filter list -/
example {α : Type} (n : α) (sname : Ptr) (fl : List (Filter α)) :
    All₂ (ElemRel demoOracles n sname) fl (fl.map (encElem n)) :=
  all₂_demo n sname fl

end Uft.C19Gen

import Uft.Lemmas.Net
/-
C16 — Recording over the network stores the same data as recording locally.

  sender      : `iovsOf`/`encode` (the iovec arrays of send_trace_*), `writevAll`/`writeAll`
  stream      : any list of segments whose concatenation is the bytes sent
  receiver    : `recvRaw`/`recvConn` (handle_client_sock + recv_trace_*), `readAll`
  message lvl : `applyMsg`/`run`; per directory: `dirStep`; local recording: `localStep`
-/
namespace Uft.Net

/-! ### full-write / full-read loops -/

/-- writev_all: for every iovec array and every schedule of partial writes
    (any byte counts incl. 0, EINTR, errors), what reached the fd is a prefix of
    the concatenation of the iovecs, it is all of it whenever 0 is returned,
    and the "invalid iovec count" abort is unreachable. -/
theorem c16_writev_all_exact (sched : List WOut) (iovs : List Bytes) :
    ((writevAll sched iovs).1 = .ok → (writevAll sched iovs).2.1 = iovs.flatten) ∧
    (∃ k, (writevAll sched iovs).2.1 = iovs.flatten.take k) ∧
    (writevAll sched iovs).1 ≠ .badcount := by
  rw [writevAll_eq_writeAll]
  exact writeLoop_spec sched iovs.flatten []

/-- … and it does return 0 once the kernel has accepted enough bytes without a
    hard error (termination / no lost progress). -/
theorem c16_writev_all_completes (sched : List WOut) (iovs : List Bytes)
    (hne : noErr sched = true) (hp : (iovs.map List.length).sum ≤ progress sched) :
    (writevAll sched iovs).1 = .ok := by
  rw [writevAll_eq_writeAll]
  rw [List.length_flatten.symm] at hp
  exact writeLoop_completes sched _ [] hne hp

example : noErr [.wrote 1, .eintr, .wrote 0, .wrote 5] = true ∧
    ([[1, 2], [], [3, 4]].map List.length).sum ≤ progress [.wrote 1, .eintr, .wrote 0, .wrote 5] := by
  decide

/-- write_all (send_trace_end): same statement for one buffer. -/
theorem c16_write_all_exact (sched : List WOut) (buf : Bytes) :
    ((writeAll sched buf).1 = .ok → (writeAll sched buf).2.1 = buf) ∧
    (∃ k, (writeAll sched buf).2.1 = buf.take k) := by
  obtain ⟨hok, hk, _⟩ := writeLoop_spec sched buf []
  exact ⟨hok, hk⟩

/-- read_all(n): for every segmentation of the stream (incl. interrupted reads)
    it returns exactly the next n bytes and leaves exactly the rest — it never
    reads into the next message — and it fails iff the stream ends first. -/
theorem c16_read_all_exact (n : Nat) (segs : List Bytes) :
    (n ≤ segs.flatten.length →
      ∃ rest, readAll n segs = some (segs.flatten.take n, rest) ∧
        rest.flatten = segs.flatten.drop n) ∧
    (segs.flatten.length < n → readAll n segs = none) := by
  refine ⟨fun hn => ?_, readAll_none n segs⟩
  obtain ⟨a, rest, h1, h2, h3⟩ := readAll_split n segs hn
  refine ⟨rest, ?_, ?_⟩
  · rw [h1, ← h3, List.take_left' h2]
  · rw [← h3, List.drop_left' h2]

/-! ### byte order -/

/-- ntoh ∘ hton = id for the 16/32/64-bit fields (any width), on little- and
    big-endian hosts, and what travels is the big-endian encoding. -/
theorem c16_byteorder_involution (le : Bool) (w v : Nat) (hv : v < 256 ^ w) :
    ntoh le w (hton le w v) = v ∧ hostEncode le w (hton le w v) = netEncode w v ∧
    netDecode (netEncode w v) = v := by
  refine ⟨?_, mem_hton le w v, ?_⟩
  · rw [ntoh_hton, Nat.mod_eq_of_lt hv]
  · rw [netDecode_netEncode, Nat.mod_eq_of_lt hv]

example : (0xface : Nat) < 256 ^ 2 := by decide

/-- The file header is converted field by field exactly twice end to end
    (send_trace_info in place, recv_trace_info back): the `info` file starts
    with the sender's 40 header bytes. -/
theorem c16_header_swapped_twice (le : Bool) (h : Bytes) (hl : h.length = HDR_SIZE) :
    hdrMap (inPlace le ntoh) (hdrMap (inPlace le hton) h) = h := by
  rw [hdrMap_comp _ _ (inPlace_length le hton) h hl]
  exact hdrMap_id _ (inPlace_ntoh_hton le) h

example : (List.replicate 40 (0 : UInt8)).length = HDR_SIZE := by decide

/-! ### framing -/

/-- What a sender puts on the socket for one message is `encode m`, whatever
    the partial-write schedule. -/
theorem c16_sender_stream (le : Bool) (m : Msg) (sched : List WOut)
    (h : (writevAll sched (iovsOf le m)).1 = .ok) :
    (writevAll sched (iovsOf le m)).2.1 = encode le m :=
  (c16_writev_all_exact sched (iovsOf le m)).1 h

/-- One readable event: for every segmentation of a stream that starts with an
    encoded message, handle_client_sock consumes exactly that message and does
    what the message-level receiver does. -/
theorem c16_framing_step (le fixed : Bool) (s : Server) (sock : Nat) (segs : List Bytes) (m : Msg)
    (tail : Bytes) (hwf : m.WF) (h : segs.flatten = encode le m ++ tail) :
    ∃ rest, rest.flatten = tail ∧
      recvRaw le fixed s sock segs = Raw.ofOpt (applyMsg fixed s sock m) rest (decide (m = .end_)) := by
  cases m with
  | data tid buf =>
    exact recvRaw_idData T_DATA dataName (fun _ _ => rfl) rfl rfl (by decide) hwf.1 hwf.2 h
  | kernel cpu buf =>
    exact recvRaw_idData T_KERNEL kernelName (fun _ _ => rfl) rfl rfl (by decide) hwf.1 hwf.2 h
  | perf cpu buf =>
    exact recvRaw_idData T_PERF perfName (fun _ _ => rfl) rfl rfl (by decide) hwf.1 hwf.2 h
  | dirName name =>
    have hwf : name.length < 2 ^ 31 := hwf
    obtain ⟨segs0, h0, hr⟩ := recvRaw_hdr fixed s sock T_DIR_NAME name.length (by decide)
      (by omega) h
    obtain ⟨segs1, h1, h2⟩ := readAll_iov h0
    refine ⟨segs1, h2, ?_⟩
    have hneg : ¬ ((name.length : Nat) : Int) < 0 := by omega
    rw [hr, recvBody, if_pos rfl, asInt_small hwf, if_neg hneg, h1]
    rfl
  | info hdr inf =>
    obtain ⟨hl, hlen⟩ := hwf
    obtain ⟨segs0, h0, hr⟩ := recvRaw_hdr fixed s sock T_INFO (HDR_SIZE + inf.length) (by decide)
      (by omega) h
    obtain ⟨segs1, h1, h2⟩ := readAll_iov h0
    rw [hdrMap_length _ (inPlace_length le hton), hl] at h1
    obtain ⟨segs2, h3, h4⟩ := readAll_iov h2
    refine ⟨segs2, h4, ?_⟩
    have hneg : ¬ ((HDR_SIZE + inf.length : Nat) : Int) - (HDR_SIZE : Nat) < 0 := by omega
    rw [hr, applyMsg_file rfl]
    simp only [recvBody, T_INFO, T_PERF, T_KERNEL, T_DATA, T_DIR_NAME, Nat.reduceEqDiff, ↓reduceIte]
    cases findClient s sock with
    | none => rfl
    | some c =>
      simp only [h1, c16_header_swapped_twice le hdr hl, asInt_small hlen, if_neg hneg, Nat.add_sub_cancel_left, h3]
      rfl
  | file name content =>
    have hwf : 4 + name.length + content.length < 2 ^ 31 := hwf
    obtain ⟨segs0, h0, hr⟩ := recvRaw_hdr fixed s sock T_META (4 + name.length + content.length)
      (by decide) (by omega) h
    obtain ⟨segs1, h1, h2⟩ := readAll_iov h0
    rw [length_hostEncode] at h1
    obtain ⟨segs2, h3, h4⟩ := readAll_iov h2
    obtain ⟨segs3, h5, h6⟩ := readAll_iov h4
    refine ⟨segs3, h6, ?_⟩
    have hnl : name.length < 2 ^ 31 := by omega
    have c1 : ¬ ((name.length : Nat) : Int) > ((4 + name.length + content.length : Nat) : Int) := by
      omega
    have c2 : ¬ ((name.length : Nat) : Int) < 0 := by omega
    have c3 : ¬ ((4 + name.length + content.length : Nat) : Int) - (4 + ((name.length : Nat) : Int)) < 0 := by
      omega
    rw [hr, applyMsg_file rfl]
    simp only [recvBody, T_META, T_INFO, T_PERF, T_KERNEL, T_DATA, T_DIR_NAME, Nat.reduceEqDiff,
      ↓reduceIte]
    cases findClient s sock with
    | none => rfl
    | some c =>
      simp only [h1, wire_val le (show name.length < 256 ^ 4 by omega), asInt_small hnl, asInt_small hwf,
        if_neg c1, if_neg c2, if_neg c3, Int.toNat_natCast, h3, Nat.add_sub_cancel_left, h5]
      rfl
  | end_ =>
    obtain ⟨segs0, h0, hr⟩ := recvRaw_hdr fixed s sock T_END 0 (by decide) (by omega) h
    exact ⟨segs0, h0, hr⟩

/-- Framing round trip / segmentation independence: the concatenated encodings
    of any message list, delivered under any segmentation, are received as that
    message list. -/
theorem c16_framing_roundtrip (le fixed : Bool) (ms : List Msg) (s : Server) (sock : Nat)
    (segs : List Bytes) (hwf : ∀ m ∈ ms, m.WF)
    (h : segs.flatten = (ms.map (encode le)).flatten) :
    recvConn le fixed ms.length s sock segs = runConn fixed s sock ms := by
  induction ms generalizing s segs with
  | nil => rfl
  | cons m ms ih =>
    obtain ⟨hmwf, hwf⟩ := List.forall_mem_cons.mp hwf
    rw [List.map_cons, List.flatten_cons] at h
    have hne : segs.flatten ≠ [] := fun h0 =>
      encode_ne_nil le m (List.append_eq_nil_iff.mp (h ▸ h0)).1
    obtain ⟨rest, hr, he⟩ := c16_framing_step le fixed s sock segs m _ hmwf h
    rw [List.length_cons, recvConn, if_neg hne, he, runConn]
    cases applyMsg fixed s sock m with
    | none => rfl
    | some s' =>
      by_cases hm : m = .end_
      · simp [Raw.ofOpt, hm]
      · simp only [Raw.ofOpt, hm, decide_false, Bool.false_eq_true, ↓reduceIte]
        exact ih s' rest hwf hr

/-- two segmentations of the same bytes give the same receiver state -/
theorem c16_segmentation_independent (le fixed : Bool) (ms : List Msg) (s : Server) (sock : Nat)
    (segs1 segs2 : List Bytes) (hwf : ∀ m ∈ ms, m.WF)
    (h1 : segs1.flatten = (ms.map (encode le)).flatten) (h2 : segs2.flatten = segs1.flatten) :
    recvConn le fixed ms.length s sock segs1 = recvConn le fixed ms.length s sock segs2 := by
  rw [c16_framing_roundtrip le fixed ms s sock segs1 hwf h1,
    c16_framing_roundtrip le fixed ms s sock segs2 hwf (h2.trans h1)]

example : (Msg.data 7 [1, 2, 3]).WF ∧ (Msg.file [97] []).WF ∧
    (Msg.info (List.replicate 40 0) [1]).WF ∧ (Msg.dirName [100]).WF := by
  simp [Msg.WF, HDR_SIZE]

/-! ### files -/

/-- Every file of the received directory is the concatenation, in order, of the
    payloads addressed to it (TID.dat = that tid's buffers in order, …). -/
theorem c16_file_is_concat (ms : List Msg) (d : Dir) (g : Bytes) :
    aget (ms.foldl dirStep d) g = combine (aget d g) (partsFor g ms) := by
  induction ms generalizing d with
  | nil => simp [partsFor, combine]
  | cons m ms ih =>
    simp only [List.foldl_cons, ih]
    cases hf : fileOf m with
    | none => simp [dirStep, hf, partsFor]
    | some p =>
      obtain ⟨f, data⟩ := p
      simp only [dirStep, hf, aget_append]
      by_cases hg : f = g
      · subst hg
        have hp : partsFor f (m :: ms) = data :: partsFor f ms := by
          simp [partsFor, hf]
        rw [hp]
        by_cases hn : partsFor f ms = [] <;> simp [combine, hn]
      · have hg' : ¬ g = f := fun h => hg h.symm
        have hp : partsFor g (m :: ms) = partsFor g ms := by
          simp [partsFor, hf, hg]
        rw [hp]
        simp [hg']

/-- … and the received directory equals, file by file, what the local path
    writes for the same buffers, provided every metadata file is sent once
    (as record.c does: task.txt, sid-*.map, *.sym, *.dbg, info, …). -/
theorem c16_files_equal_local (ms : List Msg) (d : Dir)
    (hfree : ∀ m ∈ ms, ∀ n, metaName m = some n → aget d n = none) (hon : MetaOnce ms)
    (g : Bytes) :
    aget (ms.foldl dirStep d) g = aget (ms.foldl localStep d) g :=
  local_eq ms d d (fun _ => rfl) hfree hon g

example : MetaOnce [.file [1] [9], .file [2] [8], .info [] []] ∧
    (∀ m ∈ [Msg.file [1] [9], .file [2] [8], .info [] []], ∀ n, metaName m = some n →
      aget freshDir n = none) := by
  decide

/-- C16 for one recording: for every directory name, every sequence of trace,
    kernel, perf, metadata and info messages (metadata files sent once), and
    every segmentation of the byte stream, the receiver ends with a directory
    for this connection that equals, file by file, what local recording of the
    same buffers writes. -/
theorem c16_network_equals_local (le fixed : Bool) (sock : Nat) (name : Bytes) (ms : List Msg)
    (segs : List Bytes) (hplain : ∀ m ∈ ms, m.plain = true) (hwf : ∀ m ∈ ms, m.WF)
    (hname : name.length < 2 ^ 31) (hon : MetaOnce ms)
    (hfree : ∀ m ∈ ms, ∀ n, metaName m = some n → aget freshDir n = none)
    (hsegs : segs.flatten = ((Msg.dirName name :: ms).map (encode le)).flatten) :
    ∃ s d, recvConn le fixed (Msg.dirName name :: ms).length Server.init sock segs = some s ∧
      obs s sock = [some d] ∧ ∀ g, aget d g = aget (ms.foldl localStep freshDir) g := by
  rw [c16_framing_roundtrip le fixed (Msg.dirName name :: ms) Server.init sock segs
    (List.forall_mem_cons.mpr ⟨hname, hwf⟩) hsegs]
  obtain ⟨fs', hr, hd⟩ := runConn_plain fixed ms
    { clients := [{ sock := sock, dir := name }], fs := createDir [] name } sock
    { sock := sock, dir := name } freshDir hplain (by simp [findClient]) (createDir_get_self [] name)
  refine ⟨{ clients := [{ sock := sock, dir := name }], fs := fs' }, ms.foldl dirStep freshDir, ?_, ?_,
    c16_files_equal_local ms freshDir hfree hon⟩
  · rw [runConn, applyMsg_dirName_init]
    exact hr
  · simp [obs, hd]

/-- non-vacuity: a recording with trace data and a metadata file -/
example : ∃ s d, recvConn true false 3 Server.init 1
      [((Msg.dirName [100] :: [Msg.data 7 [1], .file [97] [2]]).map (encode true)).flatten] = some s ∧
      obs s 1 = [some d] ∧
      ∀ g, aget d g = aget ([Msg.data 7 [1], .file [97] [2]].foldl localStep freshDir) g := by
  refine c16_network_equals_local true false 1 [100] [Msg.data 7 [1], .file [97] [2]] _ (by decide) ?_
    (by decide) (by decide) (by decide) (by simp)
  intro m hm
  simp at hm
  rcases hm with rfl | rfl <;> simp [Msg.WF]

/-! ### the per-cpu perf files -/

/-- Every perf-cpuN.dat the client sends data for arrives under the same name with the same bytes, whatever
    the set of cpus (holes, numbers ≥ 10, up to 2^32 - 1): for every cpu N the file perf-cpuN.dat of the
    received directory is the concatenation, in order, of the SEND_PERF_DATA payloads for cpu N — data of
    two cpus never shares a file, trace / kernel / info data never lands in it — and the file exists exactly
    when the client sent perf data for N (no file is made for a cpu without events).
    Hypothesis: no metadata file is sent under the name perf-cpuN.dat (record.c sends task.txt, sid-*.map,
    *.sym, *.dbg, kernel_header, kallsyms, events.txt and the log file). -/
theorem c16_perf_files_preserved (ms : List Msg) (cpu : Nat) (hc : cpu < 2 ^ 32) (hwf : ∀ m ∈ ms, m.WF)
    (hmeta : ∀ m ∈ ms, ∀ n c, m = .file n c → n ≠ perfName cpu) :
    aget (ms.foldl dirStep freshDir) (perfName cpu) =
      (if perfParts cpu ms = [] then none else some (perfParts cpu ms).flatten) ∧
    (∀ cpu', cpu' < 2 ^ 32 → cpu' ≠ cpu → perfName cpu' ≠ perfName cpu) := by
  constructor
  · rw [c16_file_is_concat, partsFor_perfName cpu hc ms hwf hmeta]
    have h0 : aget freshDir (perfName cpu) = none := by
      simp [freshDir, aget, show defaultOptsName ≠ perfName cpu from head_ne (by decide)]
    simp [combine, h0]
  · intro cpu' hc' hne h
    exact hne (perfName_inj hc' hc h)

/-- non-vacuity: events on cpus 13 and 2 only, in two buffers for 13; cpu 0 sent nothing and has no file -/
example :
    let ms : List Msg := [.perf 13 [1, 2], .data 7 [9], .perf 2 [5], .perf 13 [3], .file [116] [8]]
    aget (ms.foldl dirStep freshDir) (perfName 13) = some [1, 2, 3] ∧
    aget (ms.foldl dirStep freshDir) (perfName 2) = some [5] ∧
    aget (ms.foldl dirStep freshDir) (perfName 0) = none := by decide

/-- "Replay and report of the received directory give the same output as for the local one", as far as the
    perf events go: the readers take the per-cpu files in glob order and merge their events by time stamp
    (`perfMerge` = the rounds of read_perf_data).  Two directories whose per-cpu files WITH events are the
    same, in the same order — the local one has an empty file for every other cpu, the received one has
    none — hand out the same event sequence, for every number of rounds.  (Events with equal time stamps
    included: the first file in glob order wins in both.) -/
theorem c16_perf_reader_ignores_empty_files (n : Nat) (loc rcv : List (List PEv))
    (h : withEvents loc = withEvents rcv) : perfMerge n loc = perfMerge n rcv := by
  rw [← perfMerge_withEvents n loc, h, perfMerge_withEvents]

/-- in particular removing the empty files changes nothing -/
theorem c16_perf_reader_without_empty_files (n : Nat) (fs : List (List PEv)) :
    perfMerge n (withEvents fs) = perfMerge n fs :=
  perfMerge_withEvents n fs

/-- non-vacuity: 16 cpus, events on cpus 13 and 2 (glob order …, 13, …, 2, …), equal time stamps across files -/
example :
    let a : List PEv := [⟨5, 100, 2⟩, ⟨9, 100, 1⟩]
    let b : List PEv := [⟨5, 101, 2⟩, ⟨7, 101, 1⟩]
    withEvents [[], [], [], a, [], b, []] = withEvents [a, b] ∧
    perfMerge 4 [[], [], [], a, [], b, []] = [⟨5, 100, 2⟩, ⟨5, 101, 2⟩, ⟨7, 101, 1⟩, ⟨9, 100, 1⟩] := by decide

/-- C16-DUMP-PERFIDX repaired: `uftrace dump` announces every per-cpu block with the cpu number of its
    file, so the labels are a function of the files with data alone: the received directory and the local
    one (same files with data, in the same glob order) are labelled alike. -/
theorem c16_dump_perf_labels (loc rcv : List (Nat × Bool))
    (h : loc.filter (·.2) = rcv.filter (·.2)) :
    dumpLabels true loc = dumpLabels true rcv ∧ dumpLabels true loc = (loc.filter (·.2)).map (·.1) := by
  simp only [dumpLabels, dumpLabelsFrom_fixed, h, and_self]

/-- C16-DUMP-PERFIDX witness (the printer as it is prints the position in the glob result): a 16-cpu
    machine, events on cpu 13 only.  Locally perf-cpu13.dat is the sixth file (0, 1, 10, 11, 12, 13, …) and is
    announced as perf-cpu5.dat; in the received directory it is the only file and is announced as
    perf-cpu0.dat: the dump of the received directory differs from the local one, and both name a file that
    does not hold these events. -/
theorem c16_prefix_dump_perf_label_witness :
    let loc : List (Nat × Bool) := [(0, false), (1, false), (10, false), (11, false), (12, false), (13, true),
      (14, false), (15, false), (2, false), (3, false), (4, false), (5, false), (6, false), (7, false), (8, false),
      (9, false)]
    dumpLabels false loc = [5] ∧ dumpLabels false [(13, true)] = [0] ∧
    dumpLabels true loc = [13] ∧ dumpLabels true [(13, true)] = [13] :=
  ⟨rfl, rfl, rfl, rfl⟩

/-! ### several clients -/

/-- Isolation, for any number of clients and any interleaving of their
    messages: what the receiver holds for a connection depends only on that
    connection's own messages.  Holds for the repaired receiver
    (`fixed = true`) unconditionally, and for the code as it is when no
    SEND_DIR_NAME names a directory in use by a connected client
    (`safeRun`). -/
theorem c16_clients_isolated (fixed : Bool) (evs : List (Nat × Msg)) (s s' : Server)
    (D : DistinctDirs s.clients) (hsafe : fixed = true ∨ safeRun s evs = true)
    (h : run fixed s evs = some s') (k : Nat) :
    obs s' k = (proj k evs).foldl ownStep (obs s k) :=
  (run_obs fixed evs s s' D hsafe h k).2

/-- Two clients on separate connections, their message streams interleaved
    arbitrarily: each gets the directory it would get alone. -/
theorem c16_two_clients_as_if_alone (fixed : Bool) (a b : Nat) (hab : a ≠ b) (na nb : Bytes)
    (as bs : List Msg) (sched : List Bool) (s' : Server)
    (hpa : ∀ m ∈ as, m.plain = true) (hpb : ∀ m ∈ bs, m.plain = true)
    (hsafe : fixed = true ∨
      safeRun Server.init (interleave sched ((Msg.dirName na :: as).map (a, ·))
        ((Msg.dirName nb :: bs).map (b, ·))) = true)
    (h : run fixed Server.init (interleave sched ((Msg.dirName na :: as).map (a, ·))
        ((Msg.dirName nb :: bs).map (b, ·))) = some s') :
    obs s' a = [some (as.foldl dirStep freshDir)] ∧ obs s' b = [some (bs.foldl dirStep freshDir)] := by
  obtain ⟨pa, pb⟩ := proj_interleave hab sched (Msg.dirName na :: as) (Msg.dirName nb :: bs)
  have ha := c16_clients_isolated fixed _ Server.init s' trivial hsafe h a
  have hb := c16_clients_isolated fixed _ Server.init s' trivial hsafe h b
  rw [pa] at ha
  rw [pb] at hb
  exact ⟨ha.trans (foldl_ownStep_plain as freshDir [] hpa), hb.trans (foldl_ownStep_plain bs freshDir [] hpb)⟩

/-- non-vacuity of the pre-fix hypothesis: different names are safe -/
example : safeRun Server.init (interleave [true, false, true] ((Msg.dirName [1] :: [.file [7] [1]]).map (1, ·))
    ((Msg.dirName [2] :: [.file [7] [2]]).map (2, ·))) = true := by decide

/-- F-C16-DIR witness (code as it is, `fixed = false`): two connected clients
    that both name their directory [100]; the first one's second file lands in
    the second client's directory, which should hold only what that client
    sent (nothing). -/
def witnessEvs : List (Nat × Msg) :=
  [(1, .dirName [100]), (1, .file [97] [1]), (2, .dirName [100]), (1, .file [97] [2])]

theorem c16_prefix_same_dirname_witness :
    ∃ s, run false Server.init witnessEvs = some s ∧
      obs s 2 = [some (freshDir ++ [([97], [2])])] ∧
      (proj 2 witnessEvs).foldl ownStep [] = [some freshDir] ∧
      obs s 1 = [some (freshDir ++ [([97], [2])])] ∧
      (proj 1 witnessEvs).foldl ownStep [] = [some (freshDir ++ [([97], [1, 2])])] :=
  ⟨_, rfl, rfl, rfl, rfl, rfl⟩

/-- the same events with the repaired receiver: the second client is given
    [100] ++ ".1" and both directories are right -/
example :
    ∃ s, run true Server.init witnessEvs = some s ∧
      obs s 1 = [some (freshDir ++ [([97], [1, 2])])] ∧ obs s 2 = [some freshDir] :=
  ⟨_, rfl, rfl, rfl⟩

/-! ### several writer threads on one socket -/

/-- PARTIAL (explicit atomicity hypothesis `atomic = true`, i.e. a lock around
    each send_trace_* call, which the code as it is does not have): when every
    message reaches the socket contiguously, then for all thread schedules, all
    partial-write chunkings and all segmentations the receiver sees whole
    messages, in an order-preserving merge of the threads' message lists.
    What is missing for the code as it is: the hypothesis is false there, see
    `c16_prefix_many_writers_witness`. -/
theorem c16_one_socket_many_writers_partial (le fixed : Bool) (msgs : List (List Msg))
    (chunks : List (List (List Bytes))) (sched : List Nat) (s : Server) (sock : Nat)
    (segs : List Bytes)
    (hwf : ∀ t ∈ msgs, ∀ m ∈ t, m.WF)
    (hchunks : chunks.map (·.map List.flatten) = msgs.map (·.map (encode le)))
    (hsegs : segs.flatten = sockStream true sched chunks) :
    recvConn le fixed (mergeBy sched msgs).length s sock segs =
      runConn fixed s sock (mergeBy sched msgs) := by
  apply c16_framing_roundtrip
  · intro m hm
    obtain ⟨t, ht, hmt⟩ := List.mem_flatten.mp ((mergeBy_perm sched msgs).mem_iff.mp hm)
    exact hwf t ht m hmt
  · rw [hsegs]
    simp only [sockStream, ↓reduceIte, hchunks, mergeBy_map]

/-- the chunk lists produced by writev_all satisfy `hchunks` (non-vacuity) -/
example : ([[ [[1, 2], [3]] ], [ [[4], [5, 6]] ]] : List (List (List Bytes))).map (·.map List.flatten) =
    [[[1, 2, 3]], [[4, 5, 6]]] := by decide

/-- F-C16-S5 witness (no lock, `atomic = false`): two threads, one message
    each, each written in two chunks; the schedule 0,1,0,1 puts bytes on the
    socket that are neither message order, so the second header the receiver
    reads is payload. -/
def wA : List Bytes := [[0xfa, 0xce, 0, 106, 0, 0], [0, 6, 0, 0, 0, 1, 65, 66]]
def wB : List Bytes := [[0xfa, 0xce, 0, 107], [0, 0, 0, 0]]

theorem c16_prefix_many_writers_witness :
    sockStream false [0, 1, 0, 1] [[wA], [wB]] ≠ wA.flatten ++ wB.flatten ∧
    sockStream false [0, 1, 0, 1] [[wA], [wB]] ≠ wB.flatten ++ wA.flatten ∧
    sockStream true [0, 1, 0, 1] [[wA], [wB]] = wA.flatten ++ wB.flatten ∧
    sockStream false [0, 0, 1, 1] [[wA], [wB]] = wA.flatten ++ wB.flatten := by
  decide

end Uft.Net

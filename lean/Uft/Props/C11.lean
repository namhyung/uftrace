import Uft.Lemmas.NonLocal
import Uft.Gen.PltTables
/-
C11 — Non-local control flow keeps shadow stack and real stack in step.
Property theorems only; the model is Uft/Model/NonLocal.lean, the invariants
(`Inv`/`InStep`, `TraceInv`), `WellFormedOp` and the per-op lemmas are in
Uft/Lemmas/NonLocal.lean and the modules under Uft/Lemmas/NonLocal/.

All `c11_*` theorems without `prefix` are about the repaired code (`Fix.all`);
each `c11_prefix_*_witness` shows, for one finding, that the code as it is
(`Fix.none`, or the flag of that finding alone) breaks the statement.
-/
namespace Uft.NonLocal

/-! The statements are about the code as it is now (`Fix.current`, which is `Fix.all` once every
    libmcount finding of C11 is repaired; replay's longjmp fix-up is `replayCurrent`). -/

/-- Main invariant: whatever the program does next — call (hooked by mcount/fentry, through
    the PLT, or not at all; also from a landing pad), return, tail call, setjmp, longjmp to any
    live jmp_buf, throw, one step of unwinding, _Unwind_Resume, catch, pthread_exit, exit, the
    thread destructor, fork (either side), exec, vfork+exec — a machine that is in step stays in
    step.  (A signal handler is a `call` at an arbitrary point, see `c11_signal_transparent`.) -/
theorem c11_instep_invariant {m : M} {op : Op} (hi : InStep m) (hw : WellFormedOp m op)
    (hv : ∀ a b c d e, op ≠ .vforkExec a b c d e) : InStep (step Fix.current m op) :=
  instep_step hi hw

/-- the same including vfork+exec (the hypothesis of `c11_instep_invariant` is not needed) -/
theorem c11_instep_invariant_all {m : M} {op : Op} (hi : InStep m) (hw : WellFormedOp m op) :
    InStep (step Fix.current m op) := instep_step hi hw

/-- vfork + exec: the parent comes back from vfork to its caller although the child used the shared
    shadow stack in between (prepare_vfork / setup_vfork / restore_vfork) -/
theorem c11_vfork_returns {m : M} (hi : Inv m) {child slot orig echild eorig : Nat}
    (hw : WellFormedOp m (.vforkExec child slot orig echild eorig)) :
    (step Fix.current m (.vforkExec child slot orig echild eorig)).last = orig := (inv_vforkExec hi hw).2

/-- fork: both the parent and the child (which runs on a copy of the shadow stack) stay in step and
    come back from fork to the caller -/
theorem c11_fork_both_sides {m : M} (hi : Inv m) {inChild : Bool} {child slot orig : Nat}
    (hw : WellFormedOp m (.fork inChild child slot orig)) :
    Inv (step Fix.current m (.fork inChild child slot orig)) := (inv_fork hi hw).1

/-- the invariant is not vacuous: the initial machine is in step -/
example : Inv M.init := inv_init

/-- Under the invariant a return goes to the real caller: the program behaves as untraced.
    (Through a tail-call chain this takes one exit hook per chain element.) -/
theorem c11_every_return_reaches_caller {m : M} (hi : Inv m) (hw : WellFormedOp m .ret) {f : Frame} {fs : List Frame}
    (hf : m.fs = f :: fs) :
    (step Fix.current m .ret).last = f.orig ∧ (step Fix.current m .ret).fs = fs :=
  ⟨(ret_spec hi hf).2, by rw [step_ret_eq _ hi.nh hf]⟩

/-- longjmp lands behind the setjmp call of the target jmp_buf, with exactly the frames of
    that moment, and the shadow stack follows (by `c11_instep_invariant`) -/
theorem c11_longjmp_reaches_setjmp {m : M} (hi : Inv m) {j child slot orig : Nat}
    (hw : WellFormedOp m (.longjmp j child slot orig)) :
    ∃ jb, m.rjb.lookup j = some jb ∧ (step Fix.current m (.longjmp j child slot orig)).last = jb.sorig ∧
      (step Fix.current m (.longjmp j child slot orig)).fs = jb.frames := by
  obtain ⟨jb, h1, _, h3, h4⟩ := inv_longjmp hi hw
  exact ⟨jb, h1, h3, h4⟩

/-- setjmp itself returns to its caller -/
theorem c11_setjmp_returns {m : M} (hi : Inv m) {j child slot orig : Nat}
    (hw : WellFormedOp m (.setjmp j child slot orig)) :
    (step Fix.current m (.setjmp j child slot orig)).last = orig := (inv_setjmp hi hw).2

/-- While an exception is in flight every live return slot holds the real return address:
    the C++ unwinder, which walks the stack through these slots, sees the untraced stack. -/
theorem c11_unwinder_sees_real_addresses {m : M} (hi : Inv m) (hw : WellFormedOp m .throw) :
    ∀ f ∈ (step Fix.current m .throw).fs, (step Fix.current m .throw).sh.mem f.slot = f.orig :=
  (inv_throw hi hw).exc (by rw [step_throw _ hi.nh]; rfl)

/-- The depth bookkeeping survives every non-terminal step: `record_idx` is the number of
    shadow entries and every entry's `depth` is the number of entries below it (also in every
    jmp_buf copy). -/
theorem c11_trace_depth_invariant {m : M} {op : Op} (hi : Inv m) (ht : TraceInv m.sh) (hw : WellFormedOp m op)
    (hnt : op.noDepthClaim = false) : TraceInv (step Fix.current m op).sh :=
  trace_step hi ht hw hnt

/-- After a longjmp or a catch (or any other non-terminal step that leaves no exception in
    flight) the depth counter is the true nesting depth — the number of hooked logical calls that
    are open on the real stack — and the depths stored in the shadow entries are
    n-1, …, 0; so the records of every later call (entryRec/exitRec copy `depth`) carry the true depth. -/
theorem c11_trace_depth_after_jump {m : M} {op : Op} (hi : Inv m) (ht : TraceInv m.sh) (hw : WellFormedOp m op)
    (hnt : op.noDepthClaim = false) (hx : (step Fix.current m op).sh.inExc = false) :
    (step Fix.current m op).sh.recIdx = logicalDepth (step Fix.current m op).fs ∧
    (step Fix.current m op).sh.rs.map Ent.depth = descFrom (logicalDepth (step Fix.current m op).fs) := by
  have ht' := trace_step hi ht hw hnt
  have hl := congrArg List.length ((inv_step_nonterminal hi hw hnt).hooked hx).c
  rw [List.length_map, expFrames_length] at hl
  exact ⟨ht'.idx.trans hl, hl ▸ ht'.depths⟩

/-- the entry pushed by a hooked call carries the true nesting depth -/
theorem c11_entry_depth_true {m : M} {k : Kind} {child slot orig fpw : Nat} (hi : Inv m) (ht : TraceInv m.sh)
    (hw : WellFormedOp m (.call k child slot orig fpw)) (hk : k ≠ .none) :
    ((step Fix.current m (.call k child slot orig fpw)).sh.rs.head?).map Ent.depth = some (logicalDepth m.fs) := by
  show Option.map Ent.depth (step Fix.all m (.call k child slot orig fpw)).sh.rs.head? = _
  have hx : (step Fix.all m (.call k child slot orig fpw)).sh.inExc = false := by
    rw [step_call _ hi.nh, hookEntry_hooked hk]; simp
  have h2 : (step Fix.all m (.call k child slot orig fpw)).sh.rs.map Ent.depth =
      descFrom (logicalDepth (step Fix.all m (.call k child slot orig fpw)).fs) :=
    (c11_trace_depth_after_jump hi ht hw rfl hx).2
  rw [step_call _ hi.nh, hookEntry_hooked hk, chainOf_hooked hk] at h2 ⊢
  simp only [pushHook_rs, List.map_cons, logicalDepth, List.length_cons, List.length_nil, Nat.zero_add, Nat.add_comm 1,
    descFrom, List.cons.injEq] at h2
  simp [h2.1]

/-- Replay (repaired fix-up): on every record stream that is locally coherent — which is how the
    shadow stack emits it: calls nest, returns close the innermost call, and the record after a
    longjmp ENTRY is the second EXIT of a setjmp whose ENTRY was seen at that depth — every record
    is displayed at its record depth, also after a longjmp to a jmp_buf that is not the latest. -/
theorem c11_replay_depth_coherent (l : List RRec) (h : coherent CSt.init l = true) :
    rrun true RSt.init l = l.map (·.depth) := rrun_coherent l RSt.init CSt.init rinv_init h

/-- Replay as it is (one global setjmp_depth, finding C11-LONGJMP-DEPTH open): the same holds on the
    coherent streams in which every longjmp goes to the jmp_buf armed last; the witness
    `c11_prefix_longjmp_depth_witness` shows that the hypothesis cannot be dropped. -/
theorem c11_replay_depth_asis_partial (l : List RRec) (h : coherent CSt.init l = true)
    (hl : latestOnly CSt.init l = true) : rrun replayCurrent RSt.init l = l.map (·.depth) :=
  rrun_asis l RSt.init CSt.init rinvA_init h hl

/-! ### whole histories: from the first instruction of the program -/

/-- Every history of well-formed steps from the initial machine (calls of any kind, returns, tail
    calls, setjmp/longjmp, throw/unwind/catch/resume, fork in the parent, exec, the thread destructor)
    keeps the machine in step with correct depth bookkeeping at every point. -/
theorem c11_history_in_step (ops : List Op) (h : History M.init ops) :
    Inv (run Fix.current M.init ops) ∧ TraceInv (run Fix.current M.init ops).sh := by
  obtain ⟨c', a1, a2, _, _⟩ := history_run ops M.init CSt.init inv_init traceInv_init streamInv_init h
  exact ⟨a1, a2⟩

/-- `History` is satisfiable: main is called and returns -/
example : History M.init [.call .mcount 0 60 1000 61, .ret] := by
  refine ⟨⟨by decide, by simp [M.init], by decide, by simp [M.init, Sh.init], by simp⟩, by simp [SymOk, okKind, symKind], ?_⟩
  refine ⟨⟨?_, ?_⟩, trivial, trivial⟩
  · simp [step, M.init]
  · simp [step, M.init, Sh.init, hookEntry, mcountEntry, pushHook, autoRestore]

/-- … and the records libmcount wrote for the task along such a history form a locally coherent
    stream (this is what links the hooks to replay's hypothesis) … -/
theorem c11_history_stream_coherent (ops : List Op) (h : History M.init ops) :
    coherent CSt.init (taskStream (run Fix.current M.init ops).sh.out) = true := by
  obtain ⟨c', _, _, a3, _⟩ := history_run ops M.init CSt.init inv_init traceInv_init streamInv_init h
  rw [coherent_iff_crun, a3.ok.run]; rfl

/-- … so the repaired replay shows every record of every such history at its recorded depth … -/
theorem c11_history_replay_depth (ops : List Op) (h : History M.init ops) :
    rrun true RSt.init (taskStream (run Fix.current M.init ops).sh.out) =
      (taskStream (run Fix.current M.init ops).sh.out).map (·.depth) :=
  c11_replay_depth_coherent _ (c11_history_stream_coherent ops h)

/-- … and replay as it is does on the histories whose longjmps go to the jmp_buf armed last. -/
theorem c11_history_replay_depth_asis_partial (ops : List Op) (h : History M.init ops)
    (hl : latestOnly CSt.init (taskStream (run Fix.current M.init ops).sh.out) = true) :
    rrun replayCurrent RSt.init (taskStream (run Fix.current M.init ops).sh.out) =
      (taskStream (run Fix.current M.init ops).sh.out).map (·.depth) :=
  c11_replay_depth_asis_partial _ (c11_history_stream_coherent ops h) hl

/-! ### signal handlers: a balanced history at an arbitrary point -/

/-- A balanced history inserted at any point (a signal handler interrupting traced code, itself
    traced or not, calling whatever it likes as long as everything returns) leaves the machine in
    step and the state unchanged: same frames, same shadow entries, same content of every live
    return slot, same depth counter, same jmp_buf copies. -/
theorem c11_signal_transparent {h : List Op} (hb : Balanced h) {m : M} (hi : Inv m) (hx : m.sh.inExc = false)
    (hw : WFRun m h) : Inv (run Fix.current m h) ∧ SameState m (run Fix.current m h) :=
  signal_transparent hb hi hx hw

/-- the theorem is not vacuous: a handler calling a traced and a PLT function on top of main -/
example : Balanced [.call .mcount 5 20 3000 29, .call .plt 100 10 3001 0, .ret, .ret] :=
  Balanced.wrap (h1 := [.call .plt 100 10 3001 0, .ret]) (h2 := [])
    (Balanced.wrap (h1 := []) (h2 := []) Balanced.nil Balanced.nil) Balanced.nil

/-! ### witnesses: the code as it is -/

/-- C11-LONGJMP-DEPTH: main: setjmp(A); g: setjmp(B); h: longjmp(A); then main calls leaf.
    The stream is coherent, the unrepaired replay shows leaf at depth 2 instead of 1. -/
def ljStream : List RRec :=
  [⟨0, 0, .plain⟩, ⟨0, 1, .setjmp⟩, ⟨1, 1, .setjmp⟩, ⟨0, 1, .plain⟩, ⟨0, 2, .setjmp⟩, ⟨1, 2, .setjmp⟩,
   ⟨0, 2, .plain⟩, ⟨0, 3, .longjmp⟩, ⟨1, 1, .setjmp⟩, ⟨0, 1, .plain⟩]

theorem c11_prefix_longjmp_depth_witness :
    coherent CSt.init ljStream = true ∧ rrun false RSt.init ljStream ≠ ljStream.map (·.depth) ∧
    (rrun false RSt.init ljStream).getLast? = some 2 := by decide +kernel

/-- C11-JMPBUF-OVERFLOW: the copy is taken into an array of 1024 entries whatever --max-stack is -/
theorem c11_prefix_jmpbuf_overflow_witness (s : Sh) (a : Nat) (h : JMPBUF_CAP < s.rs.length) :
    (setupJmpbuf Fix.none s a).oob = true ∧ (setupJmpbuf Fix.all s a).oob = s.oob := by
  simp [setupJmpbuf, Fix.none, Fix.all, h]

/-- C11-REHOOK-ORDER: a PLT-called library function tail-calls a traced callback which catches an
    exception and returns: mcount_rstack_rehook (top→bottom) leaves plthook_return in the slot of
    the chain [PLT entry, mcount entry]; the return then pops a non-PLT entry in __plthook_exit
    ("invalid dynsym idx").  With the repaired order the callback returns to the library's caller. -/
def rehookOps : List Op :=
  [.call .mcount 0 60 1000 61, .call .plt 100 50 1001 0, .tailcall .mcount 1, .call .mcount 2 40 1002 49,
   .throw, .unwind, .catch_ 49, .ret]

theorem c11_prefix_rehook_order_witness :
    (run { Fix.all with rehook := false } M.init rehookOps).sh.dead = true ∧
    (run Fix.all M.init rehookOps).sh.dead = false ∧ (run Fix.all M.init rehookOps).last = 1001 := by decide +kernel

/-- C11-EXC-FRAME: with -mfentry `parent_loc[-1]` is no frame pointer; the fallback `parent_loc - 1`
    keeps the entry of the unwound callee (same slot), so the destructor called from the landing
    pad is recorded at depth 2 instead of 1. -/
def excFrameOps : List Op :=
  [.call .mcount 0 60 1000 61, .call .mcount 1 50 1001 0, .throw, .unwind, .call .mcount 2 50 1002 0]

theorem c11_prefix_exc_frame_witness :
    ((run { Fix.all with excFrame := false } M.init excFrameOps).sh.rs.head?).map Ent.depth = some 2 ∧
    ((run Fix.all M.init excFrameOps).sh.rs.head?).map Ent.depth = some 1 ∧
    logicalDepth (run Fix.all M.init excFrameOps).fs = 2 := by decide +kernel

/-- C11-PTHREAD-EXIT: after pthread_exit from a nested call the dead entries stay on the shadow
    stack; start_thread's next callee reuses the thread function's return slot and mtd_dtor's
    mcount_rstack_restore overwrites its return address (2000) with the dead frame's (1000). -/
def pthreadOps : List Op :=
  [.call .mcount 0 60 1000 61, .call .mcount 1 50 1001 59, .pthreadExit 106 45 1002, .call .none 0 60 2000 0,
   .mtdDtor, .ret]

theorem c11_prefix_pthread_exit_witness :
    (run { Fix.all with pthExit := false } M.init pthreadOps).last = 1000 ∧
    (run Fix.all M.init pthreadOps).last = 2000 := by decide +kernel

/-- C11-EXC-PLT: a landing pad calls a library function through the PLT (in_exception still set):
    its entry goes on top of the dead entry; the traced callback it calls pops both (frame address
    of the landing-pad function), and the library function's return finds a non-PLT entry. -/
def excPltOps : List Op :=
  [.call .mcount 0 60 1000 61, .call .mcount 1 50 1001 59, .throw, .unwind, .call .plt 100 50 1002 0,
   .call .mcount 2 40 1003 59, .ret, .ret]

theorem c11_prefix_exc_plt_witness :
    (run { Fix.all with excPlt := false } M.init excPltOps).sh.dead = true ∧
    (run Fix.all M.init excPltOps).sh.dead = false ∧ (run Fix.all M.init excPltOps).last = 1002 := by decide +kernel

/-! ### the special-function tables of libmcount/plthook.c

libmcount recognises setjmp, longjmp, vfork, the exception entry point, … BY NAME
(`setup_dynsym_indexes`).  `Uft.Gen.PltTables` is regenerated from libmcount/plthook.c, libmcount/wrap.c,
libmcount/internal.h and utils/fstack.c on every run (translators/c11_plttables.py); the theorems below
state over the regenerated lists what the model assumes (`Sym`, `Sym.flushes`) and what the property needs:
every entry point a program can bind for a jump is treated as a jump AND force-flushed (the ENTRY record
of the jump and of the abandoned callers is written before the jump discards them — "marks the jump"),
and replay's fix-up knows the name.  A table that loses a name breaks the theorem that names it. -/
namespace Tables
open Uft.Gen.PltTables

/-- what `__plthook_entry` does with a dynamic symbol of this name, in the order of the code: a skip
    symbol is left alone; then the else-if chain setjmp / longjmp / vfork / … / except acts on the first
    flag that is set; a symbol that is only in flush_syms is flushed -/
def symOfName (n : String) : Sym :=
  if skip_syms.contains n then .skip
  else if setjmp_syms.contains n then .setjmp
  else if longjmp_syms.contains n then .longjmp
  else if vfork_syms.contains n then .vfork
  else if except_syms.contains n then .except
  else if flush_syms.contains n then .flush
  else .plain

/-- every name in any of the tables -/
def allNames : List String :=
  skip_syms ++ setjmp_syms ++ longjmp_syms ++ vfork_syms ++ dlsym_syms ++ flush_syms ++ except_syms ++ resolve_syms

/-- the entry points glibc exports for a jump: longjmp, _longjmp (BSD), siglongjmp, and __longjmp_chk, which
    all three become under -D_FORTIFY_SOURCE with optimisation -/
def glibcJumpNames : List String := ["longjmp", "_longjmp", "siglongjmp", "__longjmp_chk"]
/-- the entry points for arming a jmp_buf: setjmp, _setjmp (what the setjmp macro calls), sigsetjmp,
    __sigsetjmp (what the sigsetjmp macro calls) -/
def glibcSetjmpNames : List String := ["setjmp", "_setjmp", "sigsetjmp", "__sigsetjmp"]
/-- finding C11-LONGJMP-ALIAS: names of `glibcJumpNames` that the tables of /repo lack as found -/
def jumpNamesMissingAsFound : List String := ["_longjmp"]
/-- calls that end the process image, start a second one, or come back twice: the pending records must
    be written before them -/
def noReturnNames : List String :=
  ["fork", "vfork", "daemon", "exit", "execl", "execlp", "execle", "execv", "execve", "execvp", "execvpe",
   "fexecve", "posix_spawn", "posix_spawnp"]
/-- the exception entry points libmcount interposes itself (libmcount/wrap.c) -/
def exceptionWrappers : List String :=
  ["__cxa_throw", "__cxa_rethrow", "_Unwind_Resume", "__cxa_begin_catch", "__cxa_end_catch"]

/-- is the table set complete for the jumps (the full statement; false while C11-LONGJMP-ALIAS is open)?
    checks/c11.py reads it through its own copy of the lists and confirms it on the implementation. -/
def jumpNamesComplete : Bool := glibcJumpNames.all fun n => longjmp_syms.contains n && flush_syms.contains n
end Tables

open Uft.Gen.PltTables Tables in
/-- **Every symbol that is treated as a longjmp is force-flushed**: its ENTRY record and the ENTRY records
    of the callers it abandons are written before the jump (this is the model's `Sym.longjmp.flushes`). -/
theorem c11_tables_longjmp_flushed : ∀ n ∈ longjmp_syms, n ∈ flush_syms := by decide +kernel

open Uft.Gen.PltTables Tables in
/-- … and so is vfork (the child runs on the parent's shadow stack) -/
theorem c11_tables_vfork_flushed : ∀ n ∈ vfork_syms, n ∈ flush_syms := by decide +kernel

open Uft.Gen.PltTables Tables in
/-- FULL STATEMENT (kept visible): `∀ n ∈ glibcJumpNames, n ∈ longjmp_syms ∧ n ∈ flush_syms ∧ n ∈ fixup_syms`.
    Proved for every name except the ones of finding C11-LONGJMP-ALIAS (`_longjmp`, which libmcount takes
    for an ordinary function: the program then returns from `_longjmp` into the frame that called it);
    the statement keeps holding when the tables gain the missing name. -/
theorem c11_tables_jump_names_partial :
    ∀ n ∈ glibcJumpNames, n ∉ jumpNamesMissingAsFound → n ∈ longjmp_syms ∧ n ∈ flush_syms ∧ n ∈ fixup_syms := by
  decide +kernel

open Uft.Gen.PltTables Tables in
/-- every way of arming a jmp_buf is a setjmp symbol, and replay's fix-up knows it -/
theorem c11_tables_setjmp_names : ∀ n ∈ glibcSetjmpNames, n ∈ setjmp_syms ∧ n ∈ fixup_syms := by decide +kernel

open Uft.Gen.PltTables Tables in
/-- vfork is in both its tables (special handling and forced flush) and known to replay -/
theorem c11_tables_vfork_names : "vfork" ∈ vfork_syms ∧ "vfork" ∈ flush_syms ∧ "vfork" ∈ fixup_syms := by decide +kernel

open Uft.Gen.PltTables Tables in
/-- the unwinder's entry point restores the return addresses (`except_syms`), and the exception entry
    points that libmcount wraps itself are exported by wrap.c and left alone by the PLT hook (`skip_syms`) -/
theorem c11_tables_exception_names :
    "_Unwind_RaiseException" ∈ except_syms ∧ ∀ n ∈ exceptionWrappers, n ∈ wrappers ∧ n ∈ skip_syms := by decide +kernel

open Uft.Gen.PltTables Tables in
/-- fork / vfork / daemon / exit / exec* / posix_spawn* are force-flushed; the exec family and
    pthread_exit are resolved by hand (they never return to plthook_exit) -/
theorem c11_tables_noreturn_flushed :
    (∀ n ∈ noReturnNames, n ∈ flush_syms) ∧ "pthread_exit" ∈ resolve_syms ∧ "pthread_exit" ∈ wrappers := by decide +kernel

open Uft.Gen.PltTables Tables in
/-- the model's view of a symbol agrees with the tables: for every name of any table that the hook does
    not skip, the flush the model performs for its kind (`Sym.flushes`: longjmp, vfork and the flush-only
    symbols) is exactly membership in flush_syms -/
theorem c11_tables_model_flush_agrees :
    ∀ n ∈ allNames, symOfName n ≠ .skip → (symOfName n).flushes = flush_syms.contains n := by decide +kernel

open Uft.Gen.PltTables Tables in
/-- the tables of the else-if chain do not overlap (only the first flag of the chain acts), none of them
    overlaps skip_syms (a skipped symbol is never hooked), each table is attached to its own flag, and
    setjmp is tested before longjmp -/
theorem c11_tables_chain_disjoint :
    (setjmp_syms.all fun n => !longjmp_syms.contains n && !vfork_syms.contains n && !except_syms.contains n &&
      !skip_syms.contains n) = true ∧
    (longjmp_syms.all fun n => !vfork_syms.contains n && !except_syms.contains n && !skip_syms.contains n) = true ∧
    (vfork_syms.all fun n => !except_syms.contains n && !skip_syms.contains n) = true ∧
    (except_syms.all fun n => !skip_syms.contains n) = true ∧
    setup.contains (setjmp_syms, "PLT_FL_SETJMP") = true ∧ setup.contains (longjmp_syms, "PLT_FL_LONGJMP") = true ∧
    setup.contains (vfork_syms, "PLT_FL_VFORK") = true ∧ setup.contains (flush_syms, "PLT_FL_FLUSH") = true ∧
    setup.contains (except_syms, "PLT_FL_EXCEPT") = true ∧ setup.contains (skip_syms, "PLT_FL_SKIP") = true ∧
    entryChain.take 3 = ["PLT_FL_SETJMP", "PLT_FL_LONGJMP", "PLT_FL_VFORK"] ∧
    entryTests.take 2 = ["PLT_FL_SKIP", "PLT_FL_FLUSH"] := by decide +kernel

open Uft.Gen.PltTables Tables in
/-- replay's fix-up table knows every symbol the hooks treat as setjmp, longjmp or vfork (otherwise the
    second return of a setjmp, or the child of a vfork, would be shown at a wrong depth) -/
theorem c11_tables_replay_knows_jumps :
    ∀ n ∈ setjmp_syms ++ longjmp_syms ++ vfork_syms, n ∈ fixup_syms := by decide +kernel

open Uft.Gen.PltTables Tables in
/-- the fortified longjmp gets both flags -/
example : flagsOf "__longjmp_chk" = ["PLT_FL_LONGJMP", "PLT_FL_FLUSH"] := by decide +kernel

end Uft.NonLocal

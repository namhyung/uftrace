import Uft.Lemmas.FstackGenEq
/- C07 — tie by translation (translators/c2lean.py): the definitions generated on every run from the current
text of utils/fstack.c (`Uft/Gen/FstackC.lean`) compute what the hand-written model `Uft/Model/Fstack.lean`
computes.  A change of `fstack_entry`, `fstack_exit` or `fstack_update` in the source tree changes the generated
definitions, and the theorems below stop checking unless the change preserves the modelled behaviour.
Mapping, abstractions and hypotheses: see `Uft/Lemmas/FstackGenEq.lean`. -/
namespace Uft.C07Gen
open Uft.Fstack Uft.Gen.C Uft.Gen.FstackC Uft.FstackGenEq

/-- **fstack_entry.**  For every option set, trigger table, reader state and record address: on a state that the
    mapping `Rel` relates to the model state `fs`, the generated `fstack_entry` ends in a state related to
    `(fsEntry c fs addr).1`, returns 0 exactly when the model accepts the record, and leaves in the func_stack
    slot the frame the model pushes.  Hypotheses (`EntryEnv`): the trigger `uftrace_match_filter` fills in encodes
    `c.trig addr` / `c.hide addr`; no fix-up matches; user record of a known session; the slot exists. -/
theorem c07_gen_fstack_entry_eq (c : RCfg) (o : Oracles) (task rstack tr : Ptr) (s : St) (fs : FS)
    (hr : Rel c fs s) (he : EntryEnv c o task rstack tr s) :
    Rel c (fsEntry c fs s.rstack_addr).1 (fstack_entry o task rstack tr s).1 ∧
    ((fstack_entry o task rstack tr s).2 == 0) = (fsEntry c fs s.rstack_addr).2 ∧
    SlotRel (topFr c (fsEntry c fs s.rstack_addr).1) (fstack_entry o task rstack tr s).1 :=
  fstack_entry_eq c o task rstack tr s fs hr he

/-- the hypotheses of `c07_gen_fstack_entry_eq` can be met for every option set and trigger table -/
example (c : RCfg) (task rstack tr : Ptr) (s : St) : EntryEnv c (demoOracles c) task rstack tr s :=
  entryEnv_demo c task rstack tr s

/-- … and `fstack_entry` returns 0 or -1 and does not touch what the model leaves out. -/
theorem c07_gen_fstack_entry_frame (c : RCfg) (o : Oracles) (task rstack tr : Ptr) (s : St)
    (he : EntryEnv c o task rstack tr s) :
    ((fstack_entry o task rstack tr s).2 = 0 ∨ (fstack_entry o task rstack tr s).2 = -1) ∧
    (fstack_entry o task rstack tr s).1.setjmp_count = s.setjmp_count ∧
    (fstack_entry o task rstack tr s).1.setjmp_depth = s.setjmp_depth ∧
    (fstack_entry o task rstack tr s).1.task_fork_display_depth = s.task_fork_display_depth ∧
    (fstack_entry o task rstack tr s).1.task_stack_count = s.task_stack_count ∧
    (fstack_entry o task rstack tr s).1.calls = s.calls ∧
    (fstack_entry o task rstack tr s).1.aborted = s.aborted := by
  obtain ⟨e1, e2, e3, e4, e5⟩ := he
  generalize hres : fstack_entry o task rstack tr s = r
  unfold fstack_entry fstack_get_filter_mode fstack_get_loc_mode at hres
  simp only [Id.run, pure, beq_eq_false_iff_ne.2 e1, e2, fun p q t => bne_iff_ne.2 (e3 p q t), e4,
    Bool.false_eq_true, ↓reduceIte, Bool.not_true, Bool.not_false, bne_self_eq_false, Bool.false_and,
    Bool.and_false] at hres
  subst hres
  -- no `return` touches these fields: projecting through the tree of `if`s leaves the same value at every leaf
  simp only [apply_ite Prod.fst, apply_ite Prod.snd, apply_ite St.setjmp_count, apply_ite St.setjmp_depth,
    apply_ite St.task_fork_display_depth, apply_ite St.task_stack_count, apply_ite St.calls, apply_ite St.aborted,
    ite_self, and_true]
  have hcode : ∀ (p : Prop) [Decidable p] (a b : Int), (a = 0 ∨ a = -1) → (b = 0 ∨ b = -1) →
      ((if p then a else b) = 0 ∨ (if p then a else b) = -1) := by
    intro p _ a b ha hb
    split <;> assumption
  repeat' apply hcode
  all_goals decide

/-- **fstack_exit.**  On related states, with the slot holding the model's top frame, the generated `fstack_exit`
    ends in a state related to `fsExit c fs`.  `hin` / `hout`: the counter that is decremented is positive (the
    model counts in Nat, the code in int). -/
theorem c07_gen_fstack_exit_eq (c : RCfg) (o : Oracles) (task : Ptr) (s : St) (fs : FS)
    (hr : Rel c fs s) (hsl : SlotRel (topFr c fs) s)
    (hget : (o.fstack_get "fstack_exit:1" task s.task_stack_count {}).1 ≠ Ptr.null)
    (hin : (topFr c fs).filtered = true → 0 < fs.inCount)
    (hout : (topFr c fs).notrace = true → 0 < fs.outCount) :
    Rel c (fsExit c fs) (fstack_exit o task s) := by
  simp only [rel_iff, slotRel_iff] at hr hsl ⊢
  unfold fstack_exit fsExit
  simp only [Id.run, pure, beq_eq_false_iff_ne.2 hget, hsl]
  cases hf : (topFr c fs).filtered <;> cases hn : (topFr c fs).notrace <;> simp [hf, hn] at hin hout <;>
    simp [*] <;> omega

example : ∃ (c : RCfg) (fs : FS) (s : St), Rel c fs s ∧ SlotRel (topFr c fs) s ∧
    ((topFr c fs).filtered = true → 0 < fs.inCount) ∧ (topFr c fs).filtered = true :=
  ⟨{}, { depth := 3, inCount := 1, stack := [{ origDepth := 5, filtered := true }] },
   { task_filter_in_count := 1, task_filter_depth := 3, task_h_depth := 1024, fstack_enabled := true,
     task_display_depth_set := true, fstack_orig_depth := 5, fstack_flags := 1 },
   by simp [rel_iff, slotRel_iff, topFr]⟩

/-- … it clears the slot, restores the depth saved in it and touches nothing but the two counters. -/
theorem c07_gen_fstack_exit_frame (o : Oracles) (task : Ptr) (s : St)
    (hget : (o.fstack_get "fstack_exit:1" task s.task_stack_count {}).1 ≠ Ptr.null) :
    (fstack_exit o task s).fstack_flags = 0 ∧ (fstack_exit o task s).task_filter_depth = s.fstack_orig_depth ∧
    { (fstack_exit o task s) with
        fstack_flags := s.fstack_flags
        task_filter_depth := s.task_filter_depth
        task_filter_in_count := s.task_filter_in_count
        task_filter_out_count := s.task_filter_out_count } = s := by
  unfold fstack_exit
  simp only [Id.run, pure, beq_eq_false_iff_ne.2 hget, Bool.false_eq_true, ↓reduceIte]
  and_intros <;> first | trivial | rfl

/-- **fstack_update(UFTRACE_ENTRY)** without the EXEC / LONGJMP fix-up flags is the model's `updEntry`. -/
theorem c07_gen_fstack_update_entry_eq (c : RCfg) (o : Oracles) (task fstack : Ptr) (s : St) (fs : FS) (fr : Fr)
    (hr : Rel c fs s) (hsl : SlotRel fr s) (hp : fstack ≠ Ptr.null)
    (hx : ((s.fstack_flags &&& 8) != 0) = false) (hl : ((s.fstack_flags &&& 16) != 0) = false) :
    Rel c (updEntry fs) (fstack_update o 0 task fstack s).1 ∧
    (fstack_update o 0 task fstack s).2 = ((updEntry fs).dispDepth : Int) ∧
    SlotRel fr (fstack_update o 0 task fstack s).1 := by
  simp only [rel_iff, slotRel_iff] at hr hsl ⊢
  unfold fstack_update updEntry
  simp only [Id.run, pure, beq_eq_false_iff_ne.2 hp, hx, hl, Bool.false_eq_true, ↓reduceIte, Bool.not_false,
    Bool.true_and, Bool.and_true, beq_self_eq_true]
  simp only [Nat.and_assoc, Nat.reduceAnd, hsl, and_true]
  simp [*]

/-- **fstack_update(UFTRACE_EXIT)** is the model's `updExit`. -/
theorem c07_gen_fstack_update_exit_eq (c : RCfg) (o : Oracles) (task fstack : Ptr) (s : St) (fs : FS)
    (hr : Rel c fs s) (hp : fstack ≠ Ptr.null) :
    Rel c (updExit fs) (fstack_update o 1 task fstack s).1 ∧
    (fstack_update o 1 task fstack s).2 = ((updExit fs).dispDepth : Int) ∧
    (fstack_update o 1 task fstack s).1.fstack_flags = s.fstack_flags := by
  simp only [rel_iff] at hr ⊢
  unfold fstack_update updExit
  simp only [Id.run, pure, beq_eq_false_iff_ne.2 hp, Bool.false_eq_true, ↓reduceIte, hr,
    show ((1 : Int) == 0) = false from rfl, beq_self_eq_true]
  cases hd : fs.dispSet <;> simp [*] <;> omega

end Uft.C07Gen

import Uft.Props.C03
import Uft.Gen.TaskStart
/-
C04 — A crashing or killed tracee still leaves a replayable prefix trace.

Same machine as C03 (`Uft.Shmem.step`), whose `Reachable` already contains
  * `kill t` after ANY producer micro-step (bytes stored / size advanced / REC_END sent / next buffer
    marked RECORDING / REC_START sent / LOST marker placed): SIGKILL, the end of the SIGSEGV/SIGABRT
    handler, _exit, exec (the old image is gone; `rFlush` is what flush_old_shmem does at the new
    TASK_START);
  * `pFinishTrigger t` (mcount_trace_finish: FINISH message, pipe closed — later sends are dropped)
    and `pFinish t` (mtd_dtor);
  * the recorder's shutdown steps `rRead` (stop_tracing drains the pipe), `rStop` (stop_all_writers),
    `wWrite`/`wSplice` (writers finish before pthread_join returns), `rFlush` (flush_shmem_list),
    `rRemaining` (record_remaining_buffer).
Modelling decision (Outside): once the pipe is closed by the finish trigger no thread stores further
records (`canEmit`); the real threads may complete the hook they are in.  `rFlush` needs the thread to
have stopped (killed / mtd_dtor / finished): the recorder's shutdown starts after POLLHUP, i.e. after
every writer of the FIFO is gone.

The crash handler itself (segv_handler + mcount_rstack_restore) is `Crash.segvFlush` over the hook
model `Uft.Mcount`; `fixed = false` is the code before the repair of finding F11.
-/
namespace Uft.C04
open Uft Uft.Shmem Uft.Writers Uft.Crash Uft.C03

variable {cfg : Cfg} {nw : Nat} {s : State}

/-- **Crash prefix.**  Whatever was killed wherever: the complete records in a thread's file are always
    an in-order prefix of the records whose size update completed (`kept` is logged by `pBump`, see
    `c04_bump_is_logged`), and once nothing of the thread is under way any more (pipe read, REC_START
    list flushed, queues written) the file holds all of them. -/
theorem c04_crash_prefix (h : Reachable cfg nw s) (t : Tid) :
    clean (s.file t) <+: survivors (s.prod t).log ∧
    (Drained s t → clean (s.file t) = survivors (s.prod t).log) :=
  ⟨c03_file_is_prefix h t, drained_exact (inv_reachable h)⟩

/-- the lower bound of `c04_crash_prefix`: a record is in the log as soon as `size` covers it -/
theorem c04_bump_is_logged {s' : State} {t : Tid} (hf : cfg.fixed = true)
    (hs : step cfg s (.pBump t) = some s') :
    ∃ r c, (s.prod t).pc = .wrote r ∧ (s.prod t).curr = some c ∧
      (s'.prod t).log = (s.prod t).log ++ [.kept r] ∧
      dataAt (s'.prod t).bufs c = dataAt (s.prod t).bufs c ++
        (match (s.prod t).bufs[c]? with | some _ => [.whole r] | none => []) := by
  cases step_sound hs with
  | emit _ hp =>
    cases hp with
    | pBumpTorn _ _ ht => simp [hf] at ht
    | @pBump r c hpc hc =>
      refine ⟨r, c, hpc, hc, by simp [State.sendOpt], ?_⟩
      simp only [State.sendOpt, setProd_prod_same]
      cases hb : (s.prod t).bufs[c]? with
      | none => simp [appendData, hb]
      | some b => rw [appendData_eq, dataAt_modData_eq _ hb]

/-- **Whole records.**  With the single size update a file never contains a torn record, whatever the
    instant of the kill. -/
theorem c04_crash_whole_records (hf : cfg.fixed = true) (h : Reachable cfg nw s) (t : Tid) :
    ∀ it ∈ s.file t, it.isTorn = false :=
  (nt_reachable hf h t).1

theorem c04_crash_prefix_exact (hf : cfg.fixed = true) (h : Reachable cfg nw s) (t : Tid) :
    s.file t <+: survivors (s.prod t).log ∧ (Drained s t → s.file t = survivors (s.prod t).log) := by
  have := c04_crash_prefix h t
  rw [clean_of_nt (c04_crash_whole_records hf h t)] at this
  exact this

/-- a payload record: header 16 bytes + 16 bytes of arguments -/
def rp : Rec := { id := 7, size := 32, payload := true }

/-- the code before the repair (record_ret_stack advanced `size` past the header, copied the payload, advanced
    `size` again): a thread killed between the two stores leaves a header without payload, and the
    recorder's flush copies it into the file (finding F12) -/
def tornRun : List Action :=
  [.pPrepare 1, .pWrite 1 rp, .pBump 1, .kill 1, .rRead, .rFlush 1 0, .rStop, .rRemaining]

theorem c04_prefix_torn_record_witness :
    ∃ s, Reachable { maxsize := 48, fixed := false } 1 s ∧ Drained s 1 ∧ s.file 1 = [.torn rp] := by
  have hd : (run { maxsize := 48, fixed := false } (State.init 1) tornRun).map
      (fun s => (s.file 1, pipeToks 1 s.pipe, shmToks 1 s.shmemList, s.pool.queue 1)) =
      some ([.torn rp], [], [], []) := by decide
  cases hr : run { maxsize := 48, fixed := false } (State.init 1) tornRun with
  | none => simp [hr] at hd
  | some s =>
    simp only [hr, Option.map_some, Option.some.injEq, Prod.mk.injEq] at hd
    exact ⟨s, reachable_of_run Reachable.init hr, ⟨hd.2.1, hd.2.2.1, hd.2.2.2⟩, hd.1⟩

/-- with the repair the same schedule cannot even take the torn step: the file stays whole -/
example : (run { maxsize := 48, fixed := true } (State.init 1) tornRun).map (fun s => s.file 1) =
    some [.whole rp] := by decide

/-- **SIGSEGV / SIGABRT, exactly — under any record-time filter.**  For every shadow stack that satisfies
    record_trace_data's premise, with frames the filters made NORECORD (a -N function, a call beyond -D, outside -F,
    below -Z, a location filter) or DISABLED (trace_off) ANYWHERE, the innermost frame included: the handler hands over
    exactly the ENTRY records of the recordable open calls that were not written yet (`pendingEntries`: outermost
    first), then the EXIT of the top frame if it was returning - no record of a filtered-out frame, none twice - and
    afterwards every recordable open call is written. -/
theorem c04_segv_exact (st : Mcount.St) (hc : WClosed st.frames) (hidx : st.idx > 0) :
    ∃ fs, segvFlush true st = .flushed fs (pendingEntries st.frames ++ exitPart st.frames) ∧ AllW fs ∧ WClosed fs := by
  refine ⟨(Mcount.recordTrace st.frames).1, ?_, recordTrace_allW hc, recordTrace_WClosed hc⟩
  have : st.idx ≠ 0 := by omega
  simp [segvFlush, this, recordTrace_exact hc]

/-- **SIGSEGV / SIGABRT include the open calls.**  With the index clamped to the shadow stack the handler
    never leaves the array, and record_trace_data on the top frame hands the ENTRY of every open call that
    is neither skipped nor already written to the buffer (those records then reach the file by
    `c04_crash_prefix`: the handler's emission is ordinary `pWrite`/`pBump`… steps followed by `kill`). -/
theorem c04_segv_includes_open_calls (st : Mcount.St) (hc : WClosed st.frames) (hidx : st.idx > 0) :
    ∃ fs recs, segvFlush true st = .flushed fs recs ∧ AllW fs ∧
      ∀ f ∈ st.frames, f.skip = false → f.written = false → Mcount.entryRec f ∈ recs := by
  obtain ⟨fs, he, haw, _⟩ := c04_segv_exact st hc hidx
  exact ⟨fs, _, he, haw, fun f hf hs hw => List.mem_append_left _ (mem_pendingEntries.mpr ⟨f, hf, hs, hw, rfl⟩)⟩

/-- non-vacuity: two open calls, none written -/
example : WClosed [({ addr := 2, start := 5, depth := 1 } : Mcount.Frame), { addr := 1, start := 3, depth := 0 }] := by
  simp [WClosed, AllW]

/-- the statement of the property, in the three clauses a reader asks for: (1) every RECORDABLE open call is included,
    (2) every ENTRY record handed over belongs to a recordable open call that was still owed, (3) a filtered-out
    innermost frame makes no difference to its callers -/
theorem c04_segv_includes_recordable_open_calls (st : Mcount.St) (hc : WClosed st.frames) (hidx : st.idx > 0) :
    ∃ fs recs, segvFlush true st = .flushed fs recs ∧
      (∀ f ∈ st.frames, f.skip = false → f.written = false → Mcount.entryRec f ∈ recs) ∧
      (∀ r ∈ recs, r ∈ exitPart st.frames ∨
        ∃ f ∈ st.frames, f.skip = false ∧ f.written = false ∧ r = Mcount.entryRec f) ∧
      (∀ top rest, st.frames = top :: rest → top.skip = true → top.written = false →
        recs = pendingEntries rest ++ exitPart st.frames) := by
  obtain ⟨fs, he, _, _⟩ := c04_segv_exact st hc hidx
  refine ⟨fs, _, he, ?_, ?_, ?_⟩
  · intro f hf hs hw
    exact List.mem_append_left _ (mem_pendingEntries.mpr ⟨f, hf, hs, hw, rfl⟩)
  · intro r hr
    rcases List.mem_append.mp hr with h | h
    · exact Or.inr (mem_pendingEntries.mp h)
    · exact Or.inl h
  · intro top rest he2 hs _
    rw [he2, pendingEntries_skip_top rest hs]

/-- non-vacuity: the crash happens in a -N function (NORECORD) called from a call beyond the reach of a time filter that
    is itself below a disabled frame; the three recordable callers are handed over outermost first, the two filtered
    frames are not -/
example :
    segvFlush true { frames := [({ addr := 9, start := 50, depth := 3, norecord := true } : Mcount.Frame),
                                 { addr := 4, start := 40, depth := 2 },
                                 { addr := 3, start := 30, depth := 2, disabled := true },
                                 { addr := 2, start := 20, depth := 1 },
                                 { addr := 1, start := 10, depth := 0 }] } =
      .flushed [{ addr := 9, start := 50, depth := 3, norecord := true },
                { addr := 4, start := 40, depth := 2, written := true },
                { addr := 3, start := 30, depth := 2, disabled := true },
                { addr := 2, start := 20, depth := 1, written := true },
                { addr := 1, start := 10, depth := 0, written := true }]
               [{ time := 10, type := 0, depth := 0, addr := 1 }, { time := 20, type := 0, depth := 1, addr := 2 },
                { time := 40, type := 0, depth := 2, addr := 4 }] := by
  simp [segvFlush, Mcount.St.idx, Mcount.recordTrace, Mcount.flushBelow, Mcount.Frame.skip, Mcount.entryRec]

/-- **… after ANY call history under ANY option set.**  `WClosed` is not an assumption about the thread: every state
    the hook model reaches from the initial one - any sequence of entries and returns through either hook family, under
    any filter / trigger / depth / time / size / trace_on-off configuration (`cfg`), with flushes and forks in between -
    satisfies it.  So whenever the thread crashes with an open call, the handler hands over exactly the ENTRY records
    of its recordable open calls that were still owed, outermost first, whatever the filters did to the innermost
    frame. -/
theorem c04_segv_after_any_history (cfg : Mcount.Cfg) (ops : List HookOp) :
    let st := runHooks cfg (Mcount.St.init cfg) ops
    st.idx > 0 →
    ∃ fs, segvFlush true st = .flushed fs (pendingEntries st.frames ++ exitPart st.frames) ∧ AllW fs := by
  intro st hidx
  have hc : WClosed st.frames := runHooks_WClosed cfg ops _ (by simp [Mcount.St.init, WClosed])
  obtain ⟨fs, h1, h2, _⟩ := c04_segv_exact st hc hidx
  exact ⟨fs, h1, h2⟩

/-- non-vacuity: `-N f2` (trigger `filter = out` on function 2), the thread enters f0, f1, f2 through cygprof hooks and
    crashes in f2: its frame is NORECORD, the ENTRY records of f0 and f1 are handed over -/
example :
    let cfg : Mcount.Cfg := { trig := fun f => if f = 2 then { filter := some false } else {} }
    let st := runHooks cfg (Mcount.St.init cfg) [.enter .cyg 0 1000, .enter .cyg 1 1010, .enter .cyg 2 1020]
    (st.frames.map (·.norecord), pendingEntries st.frames) =
      ([true, false, false], [{ time := 1000, type := 0, depth := 0, addr := 0 }, { time := 1010, type := 0, depth := 1, addr := 1 }]) := by
  decide

/-- the finish trigger and the fork / exec / exit flush call record_trace_data for the frame of the triggering
    function / library call, which the filters may have made NORECORD as well: same statement -/
theorem c04_flush_filtered_top_keeps_callers {top : Mcount.Frame} {rest : List Mcount.Frame}
    (hc : WClosed (top :: rest)) (hs : top.skip = true) (hw : top.written = false) :
    (Mcount.recordTrace (top :: rest)).2 = pendingEntries rest ++ exitPart (top :: rest) ∧
      AllW (Mcount.recordTrace (top :: rest)).1 :=
  ⟨by rw [recordTrace_exact hc, pendingEntries_skip_top rest hs], recordTrace_allW hc⟩

/-- the code before the repair: with -finstrument-functions the call depth is counted beyond `--max-stack`
    (`cygprof_entry` "even if it already exceeds the rstack max"), and the crash handler — like every
    caller of mcount_rstack_restore — used `rstack[idx - 1]`: outside the array (finding F11) -/
theorem c04_prefix_segv_wild_witness :
    segvFlush false { frames := List.replicate 8 ({ addr := 1, start := 1, depth := 0, cyg := true, written := true } : Mcount.Frame),
                      over := 12 } = .wild 19 := by
  simp [segvFlush, Mcount.St.idx]

/-- **flush_shmem_list covers the unended buffer.**  For a stopped thread with nothing left in the pipe,
    a REC_START the recorder still holds is the buffer the thread was filling; flushing it is enabled,
    queues its bytes exactly once — behind everything of that thread already queued — and leaves no
    REC_START of the thread behind. -/
theorem c04_flush_covers_unended (h : Reachable cfg nw s) {t : Tid} {i : Nat}
    (hstop : Crash.stopped s t = true) (hpipe : s.pipe.any (msgOf t) = false) (hm : (⟨t, i⟩ : WBuf) ∈ s.shmemList) :
    ∃ s', step cfg s (.rFlush t i) = some s' ∧ (s.prod t).opn = some i ∧ (s'.prod t).opn = none ∧
      shmToks t s'.shmemList = [] ∧ inFlight s' t = inFlight s t ++ dataAt (s.prod t).bufs i ∧
      s'.file t = s.file t := by
  have hi := inv_reachable h
  have hvt := hi.view t
  unfold VInv at hvt
  rw [pipeToks_nil_of_not_any hpipe] at hvt
  obtain ⟨hshm, ho, _⟩ := hvt.flush_opn (shmToks_allS t s.shmemList) (mem_shmToks hm)
  obtain ⟨b, hb, hr⟩ := hvt.d.valid i (by simp [ho])
  have hsh' : shmToks t (s.shmemList.erase ⟨t, i⟩) = [] := by
    rw [shmToks_erase_self, hshm]; simp
  have hg : (s.shmemList.contains ⟨t, i⟩ && (!(s.prod t).alive || (s.prod t).done || s.pipeClosed) &&
      !s.pipe.any (msgOf t)) = true := by
    simp only [Crash.stopped] at hstop
    simp [hm, hstop, hpipe]
  refine ⟨_, if_pos hg, ho, ?_⟩
  -- record_mmap_file queues the buffer unless it is empty
  unfold recordMmap
  simp only [setProd_prod_same, hb]
  split
  · refine ⟨by simp, by simpa using hsh', ?_, rfl⟩
    have := qidx_enqueue (s := s) hi.pool ⟨t, i⟩ t
    simp only [if_true] at this
    simp [inFlight, qidx, this]
  · rename_i hne
    have hne : b.data = [] := by
      cases hd : b.data with
      | nil => rfl
      | cons a l => simp [hr, hd] at hne
    exact ⟨by simp, by simpa using hsh', by simp [inFlight, qidx, dataAt, hb, hne], rfl⟩

/-- no action of the shutdown sequence is enabled any more -/
structure ShutdownDone (cfg : Cfg) (s : State) : Prop where
  read : step cfg s .rRead = none
  write : ∀ w, step cfg s (.wWrite w) = none
  splice : ∀ w, step cfg s (.wSplice w) = none
  remaining : step cfg s .rRemaining = none
  flush : ∀ t i, step cfg s (.rFlush t i) = none

/-- **The recorder's shutdown terminates and completes.**  Environment hypotheses, explicit: every thread
    has stopped (`hstop`: all tasks are dead or finished — what POLLHUP on the FIFO and check_tid_list
    establish) and stop_all_writers has run (`hdone`).  Then (1) every schedule of shutdown steps — in
    whatever order the main thread and the writer threads take them — is at most `mu s` steps long, and
    (2) when none of them is enabled any more, nothing of any thread is under way and every file holds
    exactly the records whose size update completed: no step of the sequence (in particular
    flush_shmem_list) can have been skipped. -/
theorem c04_recorder_loop_exits (h : Reachable cfg nw s)
    (hstop : ∀ t, (s.prod t).started = true → Crash.stopped s t = true)
    (hdone : s.bufDone = true) :
    (∀ acts s', (∀ a ∈ acts, isShutdownAct a = true) → run cfg s acts = some s' → acts.length ≤ mu s) ∧
    (ShutdownDone cfg s → ∀ t, Drained s t ∧ clean (s.file t) = survivors (s.prod t).log) := by
  refine ⟨?_, ?_⟩
  · intro acts s' ha hr
    have := run_shutdown_bounded acts s s' ha hr
    omega
  · intro hd t
    have hq : Quiescent cfg s :=
      ⟨hd.read, hd.write, hd.splice, by simp only [hdone, if_true]; exact hd.remaining, hd.flush, hstop⟩
    have := quiescent_drained (inv_reachable h) hq t
    exact ⟨this, drained_exact (inv_reachable h) this⟩

/-- non-vacuity of `c04_recorder_loop_exits`: a thread killed in the middle of its second buffer; the
    shutdown sequence is enabled step by step, ends in `ShutdownDone`-shape, and the file is complete -/
def killRun : List Action :=
  [.pPrepare 1, .pWrite 1 r1, .pBump 1, .pWrite 1 r2, .pBump 1, .pWrite 1 r3, .pBump 1,
   .pEnd 1 r4, .pPick 1 true, .pStart 1, .pMark 1, .pBump 1, .pWrite 1 r1, .kill 1,
   .rRead, .rRead, .rRead, .rStop, .rFlush 1 1, .rRemaining, .rRemaining]

example : (run {} (State.init 1) killRun).map
    (fun s => (s.file 1, s.pipe.length, s.shmemList.length, s.pool.writeList.length, mu s)) =
    some ([.whole r1, .whole r2, .whole r3, .whole r4], 0, 0, 0, 0) := by decide

/-- **The prefix is replayable.**  Any property of record streams that is inherited by prefixes and
    holds of what the thread emitted holds of the file — whatever was killed whenever. -/
theorem c04_prefix_is_replayable (h : Reachable cfg nw s) (t : Tid) (P : List Item → Prop)
    (hP : ∀ a b, P (a ++ b) → P a) (hfull : P (survivors (s.prod t).log)) : P (clean (s.file t)) := by
  obtain ⟨rest, hr⟩ := c03_file_is_prefix h t
  rw [← hr] at hfull
  exact hP _ _ hfull

/-- the instance the readers need (fstack): ENTRY/EXIT nest — never more EXITs than ENTRYs — with records
    identified as in the harness (`id` even = ENTRY, odd = EXIT of the same call; a LOST marker restarts
    the count, A17) -/
def nestOk : Nat → List Item → Bool
  | _, [] => true
  | d, .whole r :: l => if r.id % 2 = 0 then nestOk (d + 1) l else (d > 0 && nestOk (d - 1) l)
  | _, .lost _ :: l => nestOk 0 l
  | d, .torn _ :: l => nestOk d l

theorem nestOk_prefix : ∀ (a b : List Item) (d : Nat), nestOk d (a ++ b) = true → nestOk d a = true
  | [], _, _, _ => rfl
  | .whole r :: a, b, d, h => by
    simp only [List.cons_append, nestOk] at h ⊢
    split at h
    · rename_i he; simp only [he, if_true]; exact nestOk_prefix a b _ h
    · rename_i he
      simp only [he, if_false, Bool.and_eq_true] at h ⊢
      exact ⟨h.1, nestOk_prefix a b _ h.2⟩
  | .lost n :: a, b, d, h => by
    simp only [List.cons_append, nestOk] at h ⊢; exact nestOk_prefix a b _ h
  | .torn r :: a, b, d, h => by
    simp only [List.cons_append, nestOk] at h ⊢; exact nestOk_prefix a b _ h

theorem c04_prefix_nests (h : Reachable cfg nw s) (t : Tid)
    (hfull : nestOk 0 (survivors (s.prod t).log) = true) : nestOk 0 (clean (s.file t)) = true :=
  c04_prefix_is_replayable h t (fun l => nestOk 0 l = true) (fun a b => nestOk_prefix a b 0) hfull

/-! ### exec: a tid that lives on in a new image -/

/-- the test of the TASK_START case as it stands in cmds/record.c (regenerated on every run) -/
abbrev codeKnown := Uft.Gen.TaskStart.isKnown

/-- the handler around that test has the shape the model `Crash.handle` gives it: a match flushes the
    announced tid's old buffer and leaves the loop, the task is added only when nothing matched, and
    flush_old_shmem takes the first entry of that tid only (facts regenerated from the source) -/
theorem c04_taskstart_shape :
    Uft.Gen.TaskStart.flushesAnnouncedTid = true ∧ Uft.Gen.TaskStart.breaksAfterFlush = true ∧
    Uft.Gen.TaskStart.addsWhenNoEntry = true ∧ Uft.Gen.TaskStart.flushOldFirstEntryOnly = true := by
  decide

/-- the code's test recognises a task by its tid alone — whatever pid its entry carries (entries made by
    FORK_START/FORK_END carry the PARENT's pid) -/
theorem c04_taskstart_matches_by_tid (pp pt mp mt : Int) : codeKnown pp pt mp mt = (pt == mt) := by
  simp [codeKnown, Uft.Gen.TaskStart.isKnown]

/-- **Order across exec.**  For every sequence of control messages that respects the producers' protocol
    (`valid`: a REC_END ends the one buffer the recorder holds for that tid; a new image starts its first buffer
    while at most the dead image's last one is still announced; a TASK_START comes from a task not seen before, or
    from a new image of a known task), the recorder hands the buffers of every tid to the writers in the order in
    which that tid started them: first all buffers of the image before the exec — including the one it was filling
    when it vanished — then those of the image after it.  With the writer pool's per-tid FIFO
    (`Writers.enqueue_queue`, `popHead_queue`) and C03's per-image conservation: `<tid>.dat` = records made
    before the exec ++ records made after it. -/
theorem c04_exec_flush_order (msgs : List CMsg) (hv : valid codeKnown {} msgs = true) (t : Int) :
    ofTid t (runRec codeKnown msgs).enq = startsOf t msgs := by
  have := fold_order c04_taskstart_matches_by_tid t msgs {} hv
  simpa [runRec, ofTid] using this

/-- fork (parent 100, child 101), the child fills buffer 0, switches to 1, and execs while filling 1; the new
    image starts buffer 10, announces itself, fills 10, 11 -/
def forkExecMsgs : List CMsg :=
  [.recStart 100 50, .taskStart 100 100, .forkStart 100, .recStart 101 0, .forkEnd 100 101,
   .recEnd 101 0, .recStart 101 1,
   .recStart 101 10, .taskStart 101 101, .recEnd 101 10, .recStart 101 11, .recEnd 101 11, .taskEnd 101]

/-- non-vacuity: that sequence is valid for the code's test, and the order is the order of starting -/
example : valid codeKnown {} forkExecMsgs = true := by decide
example : ofTid 101 (runRec codeKnown forkExecMsgs).enq = [(101, 0), (101, 1), (101, 10), (101, 11)] := by decide

/-- a test that also compares the pid misses the forked child (its entry carries pid 100): the buffer the old
    image was filling is queued only by flush_shmem_list at the very end, after the new image's buffers -/
theorem c04_prefix_exec_pid_match_witness :
    ofTid 101 (runRec (fun pp pt mp mt => pp == mp && pt == mt) forkExecMsgs).enq =
      [(101, 0), (101, 10), (101, 11), (101, 1)] := by decide

end Uft.C04

import Uft.Lemmas.Trunc
import Uft.Lemmas.TextFiles
import Uft.Lemmas.TextLines
/-
C12 — Analysis commands survive truncated or partially written data.
Property theorems only (helpers: Lemmas/Trunc.lean, Lemmas/TextFiles.lean, Lemmas/TextLines.lean).

Part 1: the per-task trace data (`<tid>.dat`), model Uft/Model/Trunc.lean.
`readAll true` is the reader with proposed_fixes/C12-F7.diff, C12-S4.diff, C12-F14.diff applied,
`readAll false` the reader as found.
-/
namespace Uft.C12
open Uft.Trunc

/-- C12 main statement for trace data: for every list of well-formed records (payloads of any
    size: string arguments, fixed-size arguments, events) and EVERY cut position `k`, the
    repaired reader delivers exactly the records that are completely present in the first `k`
    bytes, stops with a clean end-of-data, and leaves `task->ustack` (from which report/graph
    take the closing time of unfinished calls) at the last whole record: nothing of a partial
    record is delivered or leaks. -/
theorem c12_cut_equals_whole_prefix (ctx : Ctx) (rs : List Rec) (hwf : ∀ r ∈ rs, WF ctx r)
    (k : Nat) :
    readAll true ctx ((encodeAll rs).take k) =
      (rs.take (wholeRecordsBefore rs k), .eof, lastHdr (rs.take (wholeRecordsBefore rs k))) := by
  unfold readAll lastHdr
  apply readAllF_cut ctx rs hwf
  have h := whole_le rs k
  rw [List.length_take]
  omega

/-- Composition: whatever a command computes from the reader's result (records, stop reason,
    final `ustack`), on a cut file it computes exactly what it computes on the copy that ends at
    the last whole record. -/
theorem c12_commands_prefix {α : Type} (cmd : List Rec × Status × Bytes → α) (ctx : Ctx)
    (rs : List Rec) (hwf : ∀ r ∈ rs, WF ctx r) (k : Nat) :
    cmd (readAll true ctx ((encodeAll rs).take k)) =
      cmd (readAll true ctx (encodeAll (rs.take (wholeRecordsBefore rs k)))) := by
  have hwf' : ∀ r ∈ rs.take (wholeRecordsBefore rs k), WF ctx r :=
    fun r hr => hwf r (List.mem_of_mem_take hr)
  have h1 := c12_cut_equals_whole_prefix ctx rs hwf k
  have h2 := c12_cut_equals_whole_prefix ctx _ hwf'
    (encodeAll (rs.take (wholeRecordsBefore rs k))).length
  rw [List.take_length, whole_full, List.take_length] at h2
  rw [h1, h2]

/-- Memory safety of the repaired reader on EVERY byte string (not only cuts of valid files):
    it never stops in the out-of-bounds state, never delivers a record whose payload read was
    incomplete, and for every delivered record the consumers' walk (replay/`dump --chrome` with
    `raw = false`, raw `dump` with `raw = true`) stays inside the delivered payload. -/
theorem c12_read_in_bounds (ctx : Ctx) (hok : SpecsOK ctx) (raw : Bool) (bs : Bytes) :
    (readAll true ctx bs).2.1 ≠ .oob ∧
    ∀ r ∈ (readAll true ctx bs).1, r.partl = false ∧ consumeOk true raw ctx r = true :=
  readAllF_safe hok raw _ _ _

/-- The reader terminates on every byte string (repaired or not): the fuel `len/16 + 1`
    is never exhausted, because every delivered record consumed its 16 header bytes. -/
theorem c12_read_terminates (fixed : Bool) (ctx : Ctx) (bs : Bytes) :
    (readAll fixed ctx bs).2.1 ≠ .fuel :=
  readAllF_fuel fixed ctx _ _ _ (by omega)

/-! ### perf-cpuN.dat (utils/perf.c `read_perf_event`, the reader AS CODED: `fixed = false`) -/

/-- C12 for the per-cpu perf files: for every sequence of well-formed perf records (context switches,
    task-new / task-exit with their trailing `sample_id`, comm records of both name lengths, records of
    any unknown type and length) and EVERY cut position `k`, the reader as coded delivers exactly the
    events of the records that are completely present in the first `k` bytes and ends with a clean end
    of file: a record whose trailing `sample_id` (or any other part) is missing is not delivered. -/
theorem c12_perf_cut_equals_whole_prefix (rs : List PRec) (hwf : ∀ r ∈ rs, PWF r) (k : Nat) :
    readPerfAll false ((pEncodeAll rs).take k) =
      ((rs.take (pWholeBefore rs k)).filterMap pEvOf, .eof) := by
  unfold readPerfAll
  apply readPerfAllF_cut rs hwf
  have := pWhole_le rs k
  omega

/-- whatever a command computes from the events of a per-cpu file: on a cut file it is what it computes
    on the copy that ends at the last whole perf record -/
theorem c12_perf_commands_prefix {α : Type} (cmd : List PEv × PStatus → α) (rs : List PRec)
    (hwf : ∀ r ∈ rs, PWF r) (k : Nat) :
    cmd (readPerfAll false ((pEncodeAll rs).take k)) =
      cmd (readPerfAll false (pEncodeAll (rs.take (pWholeBefore rs k)))) := by
  have hwf' : ∀ r ∈ rs.take (pWholeBefore rs k), PWF r :=
    fun r hr => hwf r (List.mem_of_mem_take hr)
  have h1 := c12_perf_cut_equals_whole_prefix rs hwf k
  have h2 := c12_perf_cut_equals_whole_prefix _ hwf' (pEncodeAll (rs.take (pWholeBefore rs k))).length
  rw [List.take_length, pWhole_full, List.take_length] at h2
  rw [h1, h2]

/-- memory safety of the perf reader.  As coded, on every cut of every well-formed file: the body reads
    stay inside the 40-byte union and no size field wraps around (reading stops with `eof`).  On EVERY
    byte string this holds for the reader with proposed_fixes/C12-PERF-LEN.diff (`fixed = true`); the
    reader as coded trusts the size field of the file (`c12_prefix_perf_len_witness`). -/
theorem c12_perf_read_in_bounds :
    (∀ (rs : List PRec), (∀ r ∈ rs, PWF r) → ∀ k,
      (readPerfAll false ((pEncodeAll rs).take k)).2 = .eof) ∧
    (∀ bs : Bytes, (readPerfAll true bs).2 ≠ .oob ∧ (readPerfAll true bs).2 ≠ .badSize) :=
  ⟨fun rs hwf k => by rw [c12_perf_cut_equals_whole_prefix rs hwf k],
   fun bs => readPerfAllF_fixed_safe _ bs⟩

/-- non-vacuity: a file with a sched-out, an unknown record and a task-exit; cut 1 byte before
    its end the task-exit is not delivered -/
def perfW : List PRec :=
  [⟨14, 0x2000, leBytes 4 101 ++ leBytes 4 101 ++ leBytes 8 2120⟩,
   ⟨9, 0, zeros 8⟩,
   ⟨4, 0, leBytes 4 101 ++ leBytes 4 1 ++ leBytes 4 101 ++ leBytes 4 101 ++ leBytes 8 2950 ++
      leBytes 4 101 ++ leBytes 4 101 ++ leBytes 8 2950⟩]

set_option maxRecDepth 8000 in
example : (∀ r ∈ perfW, PWF r) ∧ (pEncodeAll perfW).length = 88 ∧
    (readPerfAll false (pEncodeAll perfW)).1.map (·.time) = [2120, 2950] ∧
    (readPerfAll false ((pEncodeAll perfW).take 87)).1.map (·.time) = [2120] ∧
    pWholeBefore perfW 87 = 2 := by
  refine ⟨?_, by decide, by decide, by decide, by decide⟩
  intro r hr
  simp only [perfW, List.mem_cons, List.not_mem_nil, or_false] at hr
  rcases hr with rfl | rfl | rfl <;> simp [PWF, zeros]

set_option maxRecDepth 8000 in
/-- the reader as coded takes the length of the body read from the file: a context-switch record whose
    size field says 56 with 48 bytes behind the header stores 48 bytes in the 40-byte union -/
theorem c12_prefix_perf_len_witness :
    (readPerfAll false (leBytes 4 14 ++ leBytes 2 0 ++ leBytes 2 56 ++ zeros 48)).2 = .oob ∧
    (readPerfAll true (leBytes 4 14 ++ leBytes 2 0 ++ leBytes 2 56 ++ zeros 48)).2 = .eof ∧
    (readPerfAll false (zeros 8)).2 = .badSize := by decide

/-! ### non-vacuity and the findings as theorems about the code as found -/

/-- `foo(int, char *)` returning int, `bar(char *)` returning a string -/
def ctxW : Ctx where
  specs := fun a =>
    if a = 0x401100 then some [⟨1, .other, 4⟩, ⟨2, .str, 8⟩, ⟨0, .other, 4⟩]
    else if a = 0x401200 then some [⟨1, .str, 8⟩, ⟨0, .str, 8⟩]
    else none

def strArg (s : List UInt8) : Bytes :=
  let p := leBytes 2 s.length ++ s
  p ++ zeros ((4 - p.length % 4) % 4)

/-- main() { foo(7, "hello") { statm event; bar("wonderful") = "ok"; } = -3 } -/
def recsW : List Rec :=
  [ { time := 2000, typ := 0, more := false, depth := 0, addr := 0x401000, payload := [] },
    { time := 2100, typ := 0, more := true, depth := 1, addr := 0x401100,
      payload := leBytes 4 7 ++ strArg [104, 101, 108, 108, 111] },
    { time := 2150, typ := 3, more := true, depth := 2, addr := 100001,
      payload := leBytes 8 10 ++ leBytes 8 20 ++ leBytes 8 30 },
    { time := 2200, typ := 0, more := true, depth := 2, addr := 0x401200,
      payload := strArg [119, 111, 110, 100, 101, 114, 102, 117, 108] },
    { time := 2300, typ := 1, more := true, depth := 2, addr := 0x401200,
      payload := strArg [111, 107] },
    { time := 2400, typ := 1, more := true, depth := 1, addr := 0x401100,
      payload := leBytes 4 (2 ^ 32 - 3) },
    { time := 2500, typ := 1, more := false, depth := 0, addr := 0x401000, payload := [] } ]

theorem recsW_wf : ∀ r ∈ recsW, WF ctxW r := by
  intro r hr
  simp only [recsW, List.mem_cons, List.not_mem_nil, or_false] at hr
  rcases hr with rfl | rfl | rfl | rfl | rfl | rfl | rfl
  · exact ⟨by decide, by decide, by decide, by decide, rfl, by decide, by decide⟩
  · refine ⟨by decide, by decide, by decide, by decide, rfl, by decide, fun _ => .inl ⟨by decide, _, rfl, by decide, by decide⟩⟩
  · exact ⟨by decide, by decide, by decide, by decide, rfl, by decide, fun _ => .inr ⟨rfl, by decide, .inl (by decide)⟩⟩
  · refine ⟨by decide, by decide, by decide, by decide, rfl, by decide, fun _ => .inl ⟨by decide, _, rfl, by decide, by decide⟩⟩
  · refine ⟨by decide, by decide, by decide, by decide, rfl, by decide, fun _ => .inl ⟨by decide, _, rfl, by decide, by decide⟩⟩
  · refine ⟨by decide, by decide, by decide, by decide, rfl, by decide, fun _ => .inl ⟨by decide, _, rfl, by decide, by decide⟩⟩
  · exact ⟨by decide, by decide, by decide, by decide, rfl, by decide, by decide⟩

/-- the hypotheses of the theorems above are satisfiable, with payload-carrying records -/
example : (∀ r ∈ recsW, WF ctxW r) ∧ (encodeAll recsW).length = 192 ∧
    wholeRecordsBefore recsW 43 = 1 ∧ wholeRecordsBefore recsW 44 = 2 ∧
    wholeRecordsBefore recsW 192 = 7 :=
  ⟨recsW_wf, by decide +kernel, by decide +kernel, by decide +kernel, by decide +kernel⟩

example : SpecsOK ctxW := by
  intro a l h sp hsp
  simp only [ctxW] at h
  split at h
  · simp only [Option.some.injEq] at h; subst h
    simp only [List.mem_cons, List.not_mem_nil, or_false] at hsp
    rcases hsp with rfl | rfl | rfl <;> simp [SpecOK]
  · split at h
    · simp only [Option.some.injEq] at h; subst h
      simp only [List.mem_cons, List.not_mem_nil, or_false] at hsp
      rcases hsp with rfl | rfl <;> simp [SpecOK]
    · simp at h

/-- F7 witness: the reader as found, on the file cut inside the string argument of `foo`
    (byte 40 of 192), still delivers `foo`'s record — with 6 of its 12 payload bytes — and the
    consumer's walk over that payload leaves the buffer (the heap-buffer-overflow ASan reports in
    `get_argspec_string`).  The repaired reader delivers only `main`. -/
theorem c12_prefix_partial_payload_witness :
    let cut := (encodeAll recsW).take 40
    (readAll false ctxW cut).1.length = 2 ∧
    (readAll false ctxW cut).1.any (fun r => r.partl && !consumeOk false false ctxW r) = true ∧
    (readAll true ctxW cut).1 = recsW.take 1 := by
  decide +kernel


/-!
Part 2: the text files (`info`, `task.txt`, `sid-*.map`, `*.sym`), models Uft/Model/InfoFile.lean
and Uft/Model/TaskTxt.lean.  `fixed = true`: with proposed_fixes/C12-F8, -S2, -F8t, -F8s, -F13,
-F12, -S3, -F16, -F17 applied (memory safety).  `nl = true`: with proposed_fixes/C12-F18i (info),
-F18t (task.txt), -F18m (map), -F18s (.sym) applied: a last line without its newline is an incomplete
record and ends the file (Part 3 below).  The in-bounds theorems hold for both values of `nl`.
-/
open Uft.TextScan (b PR)
open Uft.InfoFile (parseInfo)
open Uft.TaskTxt (parseTaskTxt parseMap parseSym chromeHeader replayNamesOk isKernel Maps)

/-- Every text parser of a data directory, with the proposed fixes, is total and in bounds on
    EVERY byte string (so in particular on every cut of every file): it returns a value or an
    error enum, never `oob`.  The last conjunct is the `dump --chrome` header walk over the tids
    of `info` against whatever task list was parsed. -/
theorem c12_parsers_total_in_bounds (nl : Bool) (bs modname : List UInt8) :
    (parseInfo true nl bs).isOob = false ∧ (parseTaskTxt true nl bs).isOob = false ∧
    (parseMap true nl bs).isOob = false ∧ (parseSym true nl modname bs).isOob = false ∧
    (∀ items tids, (chromeHeader true items tids).isOob = false) ∧
    (∀ ls, replayNamesOk true ls = true) :=
  ⟨InfoFile.parseInfo_safe nl bs, TaskTxt.parseTaskTxt_safe nl bs, TaskTxt.parseMap_safe nl bs,
   TaskTxt.parseSym_safe nl modname bs, TaskTxt.chromeHeader_safe, fun _ => rfl⟩

/-- With C12-F12.diff a map file never makes a user-space address a kernel address: the kernel
    base is either the writer's "none" value or one of `guess_kernel_base`'s, all ≥ 1 GiB —
    whatever bytes the map file holds (cut before the `[stack]` line or anywhere else). -/
theorem c12_map_kernel_base_sane (nl : Bool) (bs : List UInt8) (m : Maps) (h : parseMap true nl bs = .ok m) :
    0x40000000 ≤ m.kernelBase ∧ ∀ a, a < 0x40000000 → isKernel m a = false := by
  have hk := TaskTxt.mapLines_kb _ h (by decide)
  refine ⟨hk, fun a ha => ?_⟩
  simp only [isKernel, decide_eq_false_iff_not, Nat.not_le]
  omega

/-- non-vacuity: the repaired reader on a map file without `[stack]` line succeeds, with the
    writer's "no kernel" base -/
example : (match parseMap true false (b "400000-402000 r-xp 00000000 00:00 0     /p\n") with
    | .ok m => m.kernelBase == 2 ^ 64 - 1 && m.maps.length == 1
    | _ => false) = true := by decide +kernel

/-! ### the findings as theorems about the parsers as found -/

def hdr40 (mask : Nat) : List UInt8 :=
  InfoFile.magic ++ [4, 0, 0, 0, 40, 0, 1, 2] ++ Uft.Trunc.leBytes 8 0x1263 ++ Uft.Trunc.leBytes 8 mask ++
    [0, 4, 0, 0, 0, 0, 0, 0]

/-- F8 witness: `info` cut right after `exename:` — `copy_info_str` reads `dst[-1]`;
    the repaired reader reports the failing section instead. -/
theorem c12_prefix_info_key_cut_witness :
    (parseInfo false false (hdr40 1 ++ b "exename:")).isOob = true ∧
    (∀ nl, (parseInfo true nl (hdr40 1 ++ b "exename:")).isOob = false) ∧
    (parseInfo false false (hdr40 1 ++ b "exename:/p\n")).isOob = false := by
  decide +kernel

/-- S2 witness: the `tids=` fill writes `tids[nr_tid]`: a zero-task `info` cut right after
    `taskinfo:tids=`, and an `info` listing more tids than `nr_tid`. -/
theorem c12_prefix_tids_overflow_witness :
    (parseInfo false false (hdr40 128 ++ b "taskinfo:lines=2\ntaskinfo:nr_tid=0\ntaskinfo:tids=")).isOob = true ∧
    (parseInfo false false (hdr40 128 ++ b "taskinfo:lines=2\ntaskinfo:nr_tid=1\ntaskinfo:tids=5,6\n")).isOob = true ∧
    (parseInfo false false (hdr40 128 ++ b "taskinfo:lines=2\ntaskinfo:nr_tid=2\ntaskinfo:tids=5,6\n")).isOob = false := by
  decide +kernel

/-- F8t witness: task.txt cut right after `exename=`, or after a bare tag. -/
theorem c12_prefix_tasktxt_cut_witness :
    (parseTaskTxt false false (b "SESS timestamp=1.2 pid=1 sid=abc exename=")).isOob = true ∧
    (parseTaskTxt false false (b "TASK timestamp=1.2 tid=5 pid=5\nTASK")).isOob = true ∧
    (parseTaskTxt false false (b "SESS timestamp=1.2 pid=1 sid=abc exename=\"")).isOob = false := by
  decide +kernel

/-- S3 witness: `sid=%s` without a width leaves the message struct for a long token. -/
theorem c12_prefix_scanf_width_witness :
    (parseTaskTxt false false (b "SESS timestamp=1.2 pid=1 sid=0123456789012345678901234 exename=\"x\"")).isOob = true ∧
    (parseMap false false (b "400000-402000 r-xpp 00000000 00:00 0 /p\n")).isOob = true := by
  decide +kernel

/-- F8s / F13 witnesses: a `.sym` file cut right after `# path name: `, and a symbol line cut
    right before the type. -/
theorem c12_prefix_symfile_cut_witness :
    (parseSym false false (b "/p") (b "# path name: ")).isOob = true ∧
    (parseSym false false (b "/p") (b "# path name: /p\n0000000000001000 00000100 ")).isOob = true ∧
    (parseSym false false (b "/p") (b "# path name: /p\n0000000000001000 00000100")).isOob = false := by
  decide +kernel

/-- F12 witness: the reader as found, on a map file without `[stack]` line, makes the user
    address 0x401000 a kernel address. -/
theorem c12_prefix_map_kernel_witness :
    (match parseMap false false (b "400000-402000 r-xp 00000000 00:00 0     /p\n") with
     | .ok m => isKernel m 0x401000
     | _ => false) = true ∧
    (match parseMap true false (b "400000-402000 r-xp 00000000 00:00 0     /p\n") with
     | .ok m => isKernel m 0x401000
     | _ => true) = false := by
  decide +kernel

/-- F16 / F17 witnesses: a tid of `info` without TASK/FORK line, an empty symbol name. -/
theorem c12_prefix_null_task_witness :
    (chromeHeader false [.sess 1 101 [] [], .task 2 101 101] [101, 103]).isOob = true ∧
    replayNamesOk false [⟨0x1000, 0x40, 84, []⟩] = false := by
  decide +kernel

/-- F7 (header part) witness: a cut inside the NEXT record's header changes `task->ustack`
    in the code as found (report/graph close open calls at that time); not in the repaired one. -/
theorem c12_prefix_header_leak_witness :
    (readAll false ctxW ((encodeAll recsW).take 153)).1 = (readAll true ctxW ((encodeAll recsW).take 153)).1 ∧
    (readAll false ctxW ((encodeAll recsW).take 153)).2.2 ≠ lastHdr (recsW.take 5) ∧
    (readAll true ctxW ((encodeAll recsW).take 153)).2.2 = lastHdr (recsW.take 5) := by
  decide +kernel

/-- F14 witness: the raw `dump` consumer on the complete 2-character string "ok". -/
theorem c12_prefix_raw_short_string_witness :
    (recsW.map (consumeOk false true ctxW)) = [true, true, true, true, false, true, true] ∧
    (recsW.map (consumeOk true true ctxW)) = [true, true, true, true, true, true, true] := by
  decide +kernel

/-- S4 witness: a watch event whose length field is 4 (< 8): `len -= 8` wraps in uint16_t. -/
theorem c12_prefix_watch_len_witness :
    let bs := encHdr { time := 1, typ := 3, more := true, depth := 0, addr := watchVarId, payload := [] } ++
      leBytes 2 4 ++ zeros 16
    (readAll false ctxW bs).2.1 = .oob ∧ (readAll true ctxW bs).2.1 = .badEvent := by
  decide +kernel

/-!
Part 3: the text files, "exactly as for a copy cut at the last whole record".  A record of a text file
is a line with its newline.  `TextScan.wholeLines s` is `s` cut at its last newline,
`InfoFile.infoWhole s` the same behind the 40-byte binary header of `info`.  The readers with
proposed_fixes/C12-F18i, -F18t, -F18m, -F18s (`nl = true`) read a cut file exactly as they read that
copy, for EVERY byte content and every cut position; the readers as found (`nl = false`) do not
(witnesses below).
-/
open Uft.TextScan (wholeLines joinLines wholeLinesBefore NL)
open Uft.InfoFile (infoWhole)
open Uft.TaskTxt (taskFields hasTask)

/-- `wholeLines s` is `s` cut at its last newline: it is a prefix of `s`, what is behind it holds no
    newline, and it is empty or ends with a newline (so it is the longest such prefix). -/
theorem c12_whole_lines_is_last_newline_cut (s : List UInt8) :
    (∃ t, s = wholeLines s ++ t ∧ t.contains NL = false) ∧
    (wholeLines s = [] ∨ (wholeLines s).getLast? = some NL) ∧
    wholeLines (wholeLines s) = wholeLines s :=
  ⟨TextScan.wholeLines_prefix s, TextScan.wholeLines_last s, TextScan.wholeLines_idem s⟩

/-- C12 last clause for task.txt, the map file and the symbol file: for every byte content `file`,
    every cut position `k` (and with or without the memory-safety fixes), the repaired reader's
    result on the cut file IS its result on the copy cut at the last newline at or before `k`:
    nothing of an incomplete last line is delivered, and it changes nothing. -/
theorem c12_text_cut_equals_last_whole_line (fixed : Bool) (file modname : List UInt8) (k : Nat) :
    parseTaskTxt fixed true (file.take k) = parseTaskTxt fixed true (wholeLines (file.take k)) ∧
    parseMap fixed true (file.take k) = parseMap fixed true (wholeLines (file.take k)) ∧
    parseSym fixed true modname (file.take k) = parseSym fixed true modname (wholeLines (file.take k)) :=
  ⟨(TaskTxt.parseTaskTxt_whole fixed _).symm, (TaskTxt.parseMap_whole fixed _).symm,
   (TaskTxt.parseSym_whole fixed modname _).symm⟩

/-- The same for `info` (40-byte binary header, then lines): every handler of `read_uftrace_info`
    reads the cut file as it reads the copy cut at the last whole line. -/
theorem c12_info_cut_equals_last_whole_line (fixed : Bool) (file : List UInt8) (k : Nat) :
    parseInfo fixed true (file.take k) = parseInfo fixed true (infoWhole (file.take k)) :=
  (InfoFile.parseInfo_whole fixed _).symm

/-- Records view (the analogue of `c12_cut_equals_whole_prefix`): a file written as the lines `ls`
    (each followed by a newline), cut at ANY byte `k`, is read as the file made of the
    `wholeLinesBefore ls k` lines that are completely inside the first `k` bytes. -/
theorem c12_text_cut_equals_whole_records (fixed : Bool) (ls : List (List UInt8)) (modname : List UInt8)
    (hl : ∀ l ∈ ls, l.contains NL = false) (k : Nat) :
    let whole := joinLines (ls.take (wholeLinesBefore ls k))
    parseTaskTxt fixed true ((joinLines ls).take k) = parseTaskTxt fixed true whole ∧
    parseMap fixed true ((joinLines ls).take k) = parseMap fixed true whole ∧
    parseSym fixed true modname ((joinLines ls).take k) = parseSym fixed true modname whole := by
  intro whole
  have h := TextScan.wholeLines_take_joinLines ls hl k
  refine ⟨?_, ?_, ?_⟩
  · rw [← TaskTxt.parseTaskTxt_whole, h]
  · rw [← TaskTxt.parseMap_whole, h]
  · rw [← TaskTxt.parseSym_whole, h]

/-- … and for `info`: header `hdr` (40 bytes) followed by the lines `ls`, cut anywhere behind the
    header. -/
theorem c12_info_cut_equals_whole_records (fixed : Bool) (hdr : List UInt8) (ls : List (List UInt8))
    (hh : hdr.length = 40) (hl : ∀ l ∈ ls, l.contains NL = false) (k : Nat) :
    parseInfo fixed true ((hdr ++ joinLines ls).take (40 + k)) =
      parseInfo fixed true (hdr ++ joinLines (ls.take (wholeLinesBefore ls k))) := by
  have e : (hdr ++ joinLines ls).take (40 + k) = hdr ++ (joinLines ls).take k := by
    rw [← hh, List.take_length_add_append]
  rw [← InfoFile.parseInfo_whole, e, InfoFile.infoWhole_append hh,
    TextScan.wholeLines_take_joinLines ls hl k]

/-- Composition: whatever a command computes from the four parses (the header and system
    information, the task and session list, the maps, the symbols), on a directory whose text files
    are cut at arbitrary bytes it computes exactly what it computes on the copies cut at the last
    whole record.  Together with `c12_commands_prefix` (trace data) this is the last sentence of C12
    for the readers; what the commands do with the results is C06/C08/C15. -/
theorem c12_commands_prefix_text {α : Type} (fixed : Bool)
    (cmd : PR (InfoFile.Hdr × InfoFile.Info) → PR (List TaskTxt.Item) → PR Maps → PR TaskTxt.SymFile → α)
    (info task map sym modname : List UInt8) (ki kt km ks : Nat) :
    cmd (parseInfo fixed true (info.take ki)) (parseTaskTxt fixed true (task.take kt))
        (parseMap fixed true (map.take km)) (parseSym fixed true modname (sym.take ks)) =
    cmd (parseInfo fixed true (infoWhole (info.take ki))) (parseTaskTxt fixed true (wholeLines (task.take kt)))
        (parseMap fixed true (wholeLines (map.take km))) (parseSym fixed true modname (wholeLines (sym.take ks))) := by
  rw [InfoFile.parseInfo_whole, TaskTxt.parseTaskTxt_whole, TaskTxt.parseMap_whole, TaskTxt.parseSym_whole]

/-- With C12-F19.diff the commands that use `task->t` of every task listed in `info`
    (`replay -f task`, `report --task`, `graph --task`) never meet a NULL task, whatever task.txt
    held: every tid is shown, the ones without a TASK/FORK line as nameless tasks. -/
theorem c12_task_fields_total (items : List TaskTxt.Item) (tids : List Int) :
    taskFields true items tids = .ok (tids.map fun t => (t, hasTask items t)) := by
  induction tids with
  | nil => rfl
  | cons t r ih => simp [taskFields, ih]

/-! ### non-vacuity and the F18 / F19 findings as theorems about the readers as found -/

def taskLinesW : List (List UInt8) :=
  [b "SESS timestamp=0.000001000 pid=101 sid=a1b2c3d4e5f60718 exename=\"/synth/prog\"",
   b "TASK timestamp=0.000001001 tid=101 pid=101",
   b "FORK timestamp=0.000002450 pid=103 ppid=101"]

/-- the hypotheses of the records-view theorems are satisfiable, and the counting is the expected
    one: task.txt of the two-task directory of the check, 165 bytes; a cut at byte 160 (inside the
    FORK line) leaves two whole records, a cut at 121 (right behind the TASK line) too -/
example : (∀ l ∈ taskLinesW, l.contains NL = false) ∧ (joinLines taskLinesW).length = 165 ∧
    wholeLinesBefore taskLinesW 160 = 2 ∧ wholeLinesBefore taskLinesW 121 = 2 ∧
    wholeLinesBefore taskLinesW 120 = 1 ∧ wholeLinesBefore taskLinesW 165 = 3 := by
  decide +kernel

/-- … and for `info`: a 40-byte header and the version section; 20 bytes of text hold no whole line,
    22 bytes hold the one line -/
example : (hdr40 8192).length = 40 ∧ (∀ l ∈ [b "uftrace_version:v0.17"], l.contains NL = false) ∧
    wholeLinesBefore [b "uftrace_version:v0.17"] 20 = 0 ∧ wholeLinesBefore [b "uftrace_version:v0.17"] 22 = 1 ∧
    (hdr40 8192 ++ joinLines [b "uftrace_version:v0.17"]).take (40 + 20) = hdr40 8192 ++ b "uftrace_version:v0.1" := by
  decide +kernel

/-- F18t witness: task.txt cut inside the last line.  The reader as found delivers a FORK record
    with parent 10 (the file says `ppid=101`) — a record that is not completely present; the repaired
    reader delivers the two whole records, as for the copy cut behind the TASK line. -/
theorem c12_prefix_tasktxt_line_cut_witness :
    let cut := (joinLines taskLinesW).take 163
    parseTaskTxt true false cut =
      .ok [.sess 1000 101 (b "a1b2c3d4e5f60718") (b "/synth/prog"), .task 1001 101 101, .fork 2450 103 10] ∧
    parseTaskTxt true true cut =
      .ok [.sess 1000 101 (b "a1b2c3d4e5f60718") (b "/synth/prog"), .task 1001 101 101] ∧
    parseTaskTxt true false cut ≠ parseTaskTxt true false (wholeLines cut) := by
  decide +kernel

/-- F18i witness: `info` (here: only the version section) cut inside its last line: the reader as
    found stores the version "v0.1" of a file that says "v0.17"; the repaired reader reports the
    section as unreadable, as for the copy cut at the last whole line. -/
theorem c12_prefix_info_line_cut_witness :
    let cut := hdr40 8192 ++ b "uftrace_version:v0.1"
    ((match parseInfo true false cut with
      | .ok (_, i) => i.get "uftrace_version:" == some (b "v0.1")
      | _ => false) = true) ∧
    ((match parseInfo true false (hdr40 8192 ++ b "uftrace_version:v0.17\n") with
      | .ok (_, i) => i.get "uftrace_version:" == some (b "v0.17")
      | _ => false) = true) ∧
    infoWhole cut = hdr40 8192 ∧
    ((match parseInfo true true cut, parseInfo true false (infoWhole cut) with
      | .err e1, .err e2 => e1 == "info bit 13" && e2 == "info bit 13"
      | _, _ => false) = true) := by
  decide +kernel

/-- F18m witness: the map file cut inside the path of its last line: the reader as found creates a
    mapping for "/synth/pro" (the file says "/synth/prog"); the repaired reader creates none. -/
theorem c12_prefix_map_line_cut_witness :
    let cut := b "400000-402000 r-xp 00000000 00:00 0                          /synth/pro"
    ((match parseMap true false cut with
      | .ok m => m.maps.map (·.path) == [b "/synth/pro"]
      | _ => false) = true) ∧
    ((match parseMap true true cut with
      | .ok m => m.maps.isEmpty
      | _ => false) = true) ∧ wholeLines cut = [] := by
  decide +kernel

/-- F18s witness: the symbol file cut inside the name of its last symbol: the loader as found creates
    the symbol "le" (the file says "leaf"); the repaired loader stops at the last whole line. -/
theorem c12_prefix_symfile_line_cut_witness :
    let cut := b "# path name: /p\n0000000000001000 00000100 T main\n0000000000001200 00000040 T le"
    ((match parseSym true false (b "/p") cut with
      | .ok f => f.lines.map (·.name) == [b "main", b "le"]
      | _ => false) = true) ∧
    ((match parseSym true true (b "/p") cut with
      | .ok f => f.lines.map (·.name) == [b "main"]
      | _ => false) = true) ∧
    parseSym true true (b "/p") cut = parseSym true false (b "/p") (wholeLines cut) := by
  decide +kernel

/-- F19 witness: task.txt cut right behind the TASK line (a whole-record cut), `info` lists the tids
    101 and 103: the commands that use `task->t` (`report --task`, `graph --task`, `replay -f task`)
    dereference the NULL task of 103; with C12-F19.diff 103 is a nameless task. -/
theorem c12_prefix_task_missing_witness :
    (match parseTaskTxt true true ((joinLines taskLinesW).take 121) with
     | .ok items => (taskFields false items [101, 103]).isOob &&
                    (taskFields true items [101, 103] matches .ok [(101, true), (103, false)])
     | _ => false) = true := by
  decide +kernel

end Uft.C12

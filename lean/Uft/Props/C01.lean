import Uft.Gen.Stubs
import Uft.Gen.HookShape
import Uft.Lemmas.Asm
import Uft.Lemmas.StubTactics
/- C01 — Tracing never changes what the traced program computes: the stubs. -/
namespace Uft.C01
open Uft.Asm Uft.Asm.Reg Uft.Gen.Stubs

/-- instructions before the first call / after it -/
def pre : List Instr → List Instr
  | [] => []
  | .call _ :: _ => []
  | i :: r => i :: pre r
def post : List Instr → List Instr
  | [] => []
  | .call _ :: r => r
  | _ :: r => post r

/-- What an entry stub must guarantee to the instrumented function: every
    general register it could observe is unchanged (arguments rdi…r9, rax = the
    variadic vector count, r10 = static chain, r11, all callee-saved), the
    stack pointer is popped by one slot and control returns to the instruction
    after the `call mcount`. -/
def EntryOK (env : Env) (s : List Instr) (m : M) : Prop :=
  (∀ r, r ≠ .rsp → (exec env s m).gpr r = m.gpr r) ∧
  (exec env s m).gpr .rsp = m.gpr .rsp + 8 ∧
  (exec env s m).rip = m.mem (m.gpr .rsp)

/- How the stub theorems are proved.  `exists_frame` gives names `f`, `b` to the stub's frame and to
   the aligned area below it.  A lemma `…_parked` executes the stub up to its call and states the
   outcome as `Parked`; `Parked.call` takes that across the hook, of which only `ABI` is known; the
   theorem then executes the rest of the stub from the state the hook returned.
   In the `…_parked` lemmas `b` is one word below the stub's last push, so that no address has
   offset 0 from `b` unless an instruction writes it as `0(%rsp)`: the read-over-write lemmas
   match addresses of the form `base + literal`. -/

/-- the words an entry stub (`mcount`, `__fentry__`, `__dentry__`) has parked when it calls
    its hook: `f` is its frame (stack pointer at entry − 48) with the six argument registers and,
    above them, the return address; `b + 8` is the aligned stack pointer after the four pushes. -/
def entrySlots (m : M) (f b : Nat) : List (Nat × Nat) :=
  [(b + 8, m.gpr .r11), (b + 16, m.gpr .r10), (b + 24, m.gpr .rax), (b + 32, f),
   (f + 0, m.gpr .r9), (f + 8, m.gpr .r8), (f + 16, m.gpr .rcx), (f + 24, m.gpr .rdx),
   (f + 32, m.gpr .rsi), (f + 40, m.gpr .rdi), (f + 48, m.mem (f + 48))]

/-- `mcount`, `__fentry__` and `__dentry__` are the same code up to the call, except for the
    `lea` that computes the hook's first argument in rdi; rdi has been spilled by then, so
    what that instruction reads does not matter. -/
theorem entry_parked (env : Env) (m : M) (s : List Instr) (k : Nat) (r : Reg) (f b : Nat)
    (hs : pre s = (pre mcount).set 8 (.lea k r .rdi)) (hf : m.gpr .rsp = f + 48)
    (ha : align16 f = b + 40) (hb : b + 40 ≤ f) :
    Parked m (exec env (pre s) m) (b + 8) (m.gpr .rsp + 8) (entrySlots m f b) := by
  rw [hs]
  simp (decide := true) only [Parked, entrySlots, calleeSaved, List.forall_mem_cons,
    List.not_mem_nil, false_implies, implies_true, and_true, true_and, pre, mcount,
    List.set_cons_succ, List.set_cons_zero, exec_cons, exec_nil, step, gpr_setR_self, gpr_setR_ne,
    gpr_setM, mem_setR, hf, ha, Nat.reduceSubDiff, mem_setM_self, mem_setM_add_ne,
    mem_setM_below (h := hb)]
  omega

/-- from the call on `mcount` and `__fentry__` are the same code, which pops and reloads what
    `entrySlots` holds -/
theorem entryOK_of_shape (env : Env) (m : M) (s : List Instr) (c : String) (k : Nat) (r : Reg)
    (hpre : pre s = (pre mcount).set 8 (.lea k r .rdi)) (hs : s = pre s ++ .call c :: post mcount)
    (hsp : m.gpr .rsp ≥ 4096) (h : ABI (env.callee c) (m.gpr .rsp + 8)) : EntryOK env s m := by
  obtain ⟨f, b, hf, ha, hb, -⟩ := exists_frame (m.gpr .rsp) 48 40 (by omega)
  obtain ⟨hrsp, -, hmem, hsaved⟩ := (entry_parked env m s k r f b hpre hf ha hb).call h
  simp only [entrySlots, calleeSaved, List.forall_mem_cons, List.not_mem_nil, false_implies,
    implies_true, and_true] at hmem hsaved
  unfold EntryOK
  rw [exec_call env s (pre s) (post mcount) c m hs]
  generalize env.callee c (exec env (pre s) m) = Q at *
  -- the rest of the stub is executed once, from the state `Q` the hook returns; the goals below
  -- only read registers of the result
  generalize hR : exec env (post mcount) Q = R
  simp (decide := true) only [post, mcount, exec_cons, exec_nil, step, gpr_setR_self, gpr_setR_ne,
    mem_setR, hrsp, hmem, Nat.add_assoc, Nat.reduceAdd] at hR
  subst hR
  refine ⟨fun r hr => ?_, ?_, ?_⟩
  · cases r <;>
      simp (decide := true) only [gpr_setR_self, gpr_setR_ne, hsaved] at hr ⊢
  · simp only [gpr_setR_self, hf]
  · simp only [hf]

theorem c01_mcount_stub (env : Env) (m : M) (hsp : m.gpr .rsp ≥ 4096)
    (h : ABI (env.callee "mcount_entry") (m.gpr .rsp + 8)) : EntryOK env mcount m :=
  entryOK_of_shape env m mcount "mcount_entry" 8 .rbp rfl rfl hsp h

theorem c01_fentry_stub (env : Env) (m : M) (hsp : m.gpr .rsp ≥ 4096)
    (h : ABI (env.callee "mcount_entry") (m.gpr .rsp + 8)) : EntryOK env fentry m :=
  entryOK_of_shape env m fentry "mcount_entry" 56 .rsp rfl rfl hsp h

/-- What an exit stub must guarantee to the caller of the traced function:
    the registers in `regs` and both return vector registers are exactly what
    the traced function left there, the stack pointer is where a plain `ret`
    would have left it, and control continues at the address the C exit hook
    returned (the original return address, see `Shadow`). -/
def ExitOK (env : Env) (s : List Instr) (sym : String) (regs : List Reg) (m : M) : Prop :=
  (∀ r ∈ regs, (exec env s m).gpr r = m.gpr r) ∧
  ((exec env s m).xlo 0 = m.xlo 0 ∧ (exec env s m).xhi 0 = m.xhi 0 ∧
   (exec env s m).xlo 1 = m.xlo 1 ∧ (exec env s m).xhi 1 = m.xhi 1) ∧
  (exec env s m).gpr .rsp = m.gpr .rsp ∧
  (exec env s m).rip = (env.callee sym (exec env (pre s) m)).gpr .rax

/-- after an external (PLT) call the caller may only rely on the return
    registers, on callee-saved registers, and uftrace also keeps rdi -/
def pltRegs : List Reg := [.rax, .rbx, .rdx, .rdi, .rbp, .r12, .r13, .r14, .r15]

def allButRsp : List Reg :=
  [.rax, .rbx, .rcx, .rdx, .rsi, .rdi, .rbp, .r8, .r9, .r10, .r11, .r12, .r13, .r14, .r15]

/-- an exit stub keeps its frame base `f` in the word at the aligned stack pointer `b` -/
theorem mcount_return_parked (env : Env) (m : M) (f b : Nat) (hf : m.gpr .rsp = f + 112)
    (ha : align16 f = b + 16) (hb : b + 16 ≤ f) :
    Parked m (exec env (pre mcount_return) m) b (m.gpr .rsp)
      [(b + 0, f), (f + 0, m.gpr .rax), (f + 8, m.gpr .rdx), (f + 16, m.xlo 0), (f + 24, m.xhi 0),
       (f + 32, m.gpr .rcx), (f + 40, m.gpr .rsi), (f + 48, m.gpr .rdi), (f + 56, m.gpr .r8),
       (f + 64, m.gpr .r9), (f + 72, m.gpr .r10), (f + 80, m.gpr .r11), (f + 88, m.xlo 1),
       (f + 96, m.xhi 1)] := by
  simp (decide := true) only [Parked, calleeSaved, List.forall_mem_cons, List.not_mem_nil,
    false_implies, implies_true, and_true, true_and, pre, mcount_return, exec_cons, exec_nil, step,
    gpr_setR_self, gpr_setR_ne, gpr_setM, mem_setR, hf, ha, Nat.reduceSubDiff, Nat.add_assoc,
    Nat.reduceAdd, mem_setM_self, mem_setM_add_ne, mem_setM_below (h := hb), xlo_setR, xlo_setM,
    xhi_setR, xhi_setM]
  omega

theorem c01_mcount_return_stub (env : Env) (m : M) (hsp : m.gpr .rsp ≥ 4096)
    (h : ABI (env.callee "mcount_exit") (m.gpr .rsp)) :
    ExitOK env mcount_return "mcount_exit" allButRsp m := by
  obtain ⟨f, b, hf, ha, hb, -⟩ := exists_frame (m.gpr .rsp) 112 16 (by omega)
  obtain ⟨hrsp, -, hmem, hsaved⟩ := (mcount_return_parked env m f b hf ha hb).call h
  simp only [calleeSaved, List.forall_mem_cons, List.not_mem_nil, false_implies, implies_true,
    and_true] at hmem hsaved
  unfold ExitOK
  rw [exec_call env mcount_return (pre mcount_return) (post mcount_return) "mcount_exit" m rfl]
  generalize env.callee "mcount_exit" (exec env (pre mcount_return) m) = Q at *
  generalize hR : exec env (post mcount_return) Q = R
  simp (decide := true) only [post, mcount_return, exec_cons, exec_nil, step, gpr_setR_self,
    gpr_setR_ne, gpr_setM, gpr_setX, mem_setR, mem_setX, mem_setM_self, mem_setM_add_ne, hrsp,
    hmem, Nat.add_assoc, Nat.reduceAdd] at hR
  subst hR
  refine ⟨fun r hr => ?_, ?_, ?_, ?_⟩
  · cases r <;>
      simp (decide := true) only [gpr_setR_self, gpr_setR_ne, gpr_setM, gpr_setX, hsaved] at hr ⊢
  · simp (decide := true) only [xlo_setR, xhi_setR, xlo_setX, xhi_setX, if_true, if_false, and_self]
  · simp only [gpr_setR_self, hf]
  · rfl

/-- `dynamic_return` is instruction for instruction `mcount_return` -/
theorem c01_dynamic_return_stub (env : Env) (m : M) (hsp : m.gpr .rsp ≥ 4096)
    (h : ABI (env.callee "mcount_exit") (m.gpr .rsp)) :
    ExitOK env dynamic_return "mcount_exit" allButRsp m :=
  c01_mcount_return_stub env m hsp h

theorem plthook_return_parked (env : Env) (m : M) (f b : Nat) (hf : m.gpr .rsp = f + 72)
    (ha : align16 f = b + 16) (hb : b + 16 ≤ f) :
    Parked m (exec env (pre plthook_return) m) b (m.gpr .rsp)
      [(b + 0, f), (f + 0, m.gpr .rax), (f + 8, m.gpr .rdx), (f + 16, m.xlo 0), (f + 24, m.xhi 0),
       (f + 32, m.gpr .rdi), (f + 40, m.xlo 1), (f + 48, m.xhi 1)] := by
  simp (decide := true) only [Parked, calleeSaved, List.forall_mem_cons, List.not_mem_nil,
    false_implies, implies_true, and_true, true_and, pre, plthook_return, exec_cons, exec_nil,
    step, gpr_setR_self, gpr_setR_ne, gpr_setM, mem_setR, hf, ha, Nat.reduceSubDiff, Nat.add_assoc,
    Nat.reduceAdd, mem_setM_self, mem_setM_add_ne, mem_setM_below (h := hb), xlo_setR, xlo_setM,
    xhi_setR, xhi_setM]
  omega

theorem c01_plthook_return_stub (env : Env) (m : M) (hsp : m.gpr .rsp ≥ 4096)
    (h : ABI (env.callee "plthook_exit") (m.gpr .rsp)) :
    ExitOK env plthook_return "plthook_exit" pltRegs m := by
  obtain ⟨f, b, hf, ha, hb, -⟩ := exists_frame (m.gpr .rsp) 72 16 (by omega)
  obtain ⟨hrsp, -, hmem, hsaved⟩ := (plthook_return_parked env m f b hf ha hb).call h
  simp only [calleeSaved, List.forall_mem_cons, List.not_mem_nil, false_implies, implies_true,
    and_true] at hmem hsaved
  unfold ExitOK
  rw [exec_call env plthook_return (pre plthook_return) (post plthook_return) "plthook_exit" m rfl]
  generalize env.callee "plthook_exit" (exec env (pre plthook_return) m) = Q at *
  generalize hR : exec env (post plthook_return) Q = R
  simp (decide := true) only [post, plthook_return, exec_cons, exec_nil, step, gpr_setR_self,
    gpr_setR_ne, gpr_setM, gpr_setX, mem_setR, mem_setX, mem_setM_self, mem_setM_add_ne, hrsp,
    hmem, Nat.add_assoc, Nat.reduceAdd] at hR
  subst hR
  refine ⟨fun r hr => ?_, ?_, ?_, ?_⟩
  · cases r <;>
      simp (decide := true) only [gpr_setR_self, gpr_setR_ne, gpr_setM, gpr_setX, hsaved] at hr ⊢
  · simp (decide := true) only [xlo_setR, xhi_setR, xlo_setX, xhi_setX, if_true, if_false, and_self]
  · simp only [gpr_setR_self, hf]
  · rfl

/-- What the PLT hook stub guarantees to the library function (or to the
    dynamic linker's resolver) it forwards to: argument registers, rax and the
    callee-saved registers are unchanged; if the C hook returned 0 control goes
    to the resolver with the two PLT words still on the stack, otherwise to the
    address the hook returned with those two words popped. -/
def PltOK (env : Env) (m : M) : Prop :=
  let Q := env.callee "plthook_entry" (exec env (pre plt_hooker) m)
  (∀ r ∈ [Reg.rdi, .rsi, .rdx, .rcx, .r8, .r9, .rax, .rbx, .rbp, .r12, .r13, .r14, .r15],
      (exec env plt_hooker m).gpr r = m.gpr r) ∧
  (Q.gpr .rax = 0 → (exec env plt_hooker m).rip = env.resolver ∧ (exec env plt_hooker m).gpr .rsp = m.gpr .rsp) ∧
  (Q.gpr .rax ≠ 0 → (exec env plt_hooker m).rip = Q.gpr .rax ∧ (exec env plt_hooker m).gpr .rsp = m.gpr .rsp + 16)

theorem plt_hooker_parked (env : Env) (m : M) (f b : Nat) (hf : m.gpr .rsp = f + 48)
    (ha : align16 f = b + 24) (hb : b + 24 ≤ f) :
    Parked m (exec env (pre plt_hooker) m) (b + 8) (m.gpr .rsp)
      [(b + 8, m.gpr .rax), (b + 16, f), (f + 0, m.gpr .r9), (f + 8, m.gpr .r8), (f + 16, m.gpr .rcx),
       (f + 24, m.gpr .rdx), (f + 32, m.gpr .rsi), (f + 40, m.gpr .rdi)] := by
  simp (decide := true) only [Parked, calleeSaved, List.forall_mem_cons, List.not_mem_nil,
    false_implies, implies_true, and_true, true_and, pre, plt_hooker, exec_cons, exec_nil, step,
    gpr_setR_self, gpr_setR_ne, gpr_setM, mem_setR, hf, ha, Nat.reduceSubDiff, mem_setM_self,
    mem_setM_add_ne, mem_setM_below (h := hb)]
  omega

theorem c01_plt_hooker_stub (env : Env) (m : M) (hsp : m.gpr .rsp ≥ 4096)
    (h : ABI (env.callee "plthook_entry") (m.gpr .rsp)) : PltOK env m := by
  obtain ⟨f, b, hf, ha, hb, -⟩ := exists_frame (m.gpr .rsp) 48 24 (by omega)
  obtain ⟨hrsp, -, hmem, hsaved⟩ := (plt_hooker_parked env m f b hf ha hb).call h
  simp only [calleeSaved, List.forall_mem_cons, List.not_mem_nil, false_implies, implies_true,
    and_true] at hmem hsaved
  unfold PltOK
  rw [exec_call env plt_hooker (pre plt_hooker) (post plt_hooker) "plthook_entry" m rfl]
  generalize env.callee "plthook_entry" (exec env (pre plt_hooker) m) = Q at *
  generalize hR : exec env (post plt_hooker) Q = R
  simp (decide := true) only [post, plt_hooker, exec_cons, exec_nil, step, gpr_setR_self,
    gpr_setR_ne, mem_setR, hrsp, hmem, Nat.add_assoc, Nat.reduceAdd] at hR
  subst hR
  refine ⟨fun r hr => ?_, fun h0 => ?_, fun h0 => ?_⟩
  · split <;> cases r <;>
      simp (decide := true) only [gpr_setR_self, gpr_setR_ne, hsaved] at hr ⊢
  · rw [if_pos h0]
    simp (decide := true) only [gpr_setR_self, gpr_setR_ne, hf, and_self]
  · rw [if_neg h0]
    simp only [gpr_setR_self, hf, Nat.add_assoc, Nat.reduceAdd, and_self]

/-- `__dentry__` (entry of dynamically patched functions): like the other
    entry stubs, but control continues at the address `mcount_find_code`
    returns (the saved copy of the patched instructions). -/
def DentryOK (env : Env) (m : M) (dest : Nat) : Prop :=
  (∀ r, r ≠ .rsp → (exec env dentry m).gpr r = m.gpr r) ∧
  (exec env dentry m).gpr .rsp = m.gpr .rsp + 8 ∧
  (exec env dentry m).rip = dest

/-- instructions between the two calls of `__dentry__` -/
def mid : List Instr := pre (post dentry)

theorem c01_dentry_stub (env : Env) (m : M) (hsp : m.gpr .rsp ≥ 4096)
    (h1 : ABI (env.callee "mcount_entry") (m.gpr .rsp + 8))
    (h2 : ABI (env.callee "mcount_find_code") (m.gpr .rsp + 8)) :
    DentryOK env m
      ((env.callee "mcount_find_code" (exec env mid (env.callee "mcount_entry" (exec env (pre dentry) m)))).gpr .rax) := by
  obtain ⟨f, b, hf, ha, hb, -⟩ := exists_frame (m.gpr .rsp) 48 40 (by omega)
  have hQ1 := (entry_parked env m dentry 56 .rsp f b rfl hf ha hb).call h1
  unfold DentryOK
  rw [exec_call env dentry (pre dentry) (post dentry) "mcount_entry" m rfl,
    exec_call env (post dentry) mid (post (post dentry)) "mcount_find_code" _ rfl]
  generalize env.callee "mcount_entry" (exec env (pre dentry) m) = Q1 at *
  -- between the calls only rdx and rdi are written
  have hQ2 : Parked m (env.callee "mcount_find_code" (exec env mid Q1)) (b + 8) (m.gpr .rsp + 8)
      (entrySlots m f b) :=
    ((hQ1.setR .rdx _ (by decide) (by decide)).setR .rdi _ (by decide) (by decide)).call h2
  generalize env.callee "mcount_find_code" (exec env mid Q1) = Q2 at *
  obtain ⟨hrsp, -, hmem, hsaved⟩ := hQ2
  simp only [entrySlots, calleeSaved, List.forall_mem_cons, List.not_mem_nil, false_implies,
    implies_true, and_true] at hmem hsaved
  generalize hR : exec env (post (post dentry)) Q2 = R
  simp (decide := true) only [post, dentry, exec_cons, exec_nil, step, gpr_setR_self, gpr_setR_ne,
    gpr_setM, mem_setR, mem_setM_self, mem_setM_add_ne, mem_setM_above (h := hb), hrsp, hmem,
    Nat.add_assoc, Nat.reduceAdd] at hR
  subst hR
  refine ⟨fun r hr => ?_, ?_, ?_⟩
  · cases r <;>
      simp (decide := true) only [gpr_setR_self, gpr_setR_ne, gpr_setM, hsaved] at hr ⊢
  · simp only [gpr_setR_self, hf]
  · rfl

/-! ### Finding F3 (fixed): an exit stub that saves xmm0 only -/

/-- `mcount_return` as it was before the repair (96-byte frame, no xmm1 slot) -/
def mcount_return_prefix : List Instr := [
  .subi 96 .rsp, .store .r11 80 .rsp, .store .r10 72 .rsp, .store .r9 64 .rsp, .store .r8 56 .rsp,
  .store .rdi 48 .rsp, .store .rsi 40 .rsp, .store .rcx 32 .rsp, .storex 0 16 .rsp, .store .rdx 8 .rsp,
  .store .rax 0 .rsp, .mov .rsp .rdi, .and16 .rsp, .subi 16 .rsp, .store .rdi 0 .rsp,
  .call "mcount_exit",
  .load 0 .rsp .rsp, .store .rax 88 .rsp, .load 0 .rsp .rax, .load 8 .rsp .rdx, .loadx 16 .rsp 0,
  .load 32 .rsp .rcx, .load 40 .rsp .rsi, .load 48 .rsp .rdi, .load 56 .rsp .r8, .load 64 .rsp .r9,
  .load 72 .rsp .r10, .load 80 .rsp .r11, .addi 88 .rsp, .ret ]

/-- an ABI-conforming exit hook that uses a vector register (as libc's string
    functions do on a buffer switch) -/
def vecClobber : Env := { callee := fun _ m => setX m 1 0 0, resolver := 0 }

theorem vecClobber_abi (hi : Nat) : ABI (vecClobber.callee "mcount_exit") hi := by
  constructor <;> intros <;> rfl

def m0 : M := { gpr := fun _ => 8192, xlo := fun _ => 7, xhi := fun _ => 9, mem := fun _ => 0, rip := 0 }

/-- F3 witness: with the old stub the second FP return register is lost … -/
theorem c01_prefix_xmm1_witness :
    (exec vecClobber mcount_return_prefix m0).xlo 1 ≠ m0.xlo 1 ∧
    (exec vecClobber mcount_return_prefix m0).xlo 0 = m0.xlo 0 := by
  decide

/-- … and with the current stub (regenerated from the source) it is kept, for the same callee. -/
example : (exec vecClobber mcount_return m0).xlo 1 = m0.xlo 1 := by decide

/-- Entry stubs never touch vector registers themselves: if the C entry hook
    does not (libmcount's own code is built with -mgeneral-regs-only; its libc
    calls on slow paths are the part that is not provable, see DESIGN C01), the
    floating-point arguments xmm0–7 reach the traced function unchanged. -/
theorem c01_entry_vec_partial (env : Env) (m : M) (i : Nat)
    (hv : NoVec (env.callee "mcount_entry")) :
    ((exec env mcount m).xlo i = m.xlo i ∧ (exec env mcount m).xhi i = m.xhi i) ∧
    ((exec env fentry m).xlo i = m.xlo i ∧ (exec env fentry m).xhi i = m.xhi i) := by
  refine ⟨exec_keepsVec env mcount ?_ m i, exec_keepsVec env fentry ?_ m i⟩
  · simp only [mcount, List.forall_mem_cons, Instr.KeepsVec, hv, List.not_mem_nil, false_implies,
      implies_true, and_self]
  · simp only [fentry, List.forall_mem_cons, Instr.KeepsVec, hv, List.not_mem_nil, false_implies,
      implies_true, and_self]

/-- every exported C hook saves `errno` before doing anything else and restores
    it before every return (shape facts regenerated from the sources) -/
theorem c01_hooks_preserve_errno :
    ∀ h ∈ Uft.Gen.HookShape.hooks, h.found = true ∧ h.savesErrnoFirst = true ∧ h.restoresBeforeReturn = true := by
  decide

/-! ### ABI side conditions of the stubs themselves

The machine model addresses memory by 8-byte words.  That is exact only if every
memory operand of a stub is a multiple of 8 away from the (8-aligned) stack pointer:
`c01_stub_offsets_word_aligned` checks it on the regenerated instruction lists (a
`movdqu %xmm1, 84(%rsp)` that would partially overwrite a neighbouring slot is
rejected here, not silently accepted).  And the SysV ABI wants the stack pointer
16-byte aligned at every `call`: `c01_stub_calls_aligned`. -/

def Instr.offsetsOk : Instr → Bool
  | .subi n _ | .addi n _ => n % 8 == 0
  | .store _ off _ | .load off _ _ | .lea off _ _ => off % 8 == 0
  | .storex _ off _ | .loadx off _ _ => off % 8 == 0
  | _ => true

def allStubs : List (List Instr) :=
  [mcount, fentry, dentry, mcount_return, dynamic_return, plthook_return, plt_hooker]

theorem c01_stub_offsets_word_aligned : ∀ s ∈ allStubs, s.all Instr.offsetsOk = true := by
  decide

/-- At the `call` of every stub the stack pointer is 16-byte aligned, whatever its value at the
    stub's entry (each stub aligns it itself before pushing an even number of words). -/
theorem c01_stub_calls_aligned (env : Env) (m : M) (hsp : m.gpr .rsp ≥ 4096) :
    (exec env (pre mcount) m).gpr .rsp % 16 = 0 ∧
    (exec env (pre fentry) m).gpr .rsp % 16 = 0 ∧
    (exec env (pre dentry) m).gpr .rsp % 16 = 0 ∧
    (exec env (pre plt_hooker) m).gpr .rsp % 16 = 0 ∧
    (exec env (pre mcount_return) m).gpr .rsp % 16 = 0 ∧
    (exec env (pre dynamic_return) m).gpr .rsp % 16 = 0 ∧
    (exec env (pre plthook_return) m).gpr .rsp % 16 = 0 := by
  obtain ⟨f, b, hf, ha, hb, hb16⟩ := exists_frame (m.gpr .rsp) 48 40 (by omega)
  obtain ⟨f', b', hf', ha', hb', hb16'⟩ := exists_frame (m.gpr .rsp) 48 24 (by omega)
  obtain ⟨g, c, hg, hc, hcg, hc16⟩ := exists_frame (m.gpr .rsp) 112 16 (by omega)
  obtain ⟨k, d, hk, hd, hdk, hd16⟩ := exists_frame (m.gpr .rsp) 72 16 (by omega)
  have e1 := (entry_parked env m mcount 8 .rbp f b rfl hf ha hb).1
  have e2 := (entry_parked env m fentry 56 .rsp f b rfl hf ha hb).1
  have e3 := (entry_parked env m dentry 56 .rsp f b rfl hf ha hb).1
  have e4 := (plt_hooker_parked env m f' b' hf' ha' hb').1
  have e5 := (mcount_return_parked env m g c hg hc hcg).1
  have e6 : (exec env (pre dynamic_return) m).gpr .rsp = c := e5
  have e7 := (plthook_return_parked env m k d hk hd hdk).1
  rw [e1, e2, e3, e4, e5, e6, e7]
  omega

end Uft.C01

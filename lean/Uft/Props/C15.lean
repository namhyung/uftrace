import Uft.Lemmas.Json
import Uft.Lemmas.Graph
/-
C15 — Graph, flame-graph and Chrome exports are faithful projections of the trace.
Property theorems only; helpers are in Lemmas/Json.lean and Lemmas/Graph.lean.

Bytes are `Nat` values.  `fixed = true` is the code with the repairs (findings F9
comm/cmdline escaping, F9b separator after the metadata lines, F9c flame count digits,
S3 name_buf bound); `fixed = false` is the code before them.  The chrome printers take a
`Json.Fix`: `main` = F9, F9b, S3 (in /repo), `abuf` = C15-ARGBUF (`print_args` / `print_char`
never leave the buffer they are given), `asym` = C15-ARGSYM (the symbol name of a pointer
argument goes through the escaper in JSON mode).  `Fix.all` is the repaired code, `Fix.repo`
the code with the `main` repairs only, `Fix.none` the code before every repair.
-/
namespace Uft.C15
open Uft.Json Uft.Graph

/-! ## escaping -/

/-- ∀ byte strings, the output of `print_json_escaped_char` over the string is a valid
    JSON string body (ASCII only, no raw control byte, every backslash starts a legal
    escape, no bare double quote). -/
theorem c15_escape_valid (bs : List Nat) : validBody (escapeStr bs) = true := by
  simp [validBody, escapeStr_body]

/-- the same for bytes given as `UInt8` -/
theorem c15_escape_valid_bytes (bs : List UInt8) : validBody (escapeStr (bs.map (·.toNat))) = true :=
  c15_escape_valid _

/-- the repaired footer escaping gives a valid string body for every stored command line -/
theorem c15_cmdline_escape_valid (bs : List Nat) : validBody (escCmdline bs) = true := by
  simp [validBody, escCmdline_body]

/-- S3 repaired: with the guard `if (len < 6) break;` no store of the escape loop (nor the
    final NUL) leaves `name_buf[2048]`, the buffer holds the escaped form of a prefix of the
    name (cut between two escapes), which is a valid string body; names whose escaped form
    has at most 2041 bytes are not cut at all. -/
theorem c15_name_buf_safe (name : List Nat) :
    (escapeName true name).oob = false ∧ (escapeName true name).term = false ∧
    validBody (escapeName true name).out = true ∧
    (∃ k, (escapeName true name).out = escapeStr (name.take k)) ∧
    ((escapeStr name).length ≤ 2041 → (escapeName true name).out = escapeStr name) := by
  obtain ⟨hi, k, hk⟩ := nameLoop_fixed name nbInit nbInit_fits
  have hk' : (nameLoop true nbInit name).out = escapeStr (name.take k) := by simpa [nbInit] using hk
  have hlen := hi.len
  refine ⟨?_, ?_, ?_, ⟨k, ?_⟩, ?_⟩
  · simp only [escapeName, hi.oob, cap, Bool.false_or]; exact decide_eq_false (by omega)
  · simpa [escapeName] using hi.term
  · simp [escapeName, hk', validBody, escapeStr_body]
  · simpa [escapeName] using hk'
  · intro h
    have := (nameLoop_fits true name nbInit nbInit_fits (Nat.lt_succ_of_le (Nat.add_le_add_right h 5))).2
    simpa [escapeName, nbInit] using this

/-- the unrepaired loop is right as long as the escaped name has at most 2046 bytes -/
theorem c15_name_buf_short_ok (name : List Nat) (h : (escapeStr name).length ≤ 2046) :
    (escapeName false name).oob = false ∧ (escapeName false name).out = escapeStr name := by
  obtain ⟨hi, ho⟩ := nameLoop_fits false name nbInit nbInit_fits (Nat.lt_succ_of_le h)
  have hlen := hi.len
  constructor
  · simp only [escapeName, hi.oob, cap, Bool.false_or]; exact decide_eq_false (by omega)
  · simpa [escapeName, nbInit] using ho

example : (escapeStr b!"a\"b\\c").length ≤ 2046 := by decide

/-- S3 witness, for every name: when the escaped name has 2048 bytes or more, the code as
    it is stores outside `name_buf` (at the latest the terminating NUL). -/
theorem c15_prefix_name_buf_overflow_witness (name : List Nat) (h : 2048 ≤ (escapeStr name).length) :
    (escapeName false name).oob = true := by
  have hp := nameLoop_false_pos name nbInit
  have : cap ≤ (nameLoop false nbInit name).pos := by rw [hp]; simp only [nbInit, cap]; omega
  simp [escapeName, this]

set_option maxRecDepth 100000 in
example : 2048 ≤ (escapeStr (List.replicate 2048 97)).length := by
  rw [escapeStr_replicate]
  decide

/-- S3 witness inside the buffer: 2045 letters and a double quote escape to 2047 bytes; the
    last `vsnprintf` has room for one character, so the name ends in a lone backslash —
    no store is out of bounds, and the text is not a JSON string body (it swallows the
    closing quote). -/
theorem c15_prefix_name_buf_cut_witness :
    (escapeName false (List.replicate 2045 97 ++ [34])).oob = false ∧
    validBody (escapeName false (List.replicate 2045 97 ++ [34])).out = false :=
  escapeName_prefix_cut _ (escapeStr_replicate 2045 97)

/-! ## the chrome document -/

/-- FULL (repaired code): `dump --chrome` is a valid JSON text for every executable name,
    command line, task list and event list — whatever bytes occur in names, comm, the
    command line, string / char arguments and return values and the names of the symbols that
    pointer arguments resolve to, with or without events, however long the argument list is.
    Hypotheses: the info file has the CMDLINE bit (always written by `uftrace record`), the
    two build/run constants that are printed with %s (UFTRACE_VERSION, ctime() of the info
    file) are string bodies, and so is what printf produces for the numeric formats (`raw`
    values: `Ev.ok`; no condition on any other kind of value). -/
theorem c15_chrome_valid_with_args (d : Doc) (c : List Nat) (hc : d.cmdline = some c)
    (hv : validBody d.version = true) (hd : validBody d.date = true) (hok : ∀ e ∈ d.evs, e.ok) :
    validJson (chromeOutput Fix.all d) = true := by
  have h := run_trans (run_trans (header_run (commOf d.exename) d.tasks) (evs_run d.evs _ hok))
    (footer_run _ d.version d.date c hv hd)
  have hm : Fix.all.main = true := rfl
  simp only [validJson, chromeOutput, hm, header, ↓reduceIte, hc, h]
  rfl

/-- records without payload (`frs->more = 0`): no hypothesis on values -/
theorem c15_chrome_valid (d : Doc) (c : List Nat) (hc : d.cmdline = some c)
    (hv : validBody d.version = true) (hd : validBody d.date = true)
    (hna : ∀ e ∈ d.evs, e.args = none) :
    validJson (chromeOutput Fix.all d) = true :=
  c15_chrome_valid_with_args d c hc hv hd (fun e he vs h => by rw [hna e he] at h; cases h)

/-- C15-ARGBUF repaired: whatever the values are (any bytes, any printf text, any length,
    any number of values, symbol names escaped or not) `get_argspec_string` stores nothing
    outside `spec_buf[2048]`, not even the terminating NUL, and leaves a NUL-terminated
    string of at most 2047 bytes. -/
theorem c15_args_buf_safe (asym retval : Bool) (vs : List ArgVal) :
    (argString true asym retval vs).oob = false ∧ (argString true asym retval vs).term = false ∧
    (argString true asym retval vs).out.length ≤ 2047 := by
  obtain ⟨a, b, c, _⟩ := argString_gen (ok := False) asym retval vs (fun h => h.elim) (fun h => h.elim)
  exact ⟨a, b, c⟩

/-- and as long as the complete text "(v1, v2, …)" has at most 2046 bytes all of it is printed -/
theorem c15_args_complete (vs : List ArgVal) (hl : (argFull false vs).length ≤ 2046) :
    (argString true true false vs).out = argFull false vs :=
  argString_fits true vs (by omega)

example : (argFull false [.str b!"a\"b\n" false, .chr 0, .sym b!"f\\", .raw b!"0x1f", .str [255, 255, 255, 255] true]) =
    b!"(\\\"a\\\"b\\\\n\\\", '\\\\x00', &f\\\\, 0x1f, NULLs)" := by decide

/-- C15-ARGBUF + C15-ARGSYM repaired: the argument / return value text is a JSON string body
    for every byte content of strings, chars and symbol names -/
theorem c15_args_body_valid (retval : Bool) (vs : List ArgVal) (hv : ∀ v ∈ vs, v.ok) :
    validBody (argString true true retval vs).out = true := by
  simp [validBody, argString_body retval vs hv]

/-- the event object with arguments / a return value, as it stands in the "traceEvents" array,
    is accepted by the recogniser for every byte content (the state before and after is "a
    value of the array has ended") -/
theorem c15_args_json_valid (e : Ev) (hok : e.ok) :
    run ⟨.val, [.arr, .obj]⟩ (evText Fix.all e) = some ⟨.after, [.arr, .obj]⟩ :=
  evText_run e hok

/-- the same as a closed JSON text: the array with that one event -/
theorem c15_args_json_valid_doc (e : Ev) (hok : e.ok) :
    validJson (b!"{\"traceEvents\":[\n" ++ evText Fix.all e ++ b!"\n]}") = true := by
  have h := run_trans (s := init) (a := b!"{\"traceEvents\":[\n") rfl (elem_run false rfl (c15_args_json_valid e hok))
  have h := run_trans h (b := b!"\n]}") rfl
  simp only [validJson, List.nil_append, Bool.false_eq_true, ↓reduceIte] at h ⊢
  rw [h]
  rfl

/-- non-vacuity: an event with hostile arguments meets `Ev.ok` -/
example : (⟨true, 1, 1, b!"main", 2000, some [.str b!"a\"\\\x01" true, .chr 34, .sym b!"q\"x", .raw b!"-12"]⟩ : Ev).ok := by
  decide

set_option maxRecDepth 100000 in
/-- non-vacuity of `c15_chrome_valid_with_args`: a document with hostile values meets its hypotheses -/
example :
    let d : Doc := { exename := b!"/synth/q\"x", version := b!"v0.17", date := b!"Mon Sep 21 14:13:20 2026",
                     cmdline := some b!"uftrace record ./q\\\"x", tasks := [⟨1, 1⟩],
                     evs := [⟨true, 1, 1, b!"f", 2000, some [.str b!"a\"\\\x01" true, .chr 34, .sym b!"q\"x"]⟩,
                             ⟨false, 1, 1, b!"f", 3000, some [.str [255, 255, 255, 255] false]⟩] }
    d.cmdline = some b!"uftrace record ./q\\\"x" ∧ validBody d.version = true ∧ validBody d.date = true ∧
    (∀ e ∈ d.evs, e.ok) ∧ validJson (chromeOutput Fix.all d) = true ∧ validJson (chromeOutput Fix.repo d) = false := by
  intro d
  have hv : validBody d.version = true := by decide
  have hd : validBody d.date = true := by decide
  have hok : ∀ e ∈ d.evs, e.ok := by decide
  exact ⟨rfl, hv, hd, hok, c15_chrome_valid_with_args d _ rfl hv hd hok, by decide +kernel⟩

/-- and no event name leaves the name buffer, no argument string the argument buffer -/
theorem c15_chrome_no_overflow (d : Doc) : chromeOob Fix.all d = false := by
  simp only [chromeOob, List.any_eq_false]
  intro e _
  have h2 : argsOob Fix.all e = false := by
    unfold argsOob
    cases e.args with
    | none => rfl
    | some vs => exact (c15_args_buf_safe _ _ vs).1
  have hm : Fix.all.main = true := rfl
  simp [hm, (c15_name_buf_safe e.name).1, h2]

example : validBody b!" ( x86_64 dwarf python3 luajit tui perf sched kernel )" = true ∧
    validBody b!"Mon Sep 21 14:13:20 2026" = true := by decide

/-- F9 witness (comm): executable `q"x`, one task, one event: the header prints comm raw -/
theorem c15_prefix_comm_quote_witness :
    validJson (chromeOutput Fix.none
      { exename := b!"/synth/q\"x", version := b!"v", date := b!"d", cmdline := some b!"c",
        tasks := [⟨1, 1⟩], evs := [⟨true, 1, 1, b!"main", 2000, none⟩] }) = false := by decide +kernel

/-- F9 witness (footer): a backslash in the command line is printed raw (`a\ b` is not a
    JSON escape) -/
theorem c15_prefix_cmdline_backslash_witness :
    validJson (chromeOutput Fix.none
      { exename := b!"/synth/prog", version := b!"v", date := b!"d", cmdline := some b!"a\\ b",
        tasks := [⟨1, 1⟩], evs := [⟨true, 1, 1, b!"main", 2000, none⟩] }) = false := by decide +kernel

/-- F9b witness: no event survives the filters — the metadata lines end in ",\n" and the
    array closes right after the comma -/
theorem c15_prefix_empty_trace_witness :
    validJson (chromeOutput Fix.none
      { exename := b!"/synth/prog", version := b!"v", date := b!"d", cmdline := some b!"c",
        tasks := [⟨1, 1⟩], evs := [] }) = false := by decide +kernel

/-- the same three documents are valid with the repairs (instances of `c15_chrome_valid`) -/
example : validJson (chromeOutput Fix.all
      { exename := b!"/synth/q\"x", version := b!"v", date := b!"d", cmdline := some b!"a\\ b",
        tasks := [⟨1, 1⟩], evs := [] }) = true :=
  c15_chrome_valid _ _ rfl (by decide) (by decide) (fun _ h => nomatch h)

/-- C15-ARGBUF witness for every string argument (the code before the repair; the string is not the
    NULL marker, has no NUL byte inside and a length that fits the 16-bit length field of the record):
    when its escaped form has 2044 bytes or more, at the latest the closing parenthesis is stored outside
    `spec_buf[2048]` -/
theorem c15_prefix_argbuf_overflow_any_witness (asym : Bool) (bs : List Nat) (h0 : ∀ c ∈ bs, c ≠ 0)
    (hn : bs ≠ [255, 255, 255, 255]) (hlen : bs.length ≤ 65535) (h : 2044 ≤ (escapeStr bs).length) :
    (argString false asym false [.str bs false]).oob = true := by
  have hA : ∀ (b : NB) (s : List Nat), pA false b s = printArgs b s := fun _ _ => rfl
  have e1 : argString false asym false [.str bs false] =
      printArgs (printArgs (nameLoop false (printArgs (printArgs sbInit [40]) [92, 34]) bs) [92, 34]) [41] := by
    simp only [argString, Bool.false_eq_true, ↓reduceIte, argLoop, argPiece, hn, cstr_id bs h0, foldl_pE_false, hA,
      or_false, ite_self]
  rw [e1]
  have hi0 : PInv (printArgs (printArgs sbInit [40]) [92, 34]) :=
    printArgs_pinv _ (printArgs_pinv _ (by unfold PInv sbInit cap; decide))
  have hi := printArgs_pinv [92, 34] (nameLoop_false_pinv bs _ hi0)
  have hpos : (printArgs (nameLoop false (printArgs (printArgs sbInit [40]) [92, 34]) bs) [92, 34]).pos =
      5 + (escapeStr bs).length := by
    rw [printArgs_pos, nameLoop_false_pos, printArgs_pos, printArgs_pos]
    simp [sbInit]; omega
  have hle := escapeStr_length_le bs
  apply printArgs_oob
  · rw [hpos]; simp only [cap]; omega
  · intro hz
    unfold PInv at hi
    rw [hz, hpos] at hi
    omega

/-- C15-ARGBUF witness (the code before the repair): one string argument of 410 bytes 0x01
    (each printed as the five characters \\x01).  The 409th escape is cut by `vsnprintf`,
    `print_args` still advances by five: `len` reaches 0, the 410th call subtracts five
    from 0 and `len` wraps around to 2^64 - 5, and the closing quote is stored at
    spec_buf[2053]. -/
theorem c15_prefix_argbuf_overflow_witness :
    (argString false false false [.str (List.replicate 410 1) false]).oob = true ∧
    (argString true false false [.str (List.replicate 410 1) false]).oob = false :=
  ⟨c15_prefix_argbuf_overflow_any_witness false _ (replicate_no_nul 410 (by decide))
    (replicate_ne_marker 410 1 (by decide)) (by rw [List.length_replicate]; decide)
    (by rw [escapeStr_replicate]; decide), (c15_args_buf_safe _ _ _).1⟩

/-- C15-ARGBUF witness through `print_char`: 2046 letters.  The last one is stored at
    spec_buf[2048]; no NUL was ever stored, so the `%s` that prints the buffer reads on. -/
theorem c15_prefix_argbuf_char_witness :
    (argString false false false [.str (List.replicate 2046 97) false]).oob = true ∧
    (argString true false false [.str (List.replicate 2046 97) false]).oob = false :=
  ⟨c15_prefix_argbuf_overflow_any_witness false _ (replicate_no_nul 2046 (by decide))
    (replicate_ne_marker 2046 97 (by decide)) (by rw [List.length_replicate]; decide)
    (by rw [escapeStr_replicate]; decide), (c15_args_buf_safe _ _ _).1⟩

set_option maxRecDepth 100000 in
/-- non-vacuity: 409 bytes 0xc3 (utf-8 text; a real argument record holds up to 1024 bytes) -/
example : (∀ c ∈ List.replicate 409 195, c ≠ 0) ∧ List.replicate 409 195 ≠ [255, 255, 255, 255] ∧
    (List.replicate 409 195).length ≤ 65535 ∧ 2044 ≤ (escapeStr (List.replicate 409 195)).length :=
  ⟨replicate_no_nul 409 (by decide), replicate_ne_marker 409 195 (by decide),
    by rw [List.length_replicate]; decide, by rw [escapeStr_replicate]; decide⟩

/-- C15-ARGBUF witness inside the buffer: 2043 letters.  The closing `\"` finds `len = 2`, `vsnprintf`
    stores the backslash and a NUL, `len` becomes 0 and the parenthesis is lost: no store is out of
    bounds, but the text ends in a lone backslash, which swallows the quote that closes the JSON string.
    With the repair the piece is dropped as a whole. -/
theorem c15_prefix_argbuf_cut_witness :
    (argString false false false [.str (List.replicate 2043 97) false]).oob = false ∧
    validBody (argString false false false [.str (List.replicate 2043 97) false]).out = false ∧
    validBody (argString true false false [.str (List.replicate 2043 97) false]).out = true := by
  have hn := replicate_ne_marker 2043 97 (by decide)
  have hc := cstr_id _ (replicate_no_nul (c := 97) 2043 (by decide))
  obtain ⟨h1, h2⟩ := argString_prefix_cut false _ hn (by rw [hc]; exact escapeStr_replicate 2043 97)
  refine ⟨h1, h2, ?_⟩
  rw [argString_str true false _ hn, ← argString_str true true _ hn]
  exact c15_args_body_valid false _ (fun v hv => by rw [List.mem_singleton.1 hv]; trivial)

/-- C15-ARGSYM witness: `f(&q"x)` — a pointer argument whose value is the address of the
    symbol `q"x`; the name is printed with %s inside the JSON string -/
theorem c15_prefix_argsym_quote_witness :
    validJson (chromeOutput Fix.repo
      { exename := b!"/synth/prog", version := b!"v", date := b!"d", cmdline := some b!"c",
        tasks := [⟨1, 1⟩], evs := [⟨true, 1, 1, b!"main", 2000, some [.sym b!"q\"x"]⟩] }) = false ∧
    validJson (chromeOutput Fix.all
      { exename := b!"/synth/prog", version := b!"v", date := b!"d", cmdline := some b!"c",
        tasks := [⟨1, 1⟩], evs := [⟨true, 1, 1, b!"main", 2000, some [.sym b!"q\"x"]⟩] }) = true :=
  ⟨by decide +kernel, c15_chrome_valid_with_args _ _ rfl (by decide) (by decide) (by decide)⟩

/-! ## path aggregation -/

/-- For every sequence of callback invocations (any number of tasks, any interleaving,
    recursion, calls closed by the "remaining functions" loop), with or without the flame
    graph's exit callback, and for every call path `q`: the trie node reached by the names of
    `q` has nr_calls = number of calls with call path `q` and time = sum of the total times
    handed over at their exits.  (The call path of a record is the stack of names of its task,
    `annot`; a path that never occurred reads as 0.) -/
theorem c15_path_count_time (sample : Option Nat) (rn : Name) (os : List Out) (q : Path) :
    callsN (build sample (G.init rn) os).root q = callsAt q (annot (fun _ => []) os) ∧
    timeN (build sample (G.init rn) os).root q = timeAt q (annot (fun _ => []) os) := by
  obtain ⟨_, h⟩ := build_counts sample os (G.init rn) (valid_init rn)
  have h0 : callsN (G.init rn).root q = 0 ∧ timeN (G.init rn).root q = 0 := by
    cases q <;> simp [callsN, timeN, G.init, Node.get, Nodes.find]
  have := h q
  simp only [h0.1, h0.2, Nat.zero_add] at this
  simpa [G.init] using this

/-- induction over call trees: the records of a forest of closed calls of one task
    (entry, callees, exit — as libmcount writes them), read back through the time accounting
    of `fstack` and aggregated, give for every call path `q`: nr_calls = number of calls of
    the forest with call path `q`, time = sum of their durations `t1 - t0`. -/
theorem c15_path_count_time_tree (sample : Option Nat) (rn : Name) (tid : Nat) (cs : Calls) (q : Path) :
    callsN (build sample (G.init rn) (outs [tid] (cs.recs tid))).root q = cs.countAt [] q ∧
    timeN (build sample (G.init rn) (outs [tid] (cs.recs tid))).root q = cs.durAt [] q := by
  have h := c15_path_count_time sample rn (outs [tid] (cs.recs tid)) q
  rw [outs_calls] at h ⊢
  have a := Calls.annot_counts tid q cs (fun _ => []) []
  simp only [List.append_nil, annot, callsAt, timeAt, List.filter_nil, List.length_nil, List.map_nil,
    List.sum_nil, Nat.add_zero] at a
  simp only [callsAt, timeAt] at h
  exact ⟨h.1.trans a.1, h.2.trans a.2⟩

/-- main(){ f(){g()} f(){} }: path [main, f] has 2 calls, 30 + 5 ns -/
example :
    let cs : Calls := .cons (.node b!"main" 0 100 (.cons (.node b!"f" 10 40 (.cons (.node b!"g" 20 30 .nil) .nil))
      (.cons (.node b!"f" 50 55 .nil) .nil))) .nil
    cs.countAt [] [b!"main", b!"f"] = 2 ∧ cs.durAt [] [b!"main", b!"f"] = 35 := by decide

/-! ## flame graph, graphviz, mermaid -/

/-- `dump --flame-graph` (repaired count formatting) for the trie built from any callback
    sequence: the text is one line per entry; there is at most one entry per call path; `(p, s)`
    is an entry iff the trie has a node at the non-empty path `p` whose printed number
    (nr_calls without sampling, (time - child_time) / sample_time with sampling) is `s ≠ 0`;
    and without sampling `s` is the number of calls with call path `p`. -/
theorem c15_flame_lines (st : Nat) (rn : Name) (os : List Out) :
    let root := (build (some st) (G.init rn) os).root
    flameText true st root = (flameEntries st root).flatMap (fun x => flameLine true x.1 x.2) ∧
    ((flameEntries st root).map (·.1)).Nodup ∧
    (∀ p s, (p, s) ∈ flameEntries st root ↔
      p ≠ [] ∧ ∃ n, root.get p = some n ∧ sampleOf st n = s ∧ s ≠ 0) ∧
    (st = 0 → ∀ p s, (p, s) ∈ flameEntries st root → s = callsAt p (annot (fun _ => []) os)) := by
  intro root
  have hu : root.uniq := uniq_build (some st) os (G.init rn) (uniq_init rn)
  have hiff : ∀ p s, (p, s) ∈ flameEntries st root ↔
      p ≠ [] ∧ ∃ n, root.get p = some n ∧ sampleOf st n = s ∧ s ≠ 0 := by
    intro p s
    simp only [flameEntries, List.mem_map, List.mem_filter, decide_eq_true_eq, Prod.mk.injEq]
    constructor
    · rintro ⟨e, ⟨he, hne⟩, rfl, rfl⟩
      obtain ⟨h1, h2, _⟩ := walk_sound root hu e he
      exact ⟨h1, e.2.2, h2, rfl, hne⟩
    · rintro ⟨hp, n, hg, rfl, hne⟩
      obtain ⟨par, hm⟩ := walk_complete root p n hp hg
      exact ⟨(par, p, n), ⟨hm, hne⟩, rfl, rfl⟩
  refine ⟨flatMap_unless (fun e : Node × Path × Node => sampleOf st e.2.2 = 0) (fun e => (e.2.1, sampleOf st e.2.2))
    (fun x => flameLine true x.1 x.2) (walk root), ?_, hiff, ?_⟩
  · have hs : ((flameEntries st root).map (·.1)) =
        ((walk root).filter (fun e => sampleOf st e.2.2 ≠ 0)).map (fun e => e.2.1) := by
      simp [flameEntries, List.map_map, Function.comp_def]
    rw [hs]
    exact List.Nodup.sublist (List.Sublist.map _ List.filter_sublist) (walk_nodup root hu)
  · intro h0 p s hm
    obtain ⟨_, n, hg, hs, _⟩ := (hiff p s).1 hm
    have := (callsN_get hg).symm.trans (c15_path_count_time (some st) rn os p).1
    subst h0
    simp only [sampleOf, ne_eq, not_true_eq_false, and_false, ↓reduceIte] at hs
    omega

/-- F9c witness: function "f" called 25 times without sampling: the line is "f 2" -/
theorem c15_prefix_flame_digits_witness :
    flameLine false [b!"f"] 25 = b!"f 2\n" ∧ flameLine true [b!"f"] 25 = b!"f 25\n" := by decide

/-- `dump --graphviz` / `--mermaid` for the trie built from any callback sequence: every
    visited (parent, path, node) — mermaid prints all of them, graphviz those with
    nr_calls ≠ 0, each once — is the trie node at that path, its label nr_calls is the number
    of calls with that call path, its name is the last function of the path and the parent
    shown is the caller on that path (the program name for top-level functions); every
    call path that occurred is visited; no path is visited twice. -/
theorem c15_edge_counts (rn : Name) (os : List Out) :
    let root := (build none (G.init rn) os).root
    (∀ e ∈ walk root,
      e.2.2.calls = callsAt e.2.1 (annot (fun _ => []) os) ∧
      (∃ h : e.2.1 ≠ [], e.2.2.name = e.2.1.getLast h) ∧
      (e.2.1.dropLast = [] → e.1.name = rn) ∧
      (∀ h : e.2.1.dropLast ≠ [], e.1.name = e.2.1.dropLast.getLast h)) ∧
    (∀ p, p ≠ [] → callsAt p (annot (fun _ => []) os) ≠ 0 → ∃ e ∈ walk root, e.2.1 = p) ∧
    ((walk root).map (fun e => e.2.1)).Nodup ∧
    (∀ version cmdline, ∃ hd, graphvizText version cmdline root =
      hd ++ (gvEdges root).flatMap (fun x => graphvizLine x.1 x.2.1 x.2.2) ++ b!"}\n") := by
  intro root
  have hu : root.uniq := uniq_build none os (G.init rn) (uniq_init rn)
  have hname : root.name = rn := name_build none os (G.init rn)
  refine ⟨?_, ?_, walk_nodup root hu, ?_⟩
  · intro e he
    obtain ⟨h1, h2, h3⟩ := walk_sound root hu e he
    refine ⟨(callsN_get h2).symm.trans (c15_path_count_time none rn os e.2.1).1, ⟨h1, get_name h1 h2⟩, ?_, ?_⟩
    · intro hd
      rw [hd] at h3
      simp only [Node.get, Option.some.injEq] at h3
      rw [← h3]; exact hname
    · intro hd
      exact get_name hd h3
  · intro p hp hc
    have := (c15_path_count_time none rn os p).1
    rw [show (build none (G.init rn) os).root = root from rfl] at this
    simp only [callsN] at this
    cases hg : root.get p with
    | none => simp [hg] at this; omega
    | some n =>
      obtain ⟨par, hm⟩ := walk_complete root p n hp hg
      exact ⟨_, hm, rfl⟩
  · intro version cmdline
    unfold graphvizText
    rw [flatMap_unless (fun e : Node × Path × Node => e.2.2.calls = 0) (fun e => (e.1.name, e.2.2.name, e.2.2.calls))
      (fun x => graphvizLine x.1 x.2.1 x.2.2) (walk root)]
    exact ⟨_, rfl⟩

/-! ## chrome events -/

/-- For a well-formed record sequence (per task the time does not go back and every EXIT
    closes the innermost open call of its task) the callbacks of `dump --chrome` see every
    record in order with its own time stamp (printed as time/1000 "." time%1000 in 3 digits,
    `tsText`), followed by one EXIT per call still open; and for every task of the info
    file the begin/end events are balanced and properly nested: each E closes the innermost
    open B of the same function, nothing stays open. -/
theorem c15_chrome_balanced (tids : List Nat) (recs : List Rec) (hw : WF RS.init recs) :
    (∃ tail, outs tids recs = (replay RS.init recs).2 ++ tail ∧
      (replay RS.init recs).2.map (fun o => (⟨o.tid, o.entry, o.name, o.time⟩ : Rec)) = recs ∧
      (∀ o ∈ tail, o.entry = false ∧ o.tid ∈ tids)) ∧
    ∀ t ∈ tids, balRun [] (evsOf t (outs tids recs)) = some [] := by
  have hs0 : Started RS.init := by intro t f hf; simp [RS.init] at hf
  obtain ⟨hs, hb⟩ := replay_balanced recs RS.init hw hs0
  constructor
  · exact ⟨tails (replay RS.init recs).1 tids, rfl, replay_faithful recs RS.init, tails_mem tids _⟩
  · intro t ht
    have h2 := tails_balanced tids (replay RS.init recs).1 hs t
    simp only [outs, evsOf_append, balRun_append]
    rw [show balRun [] _ = _ from hb t]
    simpa [ht] using h2

/-- "Stamped with the record time in microseconds", for EVERY time (no bound: any 64-bit value and
    beyond): the stamp `tsText t` is `<digits>.<three digits>`, and read back with exact integer
    arithmetic the number it denotes, times 1000, is the record time: int part * 1000 + fraction = t.
    (`evText` prints `{"ts":` ++ tsText e.time ++ `,"ph":…` for the B and the E event alike.) -/
theorem c15_chrome_ts_exact (t : Nat) :
    ∃ ip fp, tsText t = ip ++ [46] ++ fp ∧ ip ≠ [] ∧ allDigits ip = true ∧ allDigits fp = true ∧
      fp.length = 3 ∧ digitsVal ip * 1000 + digitsVal fp = t := by
  obtain ⟨a, b, c⟩ := dec_val (t / 1000)
  obtain ⟨d, e, f⟩ := pad3_val (t % 1000) (Nat.mod_lt _ (by decide))
  exact ⟨dec (t / 1000), pad3 (t % 1000), rfl, c, b, e, f, by rw [a, d]; omega⟩

/-- … hence two records whose times differ, be it by one nanosecond at 2^53 or at 2^64 - 1, never
    get the same stamp -/
theorem c15_chrome_ts_injective (t t' : Nat) (h : tsText t = tsText t') : t = t' := by
  have hl : (pad3 (t % 1000)).length = (pad3 (t' % 1000)).length := rfl
  have h0 : (dec (t / 1000) ++ [46]) ++ pad3 (t % 1000) = (dec (t' / 1000) ++ [46]) ++ pad3 (t' % 1000) := h
  obtain ⟨h1, h2⟩ := List.append_inj' h0 hl
  have h3 : dec (t / 1000) = dec (t' / 1000) := (List.append_inj' h1 rfl).1
  have e1 := congrArg digitsVal h3
  have e2 := congrArg digitsVal h2
  rw [(dec_val _).1, (dec_val _).1] at e1
  rw [(pad3_val _ (Nat.mod_lt _ (by decide))).1, (pad3_val _ (Nat.mod_lt _ (by decide))).1] at e2
  omega

/-- the stamps of 2^53 + 1 ns (where a double loses the last bit) and of the largest 64-bit time -/
example : tsText 9007199254740993 = b!"9007199254740.993" ∧
    tsText 18446744073709551615 = b!"18446744073709551.615" := by decide

/-! ## times shown by `uftrace graph` (print_time_unit) -/

/-- C15-TIMEUNIT repaired (`limit[] = {1000, 1000, 1000, 60, 60, INT_MAX}`): for every non-zero time
    below 1000 hours, what `uftrace graph` (and replay / report, which share the printer) shows as
    "W.FFF unit" denotes the time rounded down to the three-digit step of the unit: W units plus FFF
    steps (ns for us, us for ms, ms for s, seconds for m, minutes for h) is at most the time, and
    less than one step below it. -/
theorem c15_time_unit_exact (ns : Nat) (hlt : ns < 3600000000000000) :
    let r := timeUnit true ns
    r.2.2 ≤ 4 ∧ r.2.1 * subNs r.2.2 < unitNs r.2.2 ∧
    r.1 * unitNs r.2.2 + r.2.1 * subNs r.2.2 ≤ ns ∧
    ns < r.1 * unitNs r.2.2 + (r.2.1 + 1) * subNs r.2.2 := by
  have F0 := Floor.one ns
  have F1 := F0.div 1000 (by decide)
  have F2 := F1.div 1000 (by decide)
  have F3 := F2.div 1000 (by decide)
  have F4 := F3.div 60 (by decide)
  intro r
  have hr : r = timeUnit true ns := rfl
  simp only [timeUnit, tuLimits, ↓reduceIte, tuLoop_cases] at hr
  by_cases h1 : ns / 1000 < 1000
  · rw [if_pos h1, if_neg (Nat.not_lt.2 (Nat.le_of_lt_succ h1))] at hr
    rw [hr]
    exact ⟨(by decide : 0 ≤ 4), F0.shown 1000 (by decide) (by decide)⟩
  rw [if_neg h1] at hr
  by_cases h2 : ns / 1000 / 1000 < 1000
  · rw [if_pos h2, if_neg (Nat.not_lt.2 (Nat.le_of_lt_succ h2))] at hr
    rw [hr]
    exact ⟨(by decide : 1 ≤ 4), F1.shown 1000 (by decide) (by decide)⟩
  rw [if_neg h2] at hr
  by_cases h3 : ns / 1000 / 1000 / 1000 < 60
  · rw [if_pos h3, if_neg (Nat.not_lt.2 (Nat.le_of_lt (Nat.lt_trans h3 (by decide))))] at hr
    rw [hr]
    exact ⟨(by decide : 2 ≤ 4), F2.shown 1000 (by decide) (by decide)⟩
  rw [if_neg h3] at hr
  by_cases h4 : ns / 1000 / 1000 / 1000 / 60 < 60
  · rw [if_pos h4, if_neg (Nat.not_lt.2 (Nat.le_of_lt (Nat.lt_trans h4 (by decide))))] at hr
    rw [hr]
    exact ⟨(by decide : 3 ≤ 4), F3.shown 60 (by decide) (by decide)⟩
  · have h5 : ns / 1000 / 1000 / 1000 / 60 / 60 ≤ 999 := by
      have := (F4.div 60 (by decide)).1
      omega
    rw [if_neg h4, if_neg (Nat.not_lt.2 h5)] at hr
    rw [hr]
    exact ⟨(by decide : 4 ≤ 4), F4.shown 60 (by decide) (by decide)⟩

example : timeUnit true 1800000000000 = (30, 0, 3) ∧ timeUnit true 3725000000000 = (1, 2, 4) := by decide

/-- the table as it is agrees with the repaired one for every time below 24 minutes -/
theorem c15_time_unit_prefix_below_24min (ns : Nat) (h : ns < 1440000000000) :
    timeUnit false ns = timeUnit true ns := by
  simp only [timeUnit, tuLimits, ↓reduceIte, tuLoop_cases, Bool.false_eq_true]
  have h4 : ns / 1000 / 1000 / 1000 / 60 < 24 := by omega
  have h4' : ns / 1000 / 1000 / 1000 / 60 < 60 := by omega
  simp only [h4, h4', ↓reduceIte]

/-- C15-TIMEUNIT witness (the table as it is has 24 where the minutes per hour belong): a call of
    30 minutes is shown as "1.006 h", one of exactly one hour as "2.012 h", one of 100 hours as
    "250.000 h" — none of which denotes the time (1 h 6 min = 3960 s ≠ 1800 s). -/
theorem c15_prefix_time_unit_hours_witness :
    timeUnit false 1800000000000 = (1, 6, 4) ∧ timeUnit false 3600000000000 = (2, 12, 4) ∧
    timeUnit false 360000000000000 = (250, 0, 4) ∧
    ¬ (1 * unitNs 4 + 6 * subNs 4 ≤ 1800000000000) := by decide

/-! ## scheduling events -/

/-- C15-DUMP-PREEMPT witness.  main { foo { <pre-empted: sched-out 3000, sched-in 4000> bar {} } }.  A
    scheduling event is shown as a call named linux:schedule (sched-out opens it, sched-in closes it); for
    the repaired code that is a record sequence like any other and `c15_chrome_balanced`,
    `c15_path_count_time`, `c15_edge_counts` apply.  As it is, `dump_replay_event` does not hand the
    sched-out of a PRE-EMPTED task to the dump callbacks: `dump --chrome` prints an E event that closes
    nothing (not balanced), and in the trie of --flame-graph / --graphviz / --mermaid the sched-in closes
    foo instead, so bar is counted under main;bar and the edge foo -> bar is missing. -/
theorem c15_prefix_preempt_witness :
    let recs (sched : Name) : List Rec :=
      [⟨1, true, b!"main", 2000⟩, ⟨1, true, b!"foo", 2100⟩, ⟨1, true, sched, 3000⟩,
       ⟨1, false, b!"linux:schedule", 4000⟩, ⟨1, true, b!"bar", 5000⟩, ⟨1, false, b!"bar", 5100⟩,
       ⟨1, false, b!"foo", 9000⟩, ⟨1, false, b!"main", 9100⟩]
    let asIs := dropEntries isPreMark (outs [1] (recs (b!"linux:schedule" ++ [0])))
    let repaired := outs [1] (recs b!"linux:schedule")
    balRun [] (evsOf 1 asIs) = none ∧ balRun [] (evsOf 1 repaired) = some [] ∧
    callsN (build none (G.init b!"prog") asIs).root [b!"main", b!"bar"] = 1 ∧
    callsN (build none (G.init b!"prog") asIs).root [b!"main", b!"foo", b!"bar"] = 0 ∧
    callsN (build none (G.init b!"prog") repaired).root [b!"main", b!"foo", b!"bar"] = 1 ∧
    callsN (build none (G.init b!"prog") repaired).root [b!"main", b!"foo", b!"linux:schedule"] = 1 := by
  decide

/-- non-vacuity: main { f { } g { (still open) — two tasks interleaved -/
example : WF RS.init [⟨1, true, b!"main", 10⟩, ⟨2, true, b!"main", 11⟩, ⟨1, true, b!"f", 12⟩,
    ⟨1, false, b!"f", 15⟩, ⟨1, true, b!"g", 15⟩] := by
  simp [WF, stepRec, RS.init, setFn]

end Uft.C15

import Uft.Model.Demangle
import Uft.Lemmas.DemangleSpec
import Uft.Lemmas.DemangleMangle
import Uft.Lemmas.DemangleMangleT
/-!
# C13 — Symbol demangling is total, safe and correct for compiler-produced names

Model: `Uft/Model/Demangle.lean` (port of the simple demangler of `utils/demangle.c`,
tables generated into `Uft/Gen/DemangleTables.lean`).  `Fixes.all` is the code with the
minimal repairs of findings F10, F10b, F10c, F10d, F10e, F10g; `Fixes.none` is the tree
as it is (the `c13_prefix_*_witness` theorems show that each finding is real there).

The main lemma `run_spec` (Lemmas/DemangleSpec.lean) proves, by induction on the fuel, a
summary of each of the 34 mutually recursive grammar functions / loops.
-/
namespace Uft.Demangle

/-- the part of the name that is parsed (after an optional `_GLOBAL__sub_I_`) -/
def parsedPart (s : Array UInt8) : Array UInt8 :=
  if globalPrefix.isPrefixOf s.toList then s.extract 15 s.size else s

/-- "a mangled name should start with `_Z`" -/
def isMangled (s : Array UInt8) : Bool :=
  (parsedPart s).getD 0 0 == 95 && (parsedPart s).getD 1 0 == 90

theorem demangleWith_eq (fx : Fixes) (fuel : Nat) (s : Array UInt8) :
    demangleWith fx fuel s = demangleCore fx fuel s.toList (globalPrefix.isPrefixOf s.toList) (parsedPart s) := rfl

/-! ## position monotonicity, memory safety of the input side, termination -/

/-- **Position monotonicity** (all 34 grammar functions and loops, repaired code).  Started in a state
    with `pos ≤ strlen`, `len ≤ strlen` (`old[len]` being the NUL or the `.`/`@` where `dd_encoding`
    cut the name) and with enough fuel, every grammar function returns normally with
    `entry pos - δ ≤ pos ≤ strlen` where `δ = 1` for `dd_expression`, `dd_unresolved_name`,
    `dd_base_unresolved_name`, `dd_simple_id`, `dd_expr_list` (and their loops) — `dd_simple_id` executes
    `dd->pos--` on a non-digit — and `δ = 0` for all others; `len` never grows; a successful call
    (`ret ≥ 0`) of a non-loop function consumes at least one character. -/
theorem c13_pos_monotone (n : Nat) (f : Fn) (e : Env) (st : St) (hfx : e.fx = Fixes.all)
    (hl : st.len ≤ e.n) (hp : st.pos ≤ e.n) (hs : Stop e st.len) (hfuel : Need f e st n) (hd : delta f ≤ st.pos) :
    ∃ r st', run n f e st = .ok r st' ∧ st.pos ≤ st'.pos + delta f ∧ st'.pos ≤ e.n ∧
      st'.len ≤ st.len ∧ st'.len ≤ e.n ∧ Stop e st'.len ∧ Prog f st.pos r st'.pos := by
  obtain ⟨r, st', h, _, _, _, ⟨rfl, rfl, rfl, p1, p2, p3, p4, _⟩, p6, p7⟩ :=
    run_spec n f e st _ _ _ _ _ hfx ⟨rfl, rfl, rfl, hl, hp, hs, Nat.le_refl _, Nat.le_refl _⟩ hfuel hd
  refine ⟨r, st', h, ?_, p2, p4, p1, p3, p7.prog⟩
  have := Nat.mul_le_mul_left (delta f) (exN_le st')
  omega

/-- non-vacuity: the hypotheses hold for the initial state of `demangle_simple` -/
example (fx : Fixes) (body : Array UInt8) :
    Need .encoding { s := body, fx := fx } { pos := 0, len := body.size } (8 * (body.size + 1)) := by
  simp [Need, rank, Env.n]; omega

theorem parsedPart_size_le (s : Array UInt8) : (parsedPart s).size ≤ s.size := by
  unfold parsedPart
  split
  · simp
  · exact Nat.le_refl _

/-- `demangleCore` is a cascade of `if`s over a large term: each test is taken apart by a rule of this kind, not by `split`,
    which is slow on terms of that size -/
theorem str_ite {c : Prop} [Decidable c] {a b : Result} (ha : c → ∃ bs, a = .str bs) (hb : ¬c → ∃ bs, b = .str bs) :
    ∃ bs, (if c then a else b) = .str bs := by
  split
  · exact ha ‹_›
  · exact hb ‹_›

theorem core_total (fuel : Nat) (orig : List UInt8) (hp : Bool) (body : Array UInt8) (hf : 8 * (body.size + 1) ≤ fuel) :
    ∃ bs, demangleCore Fixes.all fuel orig hp body = .str bs := by
  unfold demangleCore
  refine str_ite (fun _ => ⟨_, rfl⟩) fun _ => ?_
  obtain ⟨r, st, hr, _, _, _, hst, _⟩ :=
    run_spec fuel .encoding { s := body, fx := Fixes.all } { pos := 0, len := body.size } _ _ _ _ _ rfl
      ⟨rfl, rfl, rfl, Nat.le_refl _, Nat.zero_le _, Or.inl rfl, Nat.le_refl _, Nat.le_refl _⟩ (by simp only [rank, Env.n]; omega) (Nat.le_refl _)
  simp only [hr]
  refine str_ite (fun _ => ⟨_, rfl⟩) fun _ => ?_
  refine str_ite (fun _ => ?_) fun _ => ?_
  · split <;> exact ⟨_, rfl⟩
  refine str_ite (fun _ => ⟨_, rfl⟩) fun _ => ?_
  obtain ⟨r2, st2, hr2, _⟩ := run_spec fuel .name { s := body, fx := Fixes.all } st _ _ _ _ _ rfl hst
    (by simp only [rank, Env.n]; omega) (Nat.zero_le _)
  simp only [hr2]
  refine str_ite (fun _ => ⟨_, rfl⟩) fun _ => ?_
  split <;> exact ⟨_, rfl⟩

/-- **Termination in bounded time, memory safety, totality** (repaired code): with any fuel
    `≥ 8 * (strlen + 1)` the demangler returns a string: it never reads `old[i]` beyond the NUL
    (`Crash.oob`), never moves `pos` below 0 (`Crash.negPos`), never hits one of the repaired defects,
    and never runs out of fuel — the depth of the call/iteration chain is at most `8 * strlen + 8`. -/
theorem c13_fuel_suffices (s : Array UInt8) (fuel : Nat) (hf : 8 * (s.size + 1) ≤ fuel) :
    ∃ bs, demangleWith Fixes.all fuel s = .str bs := by
  rw [demangleWith_eq]
  have := parsedPart_size_le s
  exact core_total fuel _ _ _ (by omega)

/-- **Totality**: for every byte string the (repaired) demangler returns a string. -/
theorem c13_total_returns_string (s : Array UInt8) : ∃ bs, demangle Fixes.all s = .str bs :=
  c13_fuel_suffices s (fuelFor s) (by unfold fuelFor; omega)

/-- **Input-side memory safety** (and absence of every other modelled crash): the result is never a crash,
    in particular never `Crash.oob` (a read of `old[i]` beyond the terminating NUL). -/
theorem c13_no_oob (s : Array UInt8) (k : Crash) : demangle Fixes.all s ≠ .crash k := by
  obtain ⟨bs, h⟩ := c13_total_returns_string s
  rw [h]
  intro h'
  cases h'

/-! ## fallback to the input -/

/-- **Not a supported mangled name ⇒ unchanged**: a name that (after an optional `_GLOBAL__sub_I_`) does
    not start with `_Z` comes back unchanged — this covers plain C names, Rust v0 (`_R…`) names, and every
    choice of repairs and fuel. -/
theorem c13_unmangled_identity (fx : Fixes) (fuel : Nat) (s : Array UInt8) (h : isMangled s = false) :
    demangleWith fx fuel s = .str s.toList := by
  rw [demangleWith_eq]
  unfold demangleCore
  exact if_pos (congrArg not h)

/-- **Parse error ⇒ the input is returned**: whenever `dd_encoding` fails (`ret < 0`), or leaves
    `dd.level != 0`, or stops before the end of a name that is not a type-info name, or the trailing
    `dd_name` fails, the result is the input string itself. -/
theorem c13_fallback_identity (fx : Fixes) (fuel : Nat) (s : Array UInt8) (r : Int) (st : St)
    (hrun : run fuel .encoding { s := parsedPart s, fx := fx } { pos := 0, len := (parsedPart s).size } = .ok r st)
    (hfail : r < 0 ∨ st.level ≠ 0 ∨ (st.pos < st.len ∧ st.typeInfo = false) ∨
      (st.pos < st.len ∧ ∃ r2 st2, run fuel .name { s := parsedPart s, fx := fx } st = .ok r2 st2 ∧ r2 < 0)) :
    demangleWith fx fuel s = .str s.toList := by
  rw [demangleWith_eq]
  unfold demangleCore
  refine ite_eq_left_iff.2 fun _ => ?_
  simp only [hrun]
  refine ite_eq_left_iff.2 fun hok => ?_
  rcases hfail with h | h | ⟨h1, h2⟩ | ⟨h1, r2, st2, h2, h3⟩
  · simp [h] at hok
  · simp [h] at hok
  · rw [if_neg (Nat.not_le.2 h1), if_pos (by simp [h2])]
  · rw [if_neg (Nat.not_le.2 h1)]
    refine ite_eq_left_iff.2 fun _ => ?_
    simp only [h2]
    exact if_pos h3

/-- non-vacuity of `c13_fallback_identity`: `_ZN3fooE3` fails to parse and comes back unchanged -/
example : demangle Fixes.all #[95, 90, 78, 51, 102, 111, 111] = .str [95, 90, 78, 51, 102, 111, 111] := by decide

/-- a plain identifier: letters, digits, `_`, `$`, `.` that does not start with `_Z` / `_GLOBAL__sub_I__Z` -/
def isPlain (s : Array UInt8) : Bool := isMangled s == false

/-- **Idempotent on plain names**: demangling a name that is already plain changes nothing; in
    particular demangling twice equals demangling once for them. -/
theorem c13_idempotent_on_plain (fx : Fixes) (s : Array UInt8) (h : isPlain s = true) :
    demangle fx s = .str s.toList ∧ demangle fx s.toList.toArray = .str s.toList := by
  have h' : isMangled s = false := by simpa [isPlain] using h
  constructor
  · exact c13_unmangled_identity fx _ s h'
  · have : s.toList.toArray = s := by simp
    rw [this]
    exact c13_unmangled_identity fx _ s h'

/-- non-vacuity: `main` is plain -/
example : isPlain #[109, 97, 105, 110] = true := by decide

/-! ## the defects of the tree as it is (`Fixes.none`): one witness per finding -/

/-- F10: `_ZC1v` — a constructor code before any name was emitted: `strrchr(dd->new == NULL, ':')`
    (`/repo/misc/demangler _ZC1v` segfaults) -/
theorem c13_prefix_f10_witness : demangle Fixes.none #[95, 90, 67, 49, 118] = .crash .nullDeref := by decide

/-- F10 is the known finding of the design round (same witness, longer name `_ZNC1Ev`) -/
theorem c13_prefix_ctor_null_witness :
    demangle Fixes.none #[95, 90, 78, 67, 49, 69, 118] = .crash .nullDeref := by decide

/-- F10b: `_ZT` — `strchr(T_type, '\0')` succeeds and `T_type_name[6]` is read out of bounds -/
theorem c13_prefix_f10b_witness : demangle Fixes.none #[95, 90, 84] = .crash .tableOob := by decide

/-- F10c: `_Z1fD` — `dd_type` returns 0 without consuming the `D`, `dd_encoding` loops forever:
    the fuel that provably suffices for the repaired code runs out -/
theorem c13_prefix_f10c_witness : demangle Fixes.none #[95, 90, 49, 102, 68] = .outOfFuel := by decide +kernel

/-- F10d: `_Z2147483647x` — `dd->pos + num` overflows `int` (then a 2 GB realloc and exit) -/
theorem c13_prefix_f10d_witness :
    demangle Fixes.none #[95, 90, 50, 49, 52, 55, 52, 56, 51, 54, 52, 55, 120] = .crash .intOverflow := by decide

/-- F10e: `_Z3a$C` — the rust mapping `$C` runs past the end of the name and `strchr` reads beyond the NUL -/
theorem c13_prefix_f10e_witness : demangle Fixes.none #[95, 90, 51, 97, 36, 67] = .crash .oob := by decide

/-- F10g: `_ZUt_` — the parse succeeds without output and `demangle()` returns NULL -/
theorem c13_prefix_f10g_witness : demangle Fixes.none #[95, 90, 85, 116, 95] = .null := by decide

/-- F10i: `_ZZ3foovEN1A3barE_01B` (g++: `foo()::A::bar(B)` with `B` the second local class of `foo`):
    `dd_discriminator` read the `_0` with `dd_number`, which took `01` and left `B` where a parameter type
    was expected: the parse failed and the name came back unchanged. -/
theorem c13_prefix_f10i_witness :
    demangle { Fixes.all with discDigit := false }
      #[95, 90, 90, 51, 102, 111, 111, 118, 69, 78, 49, 65, 51, 98, 97, 114, 69, 95, 48, 49, 66] =
      .str [95, 90, 90, 51, 102, 111, 111, 118, 69, 78, 49, 65, 51, 98, 97, 114, 69, 95, 48, 49, 66] ∧
    demangle Fixes.all
      #[95, 90, 90, 51, 102, 111, 111, 118, 69, 78, 49, 65, 51, 98, 97, 114, 69, 95, 48, 49, 66] =
      .str (bs%"foo::A::bar") := by decide +kernel

/-- F10k: `_ZN1CILf3fc00000EE1mEv` (g++ -std=c++20: `C<1.5f>::m()`): the hex digits `3fc00000` of the
    floating-point literal were not skipped (`dd_number` stops at the `f`), the `E` was not found and the
    name came back unchanged. -/
theorem c13_prefix_f10k_witness :
    demangle { Fixes.all with floatLit := false }
      #[95, 90, 78, 49, 67, 73, 76, 102, 51, 102, 99, 48, 48, 48, 48, 48, 69, 69, 49, 109, 69, 118] =
      .str [95, 90, 78, 49, 67, 73, 76, 102, 51, 102, 99, 48, 48, 48, 48, 48, 69, 69, 49, 109, 69, 118] ∧
    demangle Fixes.all
      #[95, 90, 78, 49, 67, 73, 76, 102, 51, 102, 99, 48, 48, 48, 48, 48, 69, 69, 49, 109, 69, 118] =
      .str (bs%"C::m") := by decide +kernel

/-- F10j: `_Z1fIiEDTdvfp_fp0_ET_S1_` (g++ and clang++: `template<class T> auto f(T a, T b) -> decltype(a / b)`
    instantiated with `int`): the binary-operator loop of `dd_expression` skipped every code with
    `c1 == 'v'` (meant for `cv`), so `dv` fell through to `dd_unresolved_name`, the parse failed and the name
    came back unchanged (likewise `cm`, `co`; `nw`/`na` were taken for binary operators). -/
theorem c13_prefix_f10j_witness :
    demangle { Fixes.all with exprOps := false } #[95, 90, 49, 102, 73, 105, 69, 68, 84, 100, 118, 102, 112, 95, 102, 112, 48, 95, 69, 84, 95, 83, 49, 95] =
      .str [95, 90, 49, 102, 73, 105, 69, 68, 84, 100, 118, 102, 112, 95, 102, 112, 48, 95, 69, 84, 95, 83, 49, 95] ∧
    demangle Fixes.all #[95, 90, 49, 102, 73, 105, 69, 68, 84, 100, 118, 102, 112, 95, 102, 112, 48, 95, 69, 84, 95, 83, 49, 95] = .str (bs%"f") := by decide +kernel

/-- with the repairs these inputs come back unchanged; `_Z3a$C` becomes `aa$C` (the code re-appends the
    text before an unmapped `$`, observation F10h — a wrong result, not a memory error, kept as is) -/
example : demangle Fixes.all #[95, 90, 67, 49, 118] = .str [95, 90, 67, 49, 118] := by decide
example : demangle Fixes.all #[95, 90, 84] = .str [95, 90, 84] := by decide
example : demangle Fixes.all #[95, 90, 49, 102, 68] = .str [95, 90, 49, 102, 68] := by decide
example : demangle Fixes.all #[95, 90, 51, 97, 36, 67] = .str [97, 97, 36, 67] := by decide
example : demangle Fixes.all #[95, 90, 85, 116, 95] = .str [95, 90, 85, 116, 95] := by decide

/-! ## partial correctness: demangle ∘ mangle -/

/-- **demangle ∘ mangle = qualified name** for the declarations `Decl` (Lemmas/DemangleMangle.lean):
    a function, constructor `C<k>`, destructor `D<k>` or member operator (any entry of the generated
    `ops[]` table except the conversion and literal operators) in one or more nested namespaces / classes
    with builtin parameter types (codes of the generated `types[]` table).  `mangle d` is the Itanium
    encoding `_ZN <len><id>… [C<k>|D<k>|<op>] E <type>*`; identifiers are arbitrary byte strings of
    length `< 2^31` that are non-empty, do not start with a digit, contain no `$` (and no `:` for the class
    name of a constructor / destructor) and are not of the form `h<16 hex digits>` (which the code takes
    for a Rust hash).  The result is `a::b::f`, `a::K::K`, `a::K::~K`, `a::K::operator+`, …

    Not covered by this theorem (covered by the compiled corpus of the check instead): non-nested names,
    template arguments, substitutions, non-builtin parameter types, conversion / literal operators. -/
theorem c13_mangle_demangle_partial (d : Decl) (h : d.Ok) :
    demangle Fixes.all (mangle d).toArray = .str (qualifiedName d) := demangle_mangle d h

/-- non-vacuity: `ns::K::K(int)`, i.e. `_ZN2ns1KC1Ei`, satisfies the hypotheses, and the theorem gives `ns::K::K` -/
def declExample : Decl := { scope := [[110, 115]], name := [75], leaf := .ctor 49, params := [105] }

theorem declExample_ok : declExample.Ok where
  ids := by
    intro id hid
    simp only [Decl.path, declExample, List.cons_append, List.nil_append, List.mem_cons, List.not_mem_nil, or_false] at hid
    rcases hid with rfl | rfl <;> exact ⟨by decide, by decide, by decide, by decide, by decide⟩
  nocolon := by decide
  leaf := by simp [declExample, Leaf.Ok]; decide
  params := by decide

example : mangle declExample = [95, 90, 78, 50, 110, 115, 49, 75, 67, 49, 69, 105] := by decide
example : demangle Fixes.all (mangle declExample).toArray = .str [110, 115, 58, 58, 75, 58, 58, 75] :=
  c13_mangle_demangle_partial declExample declExample_ok

/-! ## class templates with non-type arguments: counters balanced, later components still emitted -/

/-- **`dd->type`, `dd->level`, `dd->templates` are balanced by `dd_template_args`** on a well-formed argument
    list `I <arg>+ E` whose arguments are builtin types, integer literals `L<type><k>E`, references
    `L_Z<name>E` and addresses `XadL_Z<name><types>EE`: started with `templates == 0` and enough fuel the
    function returns 0 in a state that differs from the entry state *only in `pos`* — in particular
    `type`, `level`, `templates`, the output buffer and `first_name` are unchanged, so the name components that
    follow the arguments are emitted.  (This is the invariant that a missing `dd->type--` on the `L_Z…E` path
    of `dd_expr_primary` breaks.) -/
theorem c13_template_args_balanced (e : Env) (st : St) (hfx : e.fx = Fixes.all) (args : List TArg) (F : Nat)
    (rest : List UInt8) (hok : ∀ a ∈ args, a.Ok) (hF : argsNeed args ≤ F) (hl : st.len = e.n) (htm : st.templates = 0)
    (h : Rest e st.pos (targsBytes args ++ rest)) :
    run (F + args.length + 2) .templateArgs e st = .ok 0 { st with pos := st.pos + (targsBytes args).length } :=
  templateArgs_eq hfx args F rest hok hF hl htm h

/-- The balance does **not** hold for every successful call on arbitrary input: `dd_type` ignores the result
    of `dd_vector_type`, which returns early after `dd->type++` on the malformed vector type `Dvx`; the
    counter stays raised and the later component `b` is dropped (`/repo/misc/demangler _ZN1aIDvxE1bEv`
    prints `a`; with the well-formed `Dv4_x` it prints `a::b`).  Not a compiler-produced name. -/
theorem c13_counter_leak_malformed_witness :
    demangle Fixes.all #[95, 90, 78, 49, 97, 73, 68, 118, 120, 69, 49, 98, 69, 118] = .str [97] := by
  decide +kernel

example : demangle Fixes.all #[95, 90, 78, 49, 97, 73, 68, 118, 52, 95, 120, 69, 49, 98, 69, 118] = .str [97, 58, 58, 98] := by
  decide +kernel

/-- **demangle ∘ mangle with template arguments**: as `c13_mangle_demangle_partial`, but every scope and the
    innermost class / function may carry a template-argument list of builtin types, positive integer
    literals, `L_Z…E` references to globals and `XadL_Z…EE` addresses of functions or globals (`DeclT`,
    `mangleT`, Lemmas/DemangleMangleT.lean): the result is the qualified name without any argument list,
    e.g. `ns::Caller<&bar>::call()` = `_ZN2ns6CallerIXadL_Z3barvEEE4callEv` ↦ `ns::Caller::call`. -/
theorem c13_mangle_demangle_templates_partial (d : DeclT) (h : d.Ok) :
    demangle Fixes.all (mangleT d).toArray = .str (qualifiedNameT d) := demangle_mangleT d h

/-- non-vacuity: the member of a class template instantiated with the address of a function -/
def declTExample : DeclT :=
  { scope := [⟨[110, 115], []⟩], name := ⟨[67, 97, 108, 108, 101, 114], [.addr [98, 97, 114] [118]]⟩,
    leaf := .ctor 49, params := [118] }

example : mangleT declTExample =
    [95, 90, 78, 50, 110, 115, 54, 67, 97, 108, 108, 101, 114, 73, 88, 97, 100, 76, 95, 90, 51, 98, 97, 114, 118, 69, 69,
     69, 67, 49, 69, 118] := by decide

theorem declTExample_ok : declTExample.Ok where
  ids := by
    intro c hc
    simp only [DeclT.path, declTExample, List.cons_append, List.nil_append, List.mem_cons, List.not_mem_nil, or_false] at hc
    rcases hc with rfl | rfl
    · exact ⟨⟨by decide, by decide, by decide, by decide, by decide⟩, by simp⟩
    · refine ⟨⟨by decide, by decide, by decide, by decide, by decide⟩, ?_⟩
      intro a ha
      simp only [List.mem_singleton] at ha
      subst ha
      exact ⟨⟨by decide, by decide, by decide, by decide⟩, by decide⟩
  nocolon := by decide
  leaf := by simp [declTExample, Leaf.Ok]; decide
  params := by decide

/-- `_ZN2ns6CallerIXadL_Z3barvEEEC1Ev` ↦ `ns::Caller::Caller` -/
example : demangle Fixes.all (mangleT declTExample).toArray =
    .str [110, 115, 58, 58, 67, 97, 108, 108, 101, 114, 58, 58, 67, 97, 108, 108, 101, 114] :=
  c13_mangle_demangle_templates_partial declTExample declTExample_ok

end Uft.Demangle

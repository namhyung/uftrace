import Uft.Model.Argbuf
import Uft.Lemmas.Argbuf
import Uft.Model.MemRegion
import Uft.Lemmas.MemRegion
/-
C09 — Captured arguments and return values are the values actually passed.

Model: `Uft/Model/Argbuf.lean` (writer save_to_argbuf / record_ret_stack, the x86-64
fetchers, the readers read_task_args and get_argspec_string), tied to the code by the
H1 run (real libmcount, byte-exact slice and record comparison) and the H3 run
(model payloads read back by `uftrace replay`).

`Fix.none` is today's code, `Fix.all` the repaired code:
  F6  NULL strings are stored as the characters "NULL" (readers test for 0xffffffff)
  S1  values are stored before the total size is checked: writes beyond the 1024-byte slice
-/
namespace Uft.C09
open Uft.Argbuf Uft.Gen.Layout

/-! ### parse ∘ pack -/


/-- Whatever the specs and the values (any mix of integers of every size, characters, floats
    as bit patterns, strings of any length incl. NULL / unreadable pointers, structs) and
    whatever was in the buffer before: when the writer accepts the data, the framing reader
    consumes exactly the payload plus its padding to 8 bytes (the cursor lands on the next
    record) and the value reader sees exactly the observable part of every value. -/
theorem c09_parse_pack (fx : Fix) (specs : List Spec) (vals : List Val) (m0 : Mem)
    (payload rest : List Byte)
    (hlen : vals.length = specs.length) (hwf : ∀ sp ∈ specs, WF sp) (hv : ∀ v ∈ vals, ValOk v)
    (h : packArgs fx specs vals m0 = .ok payload) :
    readArgs specs (payload ++ padTo8 payload.length ++ rest) = some (payload, rest) ∧
    decodeVals specs payload = (specs.zip vals).map (fun p => obs fx p.1 p.2) :=
  parse_pack fx specs vals m0 payload rest hlen hwf hv h

example : ∃ p, packArgs Fix.all [⟨1, .sint, 4, 0, 0, []⟩, ⟨2, .str, 8, 0, 0, []⟩] [.word 7, .str [104, 105]]
    ⟨fun _ => 0xa5, 0⟩ = .ok p := ⟨_, rfl⟩


/-! ### framing of a stream of records -/


/-- Decoding the concatenation of any number of records — with or without payload, payloads of
    any size and alignment, data dropped because it was too big — gives back exactly the
    records, in order, each with exactly its own argument data: a payload never desynchronises
    the records that follow it. -/
theorem c09_framing_preserved (fx : Fix) (specOf : Nat → List Spec) (cs : List Call)
    (hok : ∀ c ∈ cs, CallOk specOf c) :
    decodeAll specOf (cs.flatMap (Call.bytes fx)).length (cs.flatMap (Call.bytes fx))
      = some (cs.map (Call.toRec fx)) :=
  decodeAll_calls fx specOf cs _ hok (flatMap_length_ge fx cs)


example : CallOk (fun _ => [⟨1, .str, 8, 0, 0, []⟩]) ⟨100, 0, 3, 0x401000, [⟨1, .str, 8, 0, 0, []⟩], [.null], ⟨fun _ => 0, 0⟩⟩ := by
  refine ⟨by decide, by decide, by decide, by decide, rfl, rfl, ?_, ?_⟩
  · intro sp hsp; simp at hsp; subst hsp; exact ⟨by decide, by decide⟩
  · intro v hv; simp at hv; subst hv; intro s hs; cases hs


/-! ### bounds of the per-frame slice (finding S1) -/


/-- The repaired writer never stores a byte outside the frame's 1024-byte slice, for any specs,
    values and prior buffer contents: `packArgs` never reports `oob`. -/
theorem c09_pack_in_bounds (fx : Fix) (hb : fx.bounds = true) (specs : List Spec) (vals : List Val) (m0 : Mem)
    (hp : ∀ p ∈ specs.zip vals, Sized p.1 p.2 ∧ ValOk p.2) :
    (packRun fx specs vals (St.init m0)).mem.hi ≤ SLICE ∧ packArgs fx specs vals m0 ≠ .error .oob := by
  have h := packRun_hi fx hb specs vals (St.init m0) hp (by simp [St.init, SLICE])
  refine ⟨h, ?_⟩
  unfold packArgs
  simp only
  rw [if_neg (by omega)]
  split <;> simp


example : Sized ⟨1, .str, 8, 0, 0, []⟩ (.str [65]) ∧ ValOk (.str [65]) := by
  refine ⟨⟨by decide, by decide⟩, ?_⟩
  intro s hs; cases hs; intro b hb; simp at hb; subst hb; decide


/-- Today's writer (finding S1): with 1000 bytes already stored, an 18-byte string is accepted
    (total 1020 ≤ 1020, the record gets the payload) although its terminator was stored at
    offset 1024, the first byte of the next frame's slice (for the deepest frame: one byte
    past the heap block).  A 20-byte string reaches offset 1025 before the size check rejects it. -/
theorem c09_prefix_oob_witness :
    (packRun Fix.none [⟨1, .strct, 1000, 0, 0, []⟩, ⟨2, .str, 8, 0, 0, []⟩] [.blob [], .str w18]
      (St.init ⟨fun _ => 0, 0⟩)).mem.hi = 1025 ∧
    (packRun Fix.none [⟨1, .strct, 1000, 0, 0, []⟩, ⟨2, .str, 8, 0, 0, []⟩] [.blob [], .str w18]
      (St.init ⟨fun _ => 0, 0⟩)).total = 1020 ∧
    (packRun Fix.none [⟨1, .strct, 1000, 0, 0, []⟩, ⟨2, .str, 8, 0, 0, []⟩] [.blob [], .str (w18 ++ [66, 66])]
      (St.init ⟨fun _ => 0, 0⟩)).mem.hi = 1026 := by
  refine ⟨by decide, by decide, by decide⟩


/-! ### too big -/


/-- Data that does not fit is dropped cleanly: the record is the bare 16-byte header with the
    `more` bit clear (so the reader does not look for a payload and the next record is decoded
    correctly, see `c09_framing_preserved`); and `tooBig` is only ever reported when no byte
    outside the slice was written while finding that out (the other outcome, `oob`, exists for
    today's writer only: `c09_prefix_oob_witness`, `c09_pack_in_bounds`). -/
theorem c09_too_big_is_clean (fx : Fix) (c : Call) :
    (accepted fx c.chosen c.vals c.m0 = none →
      c.bytes fx = hdrBytes c.time c.type false c.depth c.addr ∧ (c.bytes fx).length = 16) ∧
    (packArgs fx c.chosen c.vals c.m0 = .error .tooBig →
      accepted fx c.chosen c.vals c.m0 = none ∧ (packRun fx c.chosen c.vals (St.init c.m0)).mem.hi ≤ SLICE) := by
  constructor
  · intro h
    have hp : c.payload fx = none := h
    refine ⟨?_, ?_⟩
    · unfold Call.bytes recordBytes; rw [hp]
    · unfold Call.bytes recordBytes hdrBytes; rw [hp]; simp
  · intro h
    unfold packArgs at h
    unfold accepted
    simp only at h ⊢
    split at h
    · cases h
    · split at h
      · rename_i h1 h2
        exact ⟨by rw [if_pos h2], by omega⟩
      · cases h

example : packArgs Fix.all [⟨1, .strct, 2000, 0, 0, []⟩] [.blob []] ⟨fun _ => 0, 0⟩ = .error .tooBig := rfl


/-! ### strings -/


/-- Strings, for every prior buffer content and either writer: the empty string comes back
    empty, a string of up to 97 bytes comes back unchanged — every byte value, also ≥ 0x80 —
    and a longer one as its first 95 bytes followed by "...". -/
theorem c09_string_cases (fx : Fix) (sp : Spec) (hsp : sp.isStr = true) (hwf : WF sp) (s : List Byte)
    (hs : NoNul s) (m0 : Mem) :
    ∃ p, packArgs fx [sp] [.str s] m0 = .ok p ∧
      (s.length ≤ 97 → decodeVals [sp] p = [.str s]) ∧
      (98 ≤ s.length → decodeVals [sp] p = [.str (s.take 95 ++ [46, 46, 46])]) := by
  have hv : ValOk (.str s) := by intro t ht; cases ht; exact hs
  obtain ⟨p, hp, hd⟩ := single_roundtrip fx sp (.str s) m0 hwf hv (isStr_not_strct hsp) (fun h => by rw [hsp] at h; cases h)
  rw [obs_str fx sp _ hsp] at hd
  simp only [strBody, Val.src, strObs] at hd
  refine ⟨p, hp, fun hl => ?_, fun hl => ?_⟩
  · rw [hd, if_pos (by omega)]
  · rw [hd, if_neg (by omega)]
    rfl


example : NoNul [104, 195, 169] := by intro b hb; simp at hb; rcases hb with rfl | rfl | rfl <;> decide


/-! ### NULL (finding F6) -/


/-- With the repaired writer a NULL string argument is rendered differently from every real
    string (other than the four bytes ff ff ff ff, which are the on-disk marker itself):
    NULL is shown as `NULL`, strings in quotes. -/
theorem c09_null_distinguishable (fx : Fix) (hf : fx.nullMarker = true) (sp : Spec) (hsp : sp.isStr = true)
    (hwf : WF sp) (s : List Byte) (hs : NoNul s) (hne : s ≠ [255, 255, 255, 255]) (m0 m1 : Mem) :
    ∃ p q, packArgs fx [sp] [.null] m0 = .ok p ∧ packArgs fx [sp] [.str s] m1 = .ok q ∧
      renderAll false [sp] (decodeVals [sp] p) ≠ renderAll false [sp] (decodeVals [sp] q) := by
  have hv : ValOk (.str s) := by intro t ht; cases ht; exact hs
  have hvn : ValOk .null := by intro t ht; cases ht
  have hns : sp.isStr = false → sp.size ≤ 32 := fun h => by rw [hsp] at h; cases h
  obtain ⟨p, hp, hdp⟩ := single_roundtrip fx sp .null m0 hwf hvn (isStr_not_strct hsp) hns
  obtain ⟨q, hq, hdq⟩ := single_roundtrip fx sp (.str s) m1 hwf hv (isStr_not_strct hsp) hns
  refine ⟨p, q, hp, hq, ?_⟩
  rw [hdp, hdq]
  simp only [obs_str fx sp _ hsp, renderAll, List.zip_cons_cons, List.zip_nil_right, List.map_cons, List.map_nil,
    Bool.false_eq_true, if_false, intercalate]
  have hnb : strBody fx .null = [255, 255, 255, 255] := by
    simp [strBody, Val.src, nullBytes, hf]
  have hsb : strBody fx (.str s) ≠ [255, 255, 255, 255] := by
    simp only [strBody, Val.src, strObs]
    split
    · exact hne
    · intro h
      have := congrArg List.length h
      simp at this
      omega
  rw [hnb]
  generalize strBody fx (.str s) = b at hsb
  unfold renderVal
  simp only [if_true]
  rw [if_neg hsb]
  -- NULL starts with 'N', a string with '"'
  intro h
  have h0 := congrArg (fun l => l.headD 0) h
  by_cases hS : sp.fmt = .stdstr
  · simp only [hS, if_true] at h0
    split at h0 <;> simp at h0
  · simp only [hS, if_false] at h0
    split at h0 <;> simp at h0


/-- Today's writer (finding F6): `f(NULL)` and `f("NULL")` are stored and rendered identically. -/
theorem c09_prefix_null_witness :
    obs Fix.none ⟨1, .str, 8, 0, 0, []⟩ .null = obs Fix.none ⟨1, .str, 8, 0, 0, []⟩ (.str [78, 85, 76, 76]) ∧
    renderVal ⟨1, .str, 8, 0, 0, []⟩ (obs Fix.none ⟨1, .str, 8, 0, 0, []⟩ .null) = [34, 78, 85, 76, 76, 34] := by
  refine ⟨by decide, by decide⟩


/-! ### from the register to the reader -/

/-- An integer argument passed in a register (arg1 … arg6 = rdi, rsi, rdx, rcx, r8, r9), of any
    size 1..8 and any integer / pointer / float-bits format, goes through the fetcher, the packer
    and both readers as exactly the low `size` bytes of the register: the value shown is the value
    passed (whatever is in the other registers, on the stack and in the buffer). -/
theorem c09_int_arg_captured (fx : Fix) (m : Machine) (sp : Spec) (m0 : Mem)
    (hty : sp.ty = 0) (hidx : 1 ≤ sp.idx ∧ sp.idx ≤ 6)
    (hfmt : sp.isStr = false ∧ sp.fmt ≠ .strct ∧ sp.fmt ≠ .chr) (hsz : 1 ≤ sp.size ∧ sp.size ≤ 8) :
    ∃ p, captured fx m false [sp] m0 = .ok p ∧
      decodeVals [sp] p = [.int (m.regs.getD (sp.idx - 1) 0 % 256 ^ sp.size)] := by
  obtain ⟨hns, hst, hchr⟩ := hfmt
  have hf : ¬ sp.fmt = .str ∧ ¬ sp.fmt = .stdstr := by simpa [Spec.isStr] using hns
  have hreg : getRegArg m 0 sp.ty sp.idx sp.loc sp.size = (m.regs.getD (sp.idx - 1) 0 % 256 ^ 8, true) := by
    unfold getRegArg
    rw [hty]
    simp [hidx.1, hidx.2, setLow_zero]
  have hfetch : fetchAll fx m false [sp] 0 = [.word (m.regs.getD (sp.idx - 1) 0 % 256 ^ 8)] := by
    simp [fetchAll, fetch, hst, hreg, hf.1, hf.2]
  unfold captured
  rw [sel_single_arg sp hidx.1, hfetch]
  have hwf : WF sp := ⟨fun h => by rw [hns] at h; exact absurd h (by decide), fun h => absurd h hchr⟩
  obtain ⟨p, hp, hd⟩ := single_roundtrip fx sp (.word (m.regs.getD (sp.idx - 1) 0 % 256 ^ 8)) m0 hwf
    (fun s hs => by cases hs) hst (fun _ => by omega)
  refine ⟨p, hp, ?_⟩
  rw [hd]
  simp only [obs, hns, Bool.false_eq_true, if_false, if_neg hchr, if_neg hst, Val.asWord]
  congr 2
  exact Nat.mod_mod_of_dvd _ (Nat.pow_dvd_pow 256 hsz.2)

example : (⟨3, .hex, 4, 0, 0, []⟩ : Spec).ty = 0 ∧ (⟨3, .hex, 4, 0, 0, []⟩ : Spec).isStr = false := by decide

/-! ### the writer's and the reader's spec list (option sources)

The writer (libmcount) builds a function's list from UFTRACE_TRIGGER, then UFTRACE_ARGUMENT, then
UFTRACE_RETVAL; the readers (replay, dump, script) build it from the `argspec:` / `retspec:` lines that
`extract_trigger_args` stored in the info file.  A payload is laid out by one list and decoded by the
other.  `T`, `A`, `R` are arbitrary sequences of option items (any number of -T / -A / -R options, any
patterns — plain names, regex, glob, overlapping —, duplicate and non-increasing indices, items without
specs that fall back to the auto-args table / DWARF `auto`), `f` any function.
`xf` selects the repaired info transformation (findings C09-TRIGRET, C09-TRIGAUTO, C09-OLDFMT). -/

/-- For every sequence of option items: when the old-format pass of setup_fstack_args does not run, the
    reader's list and the writer's list of every function have the same argument entries and the same
    return-value entries — same order, same format / size / location, same `exact` marks — hence the
    same payload layout. -/
theorem c09_spec_lists_agree (auto : Nat → Bool → List Spec) (hauto : AutoOk auto) (xf : XFix)
    (hxa : xf.auto = true) (hxr : xf.ret = true) (T A R : List Item)
    (hT : ItemsOk T) (hA : ItemsOk A) (hR : ItemsOk R) (f : Nat)
    (hold : oldPass xf (infoArgs xf T A) (infoRets xf T R) = false) (b : Bool) :
    part b (readerList auto xf T A R f) = part b (writerList auto T A R f) ∧
    layout b (readerList auto xf T A R f) = layout b (writerList auto T A R f) :=
  lists_agree auto hauto xf hxa b (fun _ => hxr) T A R hT hA hR f (fun _ => hold)

example : AutoOk (fun f b => if f = 1 ∧ b = false then [⟨1, .str, 8, 0, 0, []⟩] else []) := by
  intro f b sp h
  simp only at h
  split at h
  · rename_i hc
    simp at h; subst h
    exact ⟨by rw [hc.2]; rfl, fun hr => rfl⟩
  · cases h

example : ItemsOk [{ fns := [1, 2], exact := false, specs := [⟨2, .sint, 4, 0, 0, []⟩, ⟨0, .str, 8, 0, 0, []⟩] }] ∧
    oldPass XFix.all (infoArgs XFix.all [{ fns := [1, 2], exact := false, specs := [⟨2, .sint, 4, 0, 0, []⟩, ⟨0, .str, 8, 0, 0, []⟩] }]
        [{ fns := [1], exact := true, specs := [⟨1, .hex, 8, 0, 0, []⟩] }])
      (infoRets XFix.all [{ fns := [1, 2], exact := false, specs := [⟨2, .sint, 4, 0, 0, []⟩, ⟨0, .str, 8, 0, 0, []⟩] }] []) = false := by
  refine ⟨?_, by decide⟩
  intro it hit sp hsp
  simp at hit; subst hit
  simp at hsp
  rcases hsp with rfl | rfl <;> intro _ <;> rfl

/-- Arguments never depend on how return values were asked for: with `auto-args` stored as the writer
    uses it, the argument entries (hence the layout of every ENTRY payload) agree for every sequence of
    option items — whether or not the old-format pass runs, with or without the other two repairs. -/
theorem c09_spec_lists_agree_args (auto : Nat → Bool → List Spec) (hauto : AutoOk auto) (xf : XFix)
    (hxa : xf.auto = true) (T A R : List Item) (hT : ItemsOk T) (hA : ItemsOk A) (hR : ItemsOk R) (f : Nat) :
    part false (readerList auto xf T A R f) = part false (writerList auto T A R f) ∧
    layout false (readerList auto xf T A R f) = layout false (writerList auto T A R f) :=
  lists_agree auto hauto xf hxa false (fun h => nomatch h) T A R hT hA hR f (fun h => nomatch h)

/-- With all three repairs the old-format pass (kept for data recorded before `retspec:` existed) can only
    run when the info file has no `retspec:` line, and then the writer's list has no return-value entry:
    no EXIT record carries a payload that the extra entries of the reader could misread. -/
theorem c09_old_format_pass_harmless (auto : Nat → Bool → List Spec) (hauto : AutoOk auto) (xf : XFix)
    (hxa : xf.auto = true) (hxr : xf.ret = true) (hxc : xf.compat = true) (T A R : List Item)
    (hT : ItemsOk T) (hA : ItemsOk A) (hR : ItemsOk R) (f : Nat)
    (hold : oldPass xf (infoArgs xf T A) (infoRets xf T R) = true) :
    layout true (writerList auto T A R f) = [] := by
  unfold oldPass at hold
  rw [hxc] at hold
  simp only [Bool.true_and, Bool.and_eq_true, Bool.not_eq_true', Bool.not_eq_false'] at hold
  have hrs : infoRets xf T R = [] := List.isEmpty_iff.mp hold.2
  rw [layout_eq_part]
  unfold writerList
  rw [part_build true _ (writerAdds_ok auto hauto T A R hT hA hR f),
    writerAdds_class auto hauto xf hxa true (fun _ => hxr)]
  show (build (addsOf auto .ret (infoRets xf T R) f)).map (·.sp) = []
  rw [hrs]
  rfl

example : oldPass XFix.all (infoArgs XFix.all [] [{ fns := [1], exact := true, specs := [⟨1, .auto, 8, 0, 0, []⟩, ⟨0, .str, 8, 0, 0, []⟩] }])
    (infoRets XFix.all [] []) = true := by decide

/-- C09-TRIGRET, the code as it is: `-T f@retval/s` is stored as `f@retval`.  The writer records the
    string (2-byte length + bytes), the reader decodes 8 bytes as an integer and — for a string longer
    than 6 bytes — resumes reading in the middle of the payload.  With the repair the lists agree. -/
theorem c09_prefix_trigger_retval_witness :
    layout true (writerList (fun _ _ => []) [{ fns := [1], exact := true, specs := [⟨0, .str, 8, 0, 0, []⟩] }] [] [] 1)
      = [⟨0, .str, 8, 0, 0, []⟩] ∧
    layout true (readerList (fun _ _ => []) XFix.none [{ fns := [1], exact := true, specs := [⟨0, .str, 8, 0, 0, []⟩] }] [] [] 1)
      = [⟨0, .auto, 8, 0, 0, []⟩] ∧
    layout true (readerList (fun _ _ => []) XFix.all [{ fns := [1], exact := true, specs := [⟨0, .str, 8, 0, 0, []⟩] }] [] [] 1)
      = [⟨0, .str, 8, 0, 0, []⟩] := by
  refine ⟨by decide, by decide, by decide⟩

/-- C09-TRIGAUTO, the code as it is: `-T f@arg1/x64,auto-args` for a function the auto-args table knows
    (here as `f(p, u, s)`).  The writer ignores `auto-args` next to an explicit spec and records one
    8-byte value; the info file gets `f@arg1/x64;f`, and the reader decodes pointer, integer, string. -/
theorem c09_prefix_trigger_auto_witness :
    let auto : Nat → Bool → List Spec := fun f b =>
      if f = 1 ∧ b = false then [⟨1, .ptr, 8, 0, 0, []⟩, ⟨2, .uint, 8, 0, 0, []⟩, ⟨3, .str, 8, 0, 0, []⟩] else []
    let T : List Item := [{ fns := [1], exact := true, specs := [⟨1, .hex, 8, 0, 0, []⟩], autoArgs := true }]
    layout false (writerList auto T [] [] 1) = [⟨1, .hex, 8, 0, 0, []⟩] ∧
    layout false (readerList auto XFix.none T [] [] 1)
      = [⟨1, .ptr, 8, 0, 0, []⟩, ⟨2, .uint, 8, 0, 0, []⟩, ⟨3, .str, 8, 0, 0, []⟩] ∧
    layout false (readerList auto XFix.all T [] [] 1) = [⟨1, .hex, 8, 0, 0, []⟩] := by
  refine ⟨by decide, by decide, by decide⟩

/-- C09-OLDFMT, the code as it is: `-A f@arg1,retval/s -R f@retval/i32`.  -A does not accept a retval
    action, so the writer records a 4-byte integer; the reader's old-format pass finds "retval" in the
    argspec line, applies that line once more as a return-value string and overrides the -R spec. -/
theorem c09_prefix_oldfmt_witness :
    let A : List Item := [{ fns := [1], exact := true, specs := [⟨1, .auto, 8, 0, 0, []⟩, ⟨0, .str, 8, 0, 0, []⟩] }]
    let R : List Item := [{ fns := [1], exact := true, specs := [⟨0, .sint, 4, 0, 0, []⟩] }]
    layout true (writerList (fun _ _ => []) [] A R 1) = [⟨0, .sint, 4, 0, 0, []⟩] ∧
    layout true (readerList (fun _ _ => []) XFix.none [] A R 1) = [⟨0, .str, 8, 0, 0, []⟩] ∧
    layout true (readerList (fun _ _ => []) XFix.all [] A R 1) = [⟨0, .sint, 4, 0, 0, []⟩] := by
  refine ⟨by decide, by decide, by decide⟩

/-- What the order of the sources means (and why an info file that lists -A before the trigger specs
    breaks the layout): `-T f@arg2/i32 -A f@arg3/x64` — the writer's list is [arg2, arg3]; a reader that
    applied -A first would get [arg3, arg2]. -/
theorem c09_source_order_matters :
    let T : List Item := [{ fns := [1], exact := true, specs := [⟨2, .sint, 4, 0, 0, []⟩] }]
    let A : List Item := [{ fns := [1], exact := true, specs := [⟨3, .hex, 8, 0, 0, []⟩] }]
    layout false (writerList (fun _ _ => []) T A [] 1) = [⟨2, .sint, 4, 0, 0, []⟩, ⟨3, .hex, 8, 0, 0, []⟩] ∧
    layout false (readerList (fun _ _ => []) XFix.all T A [] 1) = [⟨2, .sint, 4, 0, 0, []⟩, ⟨3, .hex, 8, 0, 0, []⟩] ∧
    layout false (build (addsOf (fun _ _ => []) .arg (A ++ extractArgs XFix.all T) 1))
      = [⟨3, .hex, 8, 0, 0, []⟩, ⟨2, .sint, 4, 0, 0, []⟩] := by
  refine ⟨by decide, by decide, by decide⟩

/-! ### `uftrace dump` prints the number that was recorded (finding C09-DUMPF80) -/

/-- Repaired raw dump: for every integer / character / floating-point spec of any size — a 10-byte
    `long double` included — the number printed is the `size` recorded bytes (the same number replay decodes,
    `decodeVals`), for a value packed by the writer exactly the value's low `size` bytes, and nothing is
    stored beyond the 8-byte temporary. -/
theorem c09_dump_raw_exact (sp : Spec) (hs : sp.isStr = false) (hc : sp.fmt ≠ .chr) (ht : sp.fmt ≠ .strct)
    (v : Nat) (rest : List Byte) :
    (dumpRaw true sp.size (leBytes (align4 sp.size) v ++ rest)).1 = v % 256 ^ sp.size ∧
    decodeVals [sp] (leBytes (align4 sp.size) v ++ rest) = [.int (dumpRaw true sp.size (leBytes (align4 sp.size) v ++ rest)).1] ∧
    (dumpRaw true sp.size (leBytes (align4 sp.size) v ++ rest)).2 ≤ 8 := by
  obtain ⟨h1, h2⟩ := dumpRaw_fixed sp.size (leBytes (align4 sp.size) v ++ rest)
  refine ⟨by rw [h1, ofLe_take_leBytes (le_align4 _)], ?_, h2⟩
  rw [h1]
  simp [decodeVals, hs, hc, ht]

example : (⟨1, .flt, 10, 1, 0, []⟩ : Spec).isStr = false ∧ (⟨1, .flt, 10, 1, 0, []⟩ : Spec).fmt ≠ .chr := by decide

/-- C09-DUMPF80, the code as it is: a `long double` argument 1.25L (0x3fff a000000000000000) is printed as
    0x0000a000000000000000 — sign and exponent are gone — and memcpy stores 10 bytes into the 8-byte `val`. -/
theorem c09_prefix_dump_f80_witness :
    dumpRaw false 10 (leBytes 12 0x3fffa000000000000000) = (0xa000000000000000, 10) ∧
    dumpRaw true 10 (leBytes 12 0x3fffa000000000000000) = (0x3fffa000000000000000, 0) := by
  refine ⟨by decide, by decide⟩

/-! ### the agent's deep copy of the trigger tree -/

/-- deep_copy_filter keeps every spec list as it is — same entries, same order — so the payload layout the
    writer uses after an agent update (`uftrace live -p PID …`) is the layout before the update, the one the
    info file describes (c09_spec_lists_agree).  Tie: driver op DCOPY (real uftrace_deep_copy_triggers on the
    tree built by libmcount from every generated option set) + the agent e2e family. -/
theorem c09_deep_copy_preserves_spec_order (l : List LSpec) (isRet : Bool) :
    copyArgs l = l ∧ layout isRet (copyArgs l) = layout isRet l := by
  have h : copyArgs l = l := by
    unfold copyArgs copyArgsG
    simp only [↓reduceIte]
    rw [copyArgs_tail_aux l [], List.nil_append]
  rw [h]; exact ⟨rfl, rfl⟩

/-- … for every filter of the tree: the copied tree is the same tree, a lookup finds the same list -/
theorem c09_deep_copy_tree (t : FTree) : copyTree t = t ∧ ∀ addr, (copyTree t).find addr = t.find addr := by
  have h : copyTree t = t := by
    induction t with
    | leaf => rfl
    | node l s e a r ihl ihr => simp [copyTree, ihl, ihr, (c09_deep_copy_preserves_spec_order a false).1]
  rw [h]; exact ⟨rfl, fun _ => rfl⟩

/-- why the order is the property: linking the copies at the head (`list_add`) gives a different layout as soon
    as a function has two values of different sizes — a 4-byte integer followed by a string -/
theorem c09_deep_copy_order_matters :
    let l : List LSpec := [⟨⟨1, .sint, 4, 0, 0, []⟩, true⟩, ⟨⟨2, .str, 0, 0, 0, []⟩, true⟩]
    copyArgsG false l = l.reverse ∧ layout false (copyArgsG false l) ≠ layout false l := by
  refine ⟨by decide, by decide⟩

/-! ### unreadable pointers -/

/-- A non-NULL string pointer whose first byte lies in no mapped readable region `[start, end)` —
    in particular a pointer equal to the end address of a mapping — is classified as an address
    (`<0x…>` text) whatever the contents of memory: the writer never dereferences it. -/
theorem c09_unreadable_never_read (m : Machine) (p : Nat) (strs : List (Nat × List Byte))
    (hp : p ≠ 0) (hr : m.regions ≠ [])
    (hout : ∀ r ∈ m.regions, ¬ (r.1 ≤ p ∧ p < r.2)) :
    strVal { m with strs := strs } p = .bad p := by
  have hm : mapped { m with strs := strs } p = false := by
    unfold mapped
    simp only [Bool.or_eq_false_iff]
    refine ⟨by simpa using hr, ?_⟩
    rw [List.any_eq_false]
    intro r hrm
    have := hout r hrm
    simp only [Bool.and_eq_true, decide_eq_true_eq]
    exact this
  unfold strVal
  rw [if_neg hp, if_pos hm]

example : (⟨0x1000, 0x2000⟩ : Nat × Nat).1 ≤ 0x1fff ∧ ¬ ((⟨0x1000, 0x2000⟩ : Nat × Nat).1 ≤ 0x2000 ∧ 0x2000 < (⟨0x1000, 0x2000⟩ : Nat × Nat).2) := by decide

/-! ### unreadable pointers: check_mem_region, its cache and the loads of the copy loop
    (findings C09-PAGECROSS, C09-STALE, C09-S3; model `Uft/Model/MemRegion.lean`)

`c09_unreadable_never_read` above is the *specification* of the verdict.  The theorems below are about
the decision procedure itself, against an address space that may become any other address space
between two traced calls (`Ev.space`: mmap, munmap, mprotect, brk, free(), other threads).
`fixed = true` is the repaired design of proposed_fixes/C09-MEMPROBE.diff (the kernel is asked about
the page, at the first byte and at every page boundary the copy reaches; nothing is cached),
`fixed = false` the code as it is (a cache of /proc/self/maps lines that is never invalidated, heap end
rounded up to 128 MB, stack start rounded down by 8 MB, first byte only). -/

section MemRegion
open Uft.MemRegion

/-- Repaired design, one call: once the check has passed, every address the copy loop loads
    (`&str[i]`, up to 99 of them) lies in a page that is readable *now* — for every address space
    with page-granular mappings, every pointer, every memory contents and every amount of room left in
    the slice; the same for the 16 bytes of a std::string object and the string it points to.  Hence
    the call does not fault. -/
theorem c09_copy_reads_only_mapped (sp : Space) (hal : Aligned sp) (c : Cache) (get : Nat → MByte) (p room : Nat) :
    ((check true c sp p).1 = true → ∀ a ∈ loopReads true sp get p room, readable sp a = true) ∧
    isFault (strCall true c sp get p room).1 = false ∧
    isFault (objCall true c sp get p room).1 = false :=
  ⟨fun h => strCall_fixed_reads hal get p room (by simpa [check] using h),
   (strCall_fixed_no_fault hal c get p room).1, (objCall_fixed_no_fault hal c get p room).1⟩

example : Aligned [{ start := 0x1000, stop := 0x2000 }] ∧
    (check true {} [{ start := 0x1000, stop := 0x2000 }] 0x1ffd).1 = true := by decide

/-- Repaired design, whole histories: whatever the thread's cache contained, however the address space
    and the memory contents change between the calls and whatever pointers the calls pass, no traced
    call ends in a fault. -/
theorem c09_never_faults (c : Cache) (sp : Space) (get : Nat → MByte) (evs : List Ev)
    (hal : AlignedHist sp evs) : ∀ o ∈ run true c sp get evs, isFault o = false := by
  induction evs generalizing sp get with
  | nil => intro o ho; simp [run] at ho
  | cons e r ih =>
    intro o ho
    cases e with
    | space sp' get' =>
      simp only [run] at ho
      exact ih sp' get' hal.2 o ho
    | str p room =>
      have hs := strCall_fixed_no_fault (AlignedHist.aligned _ sp hal) c get p room
      simp only [run, hs.1, hs.2, Bool.false_eq_true, if_false, List.mem_cons] at ho
      rcases ho with rfl | ho
      · exact hs.1
      · exact ih sp get hal o ho
    | obj b room =>
      have hs := objCall_fixed_no_fault (AlignedHist.aligned _ sp hal) c get b room
      simp only [run, hs.1, hs.2, Bool.false_eq_true, if_false, List.mem_cons] at ho
      rcases ho with rfl | ho
      · exact hs.1
      · exact ih sp get hal o ho

example : AlignedHist [{ start := 0x10000, stop := 0x20000 }]
    [.str 0x18000 1020, .space [] (fun _ => 0), .str 0x18000 1020] := by
  refine ⟨by decide, ?_⟩
  show Aligned []
  decide

/-- Repaired design: a non-NULL pointer whose first byte cannot be read now is shown as an address and
    nothing is loaded through it — for every cache state, i.e. after every history. -/
theorem c09_unreadable_shown_as_address (sp : Space) (hal : Aligned sp) (c : Cache) (get : Nat → MByte)
    (p room : Nat) (hp : p ≠ 0) (hr : readable sp p = false) :
    strCall true c sp get p room = (.bad p, c) := by
  unfold strCall check
  rw [if_neg hp]
  simp only [if_true]
  rw [if_pos (by rw [probe_eq_readable hal]; exact hr)]

example : readable [{ start := 0x1000, stop := 0x2000 }] 0x2000 = false := by decide

/-- Repaired design: the value shown is the value passed.  A NUL-terminated string of up to 98 bytes that
    can be read is captured as exactly its bytes; of a longer one exactly the first 99 bytes are loaded
    (the packer keeps 95 and appends "..."); a string that runs into a page that cannot be read is
    captured up to the end of the last readable page and nothing beyond it is loaded. -/
theorem c09_readable_string_captured (sp : Space) (hal : Aligned sp) (c : Cache) (get : Nat → MByte)
    (p room : Nat) (hp : p ≠ 0) :
    (∀ n, n ≤ STR_MAX → n < room → (∀ j, j ≤ n → readable sp (p + j) = true) →
        (∀ j, j < n → get (p + j) ≠ 0) → get (p + n) = 0 →
        strCall true c sp get p room = (.str (bytesAt get p n), c)) ∧
    (STR_MAX < room → (∀ j, j ≤ STR_MAX → readable sp (p + j) = true) → (∀ j, j ≤ STR_MAX → get (p + j) ≠ 0) →
        strCall true c sp get p room = (.str (bytesAt get p (STR_MAX + 1)), c) ∧
        loopReads true sp get p room = List.range' p (STR_MAX + 1)) ∧
    (∀ n, 0 < n → n ≤ STR_MAX → n < room → (∀ j, j < n → readable sp (p + j) = true) →
        (∀ j, j < n → get (p + j) ≠ 0) → (p + n) % PAGE = 0 → readable sp (p + n) = false →
        strCall true c sp get p room = (.str (bytesAt get p n), c) ∧
        loopReads true sp get p room = List.range' p n) := by
  -- in each case the first n bytes are loaded and copied (`strCall_fixed_prefix`), then the iteration at n is evaluated:
  -- it loads a NUL; it is the one at ARG_STR_MAX; it stops before its load
  refine ⟨fun n hn hroom hr hnz hz => ?_, fun hroom hr hnz => ?_, fun n hn0 hn hroom hr hnz hpg hun => ?_⟩
  · obtain ⟨f, -, h⟩ := strCall_fixed_prefix hal c get p room n hp (hr 0 (Nat.zero_le _)) hn (Nat.le_of_lt hroom)
      (fun j hj => hr j (Nat.le_of_lt hj)) hnz
    rw [h, loopFrom, if_pos hroom,
      if_neg (fun h => by rw [probe_eq_readable hal, hr n (Nat.le_refl _)] at h; exact absurd h.2.2.2 (by decide)),
      if_pos (Or.inr hz)]
    simp [copied, hz]
  · obtain ⟨f, h1, h2⟩ := strCall_fixed_prefix hal c get p room STR_MAX hp (hr 0 (Nat.zero_le _)) (Nat.le_refl _)
      (Nat.le_of_lt hroom) (fun j hj => hr j (Nat.le_of_lt hj)) (fun j hj => hnz j (Nat.le_of_lt hj))
    rw [loopFrom, if_pos hroom,
      if_neg (fun h => by rw [probe_eq_readable hal, hr _ (Nat.le_refl _)] at h; exact absurd h.2.2.2 (by decide)),
      if_pos (Or.inl rfl)] at h1 h2
    rw [h1, h2]
    simp [copied, hnz, bytesAt, List.range'_concat]
  · obtain ⟨f, h1, h2⟩ := strCall_fixed_prefix hal c get p room n hp (hr 0 hn0) hn (Nat.le_of_lt hroom) hr hnz
    rw [loopFrom, if_pos hroom, if_pos ⟨rfl, hn0, hpg, by rw [probe_eq_readable hal]; exact hun⟩] at h1 h2
    rw [h1, h2]
    simp [copied]

example : strCall true {} [{ start := 0x1000, stop := 0x2000 }] (Contents.get { fill := 65 }) 0x1ffd 1020
    = (.str [65, 65, 65], {}) := by decide

/-- The stack words of mcount_get_stack_arg / mcount_get_struct_arg (repaired: first and last byte are
    probed): every byte that is copied is readable. -/
theorem c09_stack_range_readable (sp : Space) (hal : Aligned sp) (c : Cache) (a n : Nat) (hn : n ≤ PAGE + 1) :
    ∀ rs, (rangeReads true c sp a n).1 = some rs → ∀ x ∈ rs, readable sp x = true := by
  intro rs h x hx
  unfold rangeReads check at h
  simp only [if_true] at h
  split at h
  · rename_i hok
    simp only [Bool.and_eq_true, Bool.or_eq_true, decide_eq_true_eq] at hok
    cases h
    simp only [List.mem_map, List.mem_range] at hx
    obtain ⟨j, hj, rfl⟩ := hx
    exact range_readable hal a n hn hok.1 hok.2 j hj
  · cases h

example : (rangeReads true {} [{ start := 0x1000, stop := 0x3000 }] 0x1ff8 16).1 ≠ none := by decide

/-- the values of `Uft.Argbuf.strVal` as outcomes -/
def ofVal : Val → Outcome
  | .null => .null
  | .bad a => .bad a
  | .str s => .str s
  | _ => .null

/-- the readable lines of an address space as the `regions` of an `Argbuf.Machine` -/
def regionsOf (sp : Space) : List (Nat × Nat) := (sp.filter (fun m => m.r)).map (fun m => (m.start, m.stop))

theorem mapped_regionsOf (m : Machine) (sp : Space) (hreg : m.regions = regionsOf sp) (hne : regionsOf sp ≠ [])
    (p : Nat) : mapped m p = readable sp p := by
  unfold mapped
  rw [hreg]
  rw [List.isEmpty_eq_false_iff.mpr hne, Bool.false_or]
  unfold regionsOf readable Mapping.has
  rw [List.any_map, List.any_filter]
  congr 1

/-- The repaired decision procedure computes the specified classification (`strVal`, the input of
    `c09_parse_pack` and of `c09_unreadable_never_read`): NULL, an unreadable pointer and a readable
    NUL-terminated string of up to 98 bytes are classified as the specification says, by looking at the
    address space as it is now. -/
theorem c09_repaired_check_meets_spec (m : Machine) (sp : Space) (hal : Aligned sp)
    (hreg : m.regions = regionsOf sp) (hne : regionsOf sp ≠ []) (c : Cache) (get : Nat → MByte) (p room : Nat) :
    (p = 0 → (strCall true c sp get p room).1 = ofVal (strVal m p)) ∧
    (p ≠ 0 → readable sp p = false → (strCall true c sp get p room).1 = ofVal (strVal m p)) ∧
    (∀ n, p ≠ 0 → n ≤ STR_MAX → n < room → (∀ j, j ≤ n → readable sp (p + j) = true) →
        (∀ j, j < n → get (p + j) ≠ 0) → get (p + n) = 0 → lookup m.strs p = some (bytesAt get p n) →
        (strCall true c sp get p room).1 = ofVal (strVal m p)) := by
  refine ⟨?_, ?_, ?_⟩
  · intro h; subst h; simp [strCall, strVal, ofVal]
  · intro hp hr
    rw [c09_unreadable_shown_as_address sp hal c get p room hp hr]
    unfold strVal
    rw [if_neg hp, if_pos (by rw [mapped_regionsOf m sp hreg hne]; exact hr)]
    rfl
  · intro n hp hn hroom hr hnz hz hl
    rw [(c09_readable_string_captured sp hal c get p room hp).1 n hn hroom hr hnz hz]
    unfold strVal
    have h0 := hr 0 (Nat.zero_le _)
    simp only [Nat.add_zero] at h0
    rw [if_neg hp, if_neg (by rw [mapped_regionsOf m sp hreg hne, h0]; decide), hl]
    rfl

example : regionsOf [{ start := 0x1000, stop := 0x2000 }] ≠ [] := by decide

/-! #### the code as it is: one witness per way to fault -/

/-- C09-PAGECROSS (only the first byte is checked).  One readable page `[0x1000, 0x2000)` full of 'A',
    nothing mapped behind it; the traced function receives a pointer to its last 3 bytes (a buffer that
    is not NUL-terminated).  Today's code loads `0x2000` and the traced program dies; the repaired code
    shows "AAA".  The same for a std::string object whose second word lies in the next page. -/
theorem c09_prefix_pagecross_witness :
    run false {} [{ start := 0x1000, stop := 0x2000 }] (Contents.get { fill := 65 }) [.str 0x1ffd 1020] = [.fault 0x2000] ∧
    run true {} [{ start := 0x1000, stop := 0x2000 }] (Contents.get { fill := 65 }) [.str 0x1ffd 1020] = [.str [65, 65, 65]] ∧
    run false {} [{ start := 0x1000, stop := 0x2000 }] (Contents.get { fill := 65 }) [.obj 0x1ff8 1020] = [.fault 0x2000] ∧
    run true {} [{ start := 0x1000, stop := 0x2000 }] (Contents.get { fill := 65 }) [.obj 0x1ff8 1020] = [.bad 0x1ff8] := by
  refine ⟨by decide, by decide, by decide, by decide⟩

/-- C09-STALE (the cache is never invalidated).  A mapping `[0x10000, 0x20000)` holds "first" at 0x18000;
    a first call captures it (the mapping enters the cache), the program unmaps the region — or makes
    it PROT_NONE — and a second call passes the now dangling pointer: today's code still finds it in the
    cache and loads from it; the repaired code shows the address. -/
theorem c09_prefix_stale_witness :
    let sp : Space := [{ start := 0x10000, stop := 0x20000 }, { start := 0x7ffff000, stop := 0x80000000, kind := .stack }]
    let mem : Contents := { chunks := [(0x18000, [102, 105, 114, 115, 116, 0])] }
    run false {} sp mem.get [.str 0x18000 1020, .space (munmap sp 0x10000 0x20000) mem.get, .str 0x18000 1020]
      = [.str [102, 105, 114, 115, 116], .fault 0x18000] ∧
    run true {} sp mem.get [.str 0x18000 1020, .space (munmap sp 0x10000 0x20000) mem.get, .str 0x18000 1020]
      = [.str [102, 105, 114, 115, 116], .bad 0x18000] ∧
    run false {} sp mem.get [.str 0x18000 1020, .space (mmap sp 0x18000 0x19000 false) mem.get, .str 0x18000 1020]
      = [.str [102, 105, 114, 115, 116], .fault 0x18000] ∧
    run true {} sp mem.get [.str 0x18000 1020, .space (mmap sp 0x18000 0x19000 false) mem.get, .str 0x18000 1020]
      = [.str [102, 105, 114, 115, 116], .bad 0x18000] := by
  refine ⟨by decide, by decide, by decide, by decide⟩

/-- C09-S3 (rounding).  `[heap]` is `[0x1000000, 0x1021000)`: every address up to 0x8000000 (the end
    rounded up to 128 MB) is accepted without a lookup, so a pointer 1 MB past the program break is
    loaded from; and with `[stack]` at `[0x7ffffffde000, 0x7ffffffff000)` every address down to
    0x7fffff800000 (the start rounded down by 8 MB) is accepted.  After brk() moved the break down the
    old range is still accepted. -/
theorem c09_prefix_s3_witness :
    let sp : Space := [{ start := 0x1000000, stop := 0x1021000, kind := .heap },
                       { start := 0x7ffffffde000, stop := 0x7ffffffff000, kind := .stack }]
    run false {} sp (fun _ => 65) [.str 0x1121000 1020] = [.fault 0x1121000] ∧
    run true {} sp (fun _ => 65) [.str 0x1121000 1020] = [.bad 0x1121000] ∧
    run false {} sp (fun _ => 65) [.str 0x7fffff900000 1020] = [.fault 0x7fffff900000] ∧
    run true {} sp (fun _ => 65) [.str 0x7fffff900000 1020] = [.bad 0x7fffff900000] ∧
    run false {} sp (fun _ => 0) [.str 0x1020ff0 1020, .space (setBrk sp 0x1010000) (fun _ => 0), .str 0x1020ff0 1020]
      = [.str [], .fault 0x1020ff0] := by
  refine ⟨by decide, by decide, by decide, by decide, by decide⟩

end MemRegion

end Uft.C09
